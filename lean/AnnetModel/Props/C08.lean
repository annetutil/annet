/-
C08 — Ordering follows the ordering rulebook and only permutes lines.

Model: `Model/Patch.lean` (`getOrder`, sort keys, `stableSort`, `sortTree`, `orderConfig`).
Python's `list.sort`/`sorted` are modelled by the stable insertion sort `stableSort`; the
correspondence check validates that on every generated patch and config.
-/
import AnnetModel.Lemmas.Sort
import AnnetModel.Lemmas.SortTree
import AnnetModel.Lemmas.Order
import AnnetModel.Lemmas.OrderConfig

/-! OBLIGATIONS
Annet.Patch.C08_sort_perm
Annet.Patch.C08_patch_paths_perm
Annet.Patch.C08_sorted_by_key
Annet.Patch.C08_stable_unmentioned
Annet.Patch.C08_independent_of_unrelated
Annet.Patch.C08_del_before_put
Annet.Patch.C08_patch_sort_idempotent
Annet.Patch.C08_order_config_perm
Annet.Patch.C08_order_config_idempotent
Annet.Patch.C08_keys_strict_weak
Annet.Patch.C08_rank_is_rule_index
Annet.Patch.C08_unmentioned_rank_zero
Annet.Patch.C08_earlier_rule_first_negated_mirrored
-/

namespace Annet.Patch
open Annet.Patch.Spec

/-- Sorting only permutes: nothing lost, nothing duplicated. -/
theorem C08_sort_perm {α : Type} (lt : α → α → Bool) (l : List α) : (stableSort lt l).Perm l :=
  Lemmas.sort_perm lt l

/-- … at every level of a patch: the multiset of command paths is unchanged, children stay in their block. -/
theorem C08_patch_paths_perm (t : PTree) : (ptPaths (sortTree t)).Perm (ptPaths t) :=
  Lemmas.sortTree_paths_perm t

/-- The sort keys of Python's tuple comparison form a strict weak order, for patches and for configs. -/
theorem C08_keys_strict_weak : StrictWeak SortKey.lt ∧ StrictWeak ocLt :=
  ⟨Lemmas.sortKey_strictWeak, Lemmas.ocLt_strictWeak⟩

/-- WHICH KEY A COMMAND GETS (`Orderer.get_order`), for ordering rulebooks without `%order_reverse` / `%scope` / `%global`
whose sibling rules have disjoint languages (the property's quantifier): a command matched — as written or in negated
form — by exactly one rule has that rule's index as its order, keeps the direct flag it came with, and its block is
ordered by that rule's child rules. -/
theorem C08_rank_is_rule_index (v : Rules.Vendor) (rb : List Rules.ORule) (row : String) (cmdDirect : Bool) (scope : Option String)
    (hp : ∀ r ∈ rb, PlainO v r) (hex : v.exit = "" ∨ v.exit ≠ row)
    (i : Nat) (ri : Rules.ORule) (hi : rb[i]? = some ri) (hm : oMatches v ri row = true)
    (hu : ∀ j rj, rb[j]? = some rj → j ≠ i → oMatches v rj row = false) :
    getOrder v rb row cmdDirect scope = some { order := .fin i, direct := cmdDirect, children := dedupLast ri.children } :=
  getOrder_unique v rb row cmdDirect scope hp hex i ri hi hm hu

/-- A command no rule mentions (and that is not the block-exit word) has order 0: it keeps its place among its peers
(`C08_stable_unmentioned`). -/
theorem C08_unmentioned_rank_zero (v : Rules.Vendor) (rb : List Rules.ORule) (row : String) (cmdDirect : Bool) (scope : Option String)
    (hp : ∀ r ∈ rb, PlainO v r) (hex : v.exit = "" ∨ v.exit ≠ row)
    (hu : ∀ r ∈ rb, oMatches v r row = false) :
    getOrder v rb row cmdDirect scope = some { order := .fin 0, direct := cmdDirect, children := [] } :=
  by simp [getOrder, go_nomatch v row scope hex rb 0 { direct := cmdDirect } hp hu, dedupLast]

/-- Hence (with `C08_sorted_by_key`): among direct commands the one matched by the earlier rule has the smaller key; among
commands matched only through the negated form the order is mirrored; and a negated-form command of any rule but the
first precedes every direct command. -/
theorem C08_earlier_rule_first_negated_mirrored (i j : Nat) (h : i < j) :
    (signed (.fin i) true).lt (signed (.fin j) true) = true ∧
    (signed (.fin j) false).lt (signed (.fin i) false) = true ∧
    (0 < i → ∀ k, (signed (.fin i) false).lt (signed (.fin k) true) = true) := by
  refine ⟨?_, ?_, fun hi k => signed_negated_before_direct i k hi⟩ <;> simp [signed, SOrd.lt] <;> omega

/-- A command with a smaller key (earlier rule; negated-only matches mirrored) comes first. -/
theorem C08_sorted_by_key {α : Type} (lt : α → α → Bool) (h : StrictWeak lt) (l : List α) :
    Sorted lt (stableSort lt l) :=
  Lemmas.sort_sorted lt h l

/-- Commands with equal keys — in particular rows no rule mentions — keep their relative order. -/
theorem C08_stable_unmentioned {α : Type} (lt : α → α → Bool) (h : StrictWeak lt) (l : List α) (p : α → Bool)
    (heq : ∀ a b, p a = true → p b = true → lt a b = false) :
    (stableSort lt l).filter p = l.filter p := by
  rw [← Lemmas.sort_filter_comm lt h l p]
  apply Lemmas.sort_of_sorted lt
  have : ∀ a ∈ l.filter p, p a = true := fun a ha => (List.mem_filter.mp ha).2
  exact List.Pairwise.imp_of_mem (R := fun _ _ => True)
    (fun ha hb _ => heq _ _ (this _ hb) (this _ ha)) (List.pairwise_of_forall (fun _ _ => trivial))

/-- The relative order of the remaining commands does not depend on unrelated ones: sorting commutes
with deleting any set of elements. -/
theorem C08_independent_of_unrelated {α : Type} (lt : α → α → Bool) (h : StrictWeak lt) (l : List α) (p : α → Bool) :
    stableSort lt (l.filter p) = (stableSort lt l).filter p :=
  Lemmas.sort_filter_comm lt h l p

/-- For one rule and key the removal precedes the re-creation: the removal's key (negated match,
`order_direct = false`) is never greater than the creation's, and `undo_redo` yields the removal first,
so the stable sort keeps it first. -/
theorem C08_del_before_put (n1 n2 : Nat) (raw : String) (rest1 rest2 rest3 : List (String × Option PTree × SortKey))
    (rem add : String) (c : Option PTree) :
    let kr : SortKey := ⟨signed (.fin n1) false, raw, false⟩
    let ka : SortKey := ⟨signed (.fin n2) true, raw, true⟩
    List.Sublist [(rem, none, kr), (add, c, ka)]
      (stableSort (fun a b => a.2.2.lt b.2.2) (rest1 ++ (rem, none, kr) :: rest2 ++ (add, c, ka) :: rest3)) := by
  intro kr ka
  exact Lemmas.sort_keeps_nonlt_order _ Lemmas.itemLt_strictWeak rest1 rest2 rest3 _ _
    (Lemmas.removal_key_not_after_creation n1 n2 raw)

/-- Sorting a sorted patch changes nothing. -/
theorem C08_patch_sort_idempotent (t : PTree) : sortTree (sortTree t) = sortTree t :=
  Lemmas.sortTree_idempotent t

/-- `order_config` only permutes lines within their block, at every depth. -/
theorem C08_order_config_perm (v : Rules.Vendor) (rb : List Rules.ORule) (t t' : Cfg)
    (h : orderConfig v rb t = some t') : CfgPerm t t' :=
  Lemmas.orderConfig_perm_aux v t rb t' h

/-- Ordering an already ordered configuration changes nothing. -/
theorem C08_order_config_idempotent (v : Rules.Vendor) (rb : List Rules.ORule) (t t' : Cfg)
    (h : orderConfig v rb t = some t') : orderConfig v rb t' = some t' :=
  Lemmas.orderConfig_idem_aux v t rb t' h

/-- Non-vacuity: an ordering rulebook with two rules reorders a config and leaves the unmentioned row in place
(the negated `undo vlan 20` mirrors to the front, `sysname x` keeps its place before `vlan 10`). -/
example :
    let rb : List Rules.ORule := [.mk "vlan *" "vlan *" false false none [], .mk "interface *" "interface *" false false none []]
    let v : Rules.Vendor := { reverse := "undo", exit := "quit" }
    let t : Cfg := .mk [("interface Eth1", .mk []), ("sysname x", .mk []), ("vlan 10", .mk []), ("undo vlan 20", .mk [])]
    (orderConfig v rb t).map (fun c => c.kids.map (·.1)) = some ["undo vlan 20", "sysname x", "vlan 10", "interface Eth1"] := by
  decide +kernel

end Annet.Patch
