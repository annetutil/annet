/-
C20 — Results are independent of processing history and inputs are left unmodified.

Model: `Model/Effects.lean` (an effect model: which long-lived objects a job writes, with the three
`copy.deepcopy` calls as flags).  `Gen/Effects.lean` is regenerated from the Python ASTs on every run: the
flags as read from the source on that run, and the write sets of every function behind a `%logic` / `%diff_logic`
name of the shipped rule files.

Which copy gives what: `_select_match`'s copy alone makes jobs independent of each other; make_patch's copy makes the
keys inside one job independent; make_diff's copy protects the caller's trees only.  Each, and the confinement of the
logic functions, has its witness (`C20_flag_needed_*`, `C20_confinement_needed`).
-/
import AnnetModel.Lemmas.Effects
import AnnetModel.Gen.Effects
import AnnetModel.Spec.ProcessState

/-! OBLIGATIONS
Annet.Effects.C20_no_escape
Annet.Effects.C20_no_escape_copy_attrs
Annet.Effects.C20_history_independent
Annet.Effects.C20_inputs_unchanged
Annet.Effects.C20_items_independent
Annet.Effects.C20_prune_idempotent
Annet.Effects.C20_scratch_fresh
Annet.Effects.C20_effect_language_confined
Annet.Effects.C20_confined_table
Annet.Effects.C20_flags_hold
Annet.Effects.C20_flag_needed_old_new
Annet.Effects.C20_flag_needed_attrs
Annet.Effects.C20_flag_needed_match
Annet.Effects.C20_flag_needed_both
Annet.Effects.C20_confinement_needed
Annet.Effects.C20_process_state_audited
-/

namespace Annet.Effects
open Annet Annet.Rules Annet.Diff

/-- If every logic / diff-logic function writes to its own arguments only (`T.Confined`) and `_select_match`
hands out copies (`copyMatch`), no job writes the compiled rulebook or a global. -/
theorem C20_no_escape (fl : Flags) (T : Tables) (hm : fl.copyMatch = true) (hc : T.Confined) (p : Proc) (j : Job) :
    (runJob fl T p j).2 = p :=
  runJobSt_proc_of_frame fl T hc (fun _ => .inl hm) (.inl hm) p j

/-- The same from make_patch's copy alone, when no diff-logic writes into the match it is shown (juniper's
`comment_processor` does). -/
theorem C20_no_escape_copy_attrs (fl : Flags) (T : Tables) (ha : fl.copyAttrs = true) (hc : T.Confined)
    (hp : ∀ r, PureD (T.dlogic r)) (p : Proc) (j : Job) : (runJob fl T p j).2 = p :=
  runJobSt_proc_of_frame fl T hc (fun r => .inr (hp r)) (.inr ha) p j

/-- result(jᵢ | after j₁ … jᵢ₋₁) = result(jᵢ | fresh process), for every history, and a whole sequence run in
one process gives the list of the fresh results. -/
theorem C20_history_independent (fl : Flags) (T : Tables) (hm : fl.copyMatch = true) (hc : T.Confined) (p : Proc)
    (history : List Job) (j : Job) :
    runJob fl T (after fl T p history) j = runJob fl T p j ∧
    runJobs fl T p (history ++ [j]) = (history ++ [j]).map (fun x => (runJob fl T p x).1) := by
  have hfix : ∀ x, (runJob fl T p x).2 = p := C20_no_escape fl T hm hc p
  exact ⟨by rw [after_eq_of_fix fl T p hfix history], runJobs_eq_of_fix fl T p hfix _⟩

/-- With the copies the source has, a job leaves the process state and the caller's two trees as they were. -/
theorem C20_inputs_unchanged (T : Tables) (hc : T.Confined) (p : Proc) (j : Job) (rules : PRules) (old new : Cfg) :
    (runJob Flags.all T p j).2 = p ∧ callerTreeAfter Flags.all rules old = .ok old ∧
    callerTreeAfter Flags.all rules new = .ok new :=
  ⟨C20_no_escape Flags.all T rfl hc p j, rfl, rfl⟩

/-- make_patch's copy: what a job yields is what its `(rule, key)` items yield one by one, each processed as the only
item after the same diff (an exception cuts the sequence short). -/
theorem C20_items_independent (fl : Flags) (T : Tables) (ha : fl.copyAttrs = true) (hc : T.Confined) (p : Proc)
    (rows : List Nat) (items : List Item) (hd : (rows.foldl (rowStep fl T) (JSt.start p)).err = none) :
    ((runJobSt fl T p ⟨rows, items⟩).emits, (runJobSt fl T p ⟨rows, items⟩).err) =
      seqOut (items.map fun it => ((runJobSt fl T p ⟨rows, [it]⟩).emits, (runJobSt fl T p ⟨rows, [it]⟩).err)) := by
  have hem : (rows.foldl (rowStep fl T) (JSt.start p)).emits = [] :=
    List.foldlRecOn (motive := fun s : JSt => s.emits = []) rows _ rfl
      fun s hs x _ => (rowStep_emits fl T s x).trans hs
  have := items_seq fl T ha hc _ hd hem items []
  -- the state after the rows is itself with `emits := []`
  rw [← hem] at this
  simp only [runJobSt, this, hem, List.nil_append, List.foldl_cons, List.foldl_nil]

/-- make_diff's copy protects the caller only: the tree `apply_diff_rb` leaves behind, given again, is annotated exactly
as before, so without the copy a repeated computation on the pruned trees gives the same diff. -/
theorem C20_prune_idempotent (rules : PRules) (t : Cfg) (a : ACfg) (h : annotate rules t = .ok a) :
    prune rules t = .ok (eraseA a) ∧ annotate rules (eraseA a) = .ok a := by
  refine ⟨?_, annotate_erase t rules a h⟩
  simp [prune, h, Except.map]

/-- The scratch field is fresh at every read: what `match_row_to_acl` returns (the rule, the direction and the
`match` groups its caller reads) does not depend on what earlier rows, configurations or devices left in the
shared compiled ACL. -/
theorem C20_scratch_fresh (sel : List (Nat × Bool) → Option (Nat × Bool)) (hsel : ∀ l x, sel l = some x → x ∈ l)
    (dm rm : Nat → Option Groups) (sc sc' : List (Option Groups)) (hl : sc.length = sc'.length) :
    (matchRowToAcl sel dm rm sc).2 = (matchRowToAcl sel dm rm sc').2 := by
  simp only [matchRowToAcl, findAclMatches_eq, hl]
  cases hs : sel _ with
  | none => rfl
  | some x =>
    -- the selected rule matched one of the two regexps, so its field was overwritten on both sides
    have hx := hsel _ _ hs
    simp only [List.mem_append, List.mem_filterMap, List.mem_range, Option.map_eq_some_iff] at hx
    obtain ⟨hlt, hsome⟩ : x.1 < sc'.length ∧ ((dm x.1).isSome = true ∨ (rm x.1).isSome = true) := by
      rcases hx with ⟨k, hk, g, hg, rfl⟩ | ⟨k, hk, g, hg, rfl⟩ <;> simp [hk, hg]
    have hlt' : x.1 < sc.length := hl ▸ hlt
    simp only [List.getElem?_mapIdx, List.getElem?_eq_getElem hlt, List.getElem?_eq_getElem hlt']
    cases hrm : rm x.1 <;> cases hdm : dm x.1 <;> simp [hrm, hdm] at hsome ⊢

/-- Every function written in the effect language (the shipped writers and the harness's test logics) is confined. -/
theorem C20_effect_language_confined (logic : Nat → List Phase) (dlogic : Nat → List Eff) :
    Tables.Confined ⟨fun r => phaseLogic (logic r), fun r => effDLogic (dlogic r)⟩ :=
  ⟨fun r => phaseLogic_confined (logic r), fun r => effDLogic_confined (dlogic r)⟩

/-- Every function behind a `%logic` / `%diff_logic` name of the shipped rule files was found, and every write in
its source (and in the functions it calls inside the rulebook packages) goes to one of its own arguments; no logic
function reaches into a match. -/
theorem C20_confined_table : ∀ e ∈ Annet.Gen.Effects.table, e.confined = true := by
  have h : Annet.Gen.Effects.table.all Entry.confined = true := by decide +kernel
  exact fun e he => List.all_eq_true.1 h e he

/-- The three copies are in the source: make_diff copies old and new, make_patch the rule attrs, `_select_match`
the match attrs. -/
theorem C20_flags_hold : Annet.Gen.Effects.flags = Flags.all := by decide

/-- The hidden hypothesis of history independence, checked against the source on every run: the places of the annet
modules a worker runs where a value can outlive a call (`Gen.Effects.processState`, from the Python ASTs) are exactly the
audited ones of `Spec/ProcessState.lean`.  A new cache, class-level container, mutable default argument or `global`
breaks this theorem. -/
theorem C20_process_state_audited : Annet.Gen.Effects.processState = Annet.ProcessState.audited :=
  rfl

/-- a logic that yields, then sets `force_commit` on its rule argument (as `huawei.bgp.undo_commit` does before its
first yield) -/
private def lLate : List Phase :=
  [⟨.always, [], some .default⟩, ⟨.always, [.setField "force_commit" (.bool true)], none⟩]

private def tLate : Tables := ⟨fun _ => phaseLogic lLate, fun _ => effDLogic []⟩

private def p0 : Proc := { rb := [[("reverse", .str "undo vlan {}"), ("force_commit", .bool false)]], glob := [] }

private def item (row : String) (k : String) : Item :=
  { rule := 0, key := [k], buckets := ({ added := [row] } : Buckets) }

private def job2 : Job := { rows := [0, 0], items := [item "vlan 1" "1", item "vlan 2" "2"] }

private def fcs (r : Res) : List Bool := r.emits.map (·.forceCommit)

/-- Without make_diff's copy the caller's tree loses the rows no rule knows (here `stray`), at every level. -/
theorem C20_flag_needed_old_new :
    let attrs : PAttrs :=
      { row := "vlan *", logic := "common.default", diffLogic := "common.default_diff", parent := false, forceCommit := false }
    let rules : PRules := ⟨[.mk "vlan *" false attrs (some ([], []))], []⟩
    let old : Cfg := .mk [("vlan 10", .mk []), ("stray", .mk [])]
    (match callerTreeAfter ⟨false, true, true⟩ rules old with
     | .ok t => t.kids.map (·.1)
     | .error _ => ["<error>"]) = ["vlan 10"] ∧
    (match callerTreeAfter Flags.all rules old with
     | .ok t => t.kids.map (·.1)
     | .error _ => ["<error>"]) = ["vlan 10", "stray"] := by
  decide +kernel

/-- Without make_patch's copy the second key of a job sees what the logic wrote while processing the first one:
its item needs a commit although, processed alone, it does not.  Jobs are still independent of each other. -/
theorem C20_flag_needed_attrs :
    fcs (runJob ⟨true, false, true⟩ tLate p0 job2).1 = [false, true] ∧
    fcs (runJob Flags.all tLate p0 job2).1 = [false, false] ∧
    (runJob ⟨true, false, true⟩ tLate p0 job2).2 = p0 := by
  decide +kernel

/-- Without `_select_match`'s copy a diff-logic that writes into the match it is shown (juniper's
`comment_processor` sets `context["comment"]`) writes the compiled rulebook, whatever make_patch copies. -/
theorem C20_flag_needed_match :
    let T : Tables := ⟨fun _ => phaseLogic lDefault, fun _ => effDLogic [.setField "comment_seen" (.bool true)]⟩
    (runJob ⟨true, true, false⟩ T p0 job2).2 ≠ p0 ∧ (runJob Flags.all T p0 job2).2 = p0 := by
  decide +kernel

/-- Without both copies of the attrs the rulebook is written and the same job gives another answer the second time. -/
theorem C20_flag_needed_both :
    fcs (runJob ⟨true, false, false⟩ tLate p0 job2).1 = [false, true] ∧
    (runJob ⟨true, false, false⟩ tLate p0 job2).2 ≠ p0 ∧
    fcs (runJob ⟨true, false, false⟩ tLate (runJob ⟨true, false, false⟩ tLate p0 job2).2 job2).1 = [true, true] := by
  decide +kernel

/-- a logic that counts in a global: not confined -/
private def lGlobal : LogicSem := fun _ c =>
  { cells := { c with glob := setF c.glob "seen" (.bool true) },
    emits := [{ direct := true, tmpl := "x", fmtKey := none, comments := [], forceCommit := (getF c.glob "seen").isSome }],
    err := none }

/-- With all three copies in place, a logic function that writes a global makes the second job differ: the
confinement hypothesis of `C20_no_escape` cannot be dropped. -/
theorem C20_confinement_needed :
    let T : Tables := ⟨fun _ => lGlobal, fun _ => effDLogic []⟩
    fcs (runJob Flags.all T p0 job2).1 = [false, true] ∧
    fcs (runJob Flags.all T (runJob Flags.all T p0 job2).2 job2).1 = [true, true] ∧ ¬ ConfinedL lGlobal := by
  refine ⟨by decide +kernel, by decide +kernel, ?_⟩
  intro h
  have := h [] { rule := [], diff := {}, glob := [] } [("seen", .bool true)]
  revert this
  decide +kernel

/-- the hypotheses of the general theorems hold for the shipped writers -/
example : Tables.Confined ⟨fun _ => phaseLogic lUndoCommit, fun _ => effDLogic []⟩ :=
  C20_effect_language_confined (fun _ => lUndoCommit) (fun _ => [])

example : ∀ r, PureD ((⟨fun _ => phaseLogic lDefaultInsteadUndo, fun _ => effDLogic []⟩ : Tables).dlogic r) :=
  fun _ _ _ => rfl

/-- `huawei.bgp.undo_commit` on a removed row: the `undo` line is yielded while `force_commit` is set -/
example :
    fcs (runJob Flags.all ⟨fun _ => phaseLogic lUndoCommit, fun _ => effDLogic []⟩ p0
      { rows := [0], items := [{ rule := 0, key := ["1"], buckets := ({ removed := ["vlan 1"] } : Buckets) }] }).1 = [true, false] := by
  decide +kernel

/-- a job on which the diff phase raises nothing, as `C20_items_independent` asks -/
example : (job2.rows.foldl (rowStep Flags.all tLate) (JSt.start p0)).err = none := by decide +kernel

/-- the selection hypothesis of `C20_scratch_fresh` holds for "first of the list" (what `_select_match` takes after
the sort) -/
example : ∀ (l : List (Nat × Bool)) x, l.head? = some x → x ∈ l := fun _ _ h => List.mem_of_mem_head? h

/-- the table is not empty and contains writers -/
example : (Annet.Gen.Effects.table.filter (fun e => !e.writes.isEmpty)).length ≥ 10 := by decide +kernel

end Annet.Effects
