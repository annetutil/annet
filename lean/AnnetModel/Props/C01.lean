/-
C01 — Deploying the patch makes the diff empty (convergence).

The device of the property ("holds one line per rulebook rule and key") is the specification `Spec/Device.lean`.  One
level of it refines a finite map slot ↦ line: every command of a patch acts on exactly one slot (put / delete / no-op),
keeps the level well-formed and leaves the line of every other slot, with its subtree, alone; so the effect of a command
list is determined per slot by the last command on that slot, and two levels with the same map have the same lines.
The end-to-end statement `applyCmds (cmdPaths (patch old new)) old ≃ new` is proved over the default/undo_redo logics:
for flat configurations, for configurations of any depth (patch tree and linearised command paths), for the empty
second run and along chains of targets.  For `%ordered`/`%rewrite`/`%global` rules and custom logics it is decided case
by case by the correspondence check and the simulator oracle.  It is false of the code for the logics that deliberately
emit nothing (`permanent`, `ignore_changes`: witnesses below) and in the corner cases F01c–F01h.
-/
import AnnetModel.Lemmas.ConvergeFlat
import AnnetModel.Lemmas.ConvergeExample
import AnnetModel.Lemmas.ConvergeNestedPaths
import AnnetModel.Lemmas.ConvergeNestedExample

/-! OBLIGATIONS
Annet.Device.C01_put_refines
Annet.Device.C01_del_refines
Annet.Device.C01_exit_noop
Annet.Device.C01_put_keeps_same_line
Annet.Device.C01_leaf_preserves_others
Annet.Device.C01_same_map_same_lines
Annet.Device.C01_cmds_refine
Annet.Device.C01_flat_converges
Annet.Device.C01_flat_converges_lines
Annet.Device.C01_flat_converges_nonvacuous
Annet.Device.C01_nested_converges
Annet.Device.C01_nested_converges_paths
Annet.Device.C01_nested_second_run_empty
Annet.Device.C01_same_lines_diff_empty
Annet.Device.C01_chain_converges
Annet.Device.C01_nested_converges_nonvacuous
Annet.Device.C01_full_false_permanent
Annet.Device.C01_full_false_ignore_changes
Annet.Device.C01_flat_default_witness_converges
-/

namespace Annet.Device
open Annet Annet.Rules Annet.Device.Abs

theorem C01_put_refines (env : Env) (rules : PRules) (c : String) (kids : List (String × Cfg))
    (hwf : WF rules kids) (hc : (slotOf rules c).isSome)
    (hne : ¬ env.exits.contains c = true)
    (hnr : ((stripReverse env c).bind fun r' => slotOf rules r') = none) :
    WF rules (execLeaf env rules c kids) ∧
    ∀ s, holder rules (execLeaf env rules c kids) s = absStep rules (holder rules kids) (.put c) s := by
  rw [Lemmas.execLeaf_eq_run, Lemmas.den_of_denotes (cmd := .put c) ⟨hne, rfl, hc, hnr⟩]
  exact Lemmas.run_refines rules _ kids hwf

theorem C01_del_refines (env : Env) (rules : PRules) (c r' : String) (kids : List (String × Cfg))
    (hwf : WF rules kids) (hne : ¬ env.exits.contains c = true)
    (hs : stripReverse env c = some r') (hr : (slotOf rules r').isSome) :
    WF rules (execLeaf env rules c kids) ∧
    ∀ s, holder rules (execLeaf env rules c kids) s = absStep rules (holder rules kids) (.del r') s := by
  rw [Lemmas.execLeaf_eq_run, Lemmas.den_of_denotes (cmd := .del r') ⟨hne, hs, hr⟩]
  exact Lemmas.run_refines rules _ kids hwf

theorem C01_exit_noop (env : Env) (rules : PRules) (c : String) (kids : List (String × Cfg))
    (h : env.exits.contains c = true) : execLeaf env rules c kids = kids :=
  Lemmas.exit_noop env rules c kids h

theorem C01_put_keeps_same_line (env : Env) (rules : PRules) (c : String) (sub : Cfg) (kids : List (String × Cfg))
    (hwf : WF rules kids) (hc : (slotOf rules c).isSome) (hne : ¬ env.exits.contains c = true)
    (hnr : ((stripReverse env c).bind fun r' => slotOf rules r') = none) (hin : (c, sub) ∈ kids) :
    (c, sub) ∈ execLeaf env rules c kids :=
  Lemmas.put_keeps_same_line env rules c sub kids hwf hc hne hnr hin

theorem C01_leaf_preserves_others (env : Env) (rules : PRules) (c : String) (kids : List (String × Cfg)) (s : Slot)
    (hwf : WF rules kids)
    (hother : slotOf rules c ≠ some s)
    (hother' : ∀ r', stripReverse env c = some r' → slotOf rules r' ≠ some s) :
    (execLeaf env rules c kids).filter (fun e => slotOf rules e.1 == some s) =
      kids.filter (fun e => slotOf rules e.1 == some s) :=
  Lemmas.leaf_preserves_others env rules c kids s hwf hother hother'

theorem C01_same_map_same_lines (rules : PRules) (a b : List (String × Cfg)) (ha : WF rules a) (hb : WF rules b)
    (h : ∀ s, holder rules a s = holder rules b s) : (a.map (·.1)).Perm (b.map (·.1)) :=
  Lemmas.same_map_perm rules a b ha hb h

/-- Any sequence of leaf commands behaves like the abstract map: every slot is held as the fold of `absStep` says, in
particular by the last command that touched it, independently of commands on other slots. -/
theorem C01_cmds_refine (env : Env) (rules : PRules) (cs : List (String × Cmd)) (kids : List (String × Cfg))
    (hwf : WF rules kids) (hd : ∀ p ∈ cs, Denotes env rules p.1 p.2) :
    WF rules (cs.foldl (fun k p => execLeaf env rules p.1 k) kids) ∧
    ∀ s, holder rules (cs.foldl (fun k p => execLeaf env rules p.1 k) kids) s =
         (cs.foldl (fun f p => absStep rules f p.2) (holder rules kids)) s :=
  Lemmas.cmds_refine env rules cs kids hwf hd

/-- Flat configurations: executing the commands of the patch annet's pipeline computes (`make_diff → make_pre → logic
functions → get_order → sort`), in the emitted order, on `old` yields exactly the lines of `new` (the map slot ↦ line is
`new`'s).  `CmdsOK` is C07's reverse round trip, stated as what the proof needs; distinct rule texts and `exitKnown` are
necessary (counterexamples at their definitions). -/
theorem C01_flat_converges (v : Vendor) (env : Env) (rules : PRules) (ordering : List ORule) (old new : Cfg)
    (r : Api.Result)
    (hfr : Converge.FlatRules rules) (hfo : Converge.FlatCfg old) (hfn : Converge.FlatCfg new)
    (hko : Converge.AllKnown rules old) (hkn : Converge.AllKnown rules new)
    (hwo : WF rules old.kids) (hwn : WF rules new.kids)
    (hc : Converge.CmdsOK v env rules) (hp : Converge.NoPin ordering)
    (hr : Api.deviceMode Patch.runLogic v rules ordering true old new = .ok r) :
    WF rules (applyCmds env rules (flatPaths r.patch) old).kids ∧
    ∀ s, holder rules (applyCmds env rules (flatPaths r.patch) old).kids s = holder rules new.kids s :=
  Converge.Lemmas.flat_converges v env rules ordering old new r hfr hfo hfn hko hkn hwo hwn hc hp hr

theorem C01_flat_converges_lines (v : Vendor) (env : Env) (rules : PRules) (ordering : List ORule) (old new : Cfg)
    (r : Api.Result)
    (hfr : Converge.FlatRules rules) (hfo : Converge.FlatCfg old) (hfn : Converge.FlatCfg new)
    (hko : Converge.AllKnown rules old) (hkn : Converge.AllKnown rules new)
    (hwo : WF rules old.kids) (hwn : WF rules new.kids)
    (hc : Converge.CmdsOK v env rules) (hp : Converge.NoPin ordering)
    (hr : Api.deviceMode Patch.runLogic v rules ordering true old new = .ok r) :
    (rowsOf (applyCmds env rules (flatPaths r.patch) old)).Perm (rowsOf new) := by
  have h := C01_flat_converges v env rules ordering old new r hfr hfo hfn hko hkn hwo hwn hc hp hr
  exact Lemmas.same_map_perm rules _ _ h.1 hwn h.2

/-- Non-vacuity: a two-rule rulebook (`mtu` with undo_redo, `description` with default), old = {mtu 1500, description a},
new = {mtu 9000} meet every hypothesis of `C01_flat_converges`. -/
theorem C01_flat_converges_nonvacuous :
    ∃ r, Api.deviceMode Patch.runLogic Converge.Example.v Converge.Example.rules Converge.Example.ordering true
           Converge.Example.old Converge.Example.new = .ok r ∧
      (rowsOf (applyCmds Converge.Example.env Converge.Example.rules (flatPaths r.patch) Converge.Example.old)).Perm
        (rowsOf Converge.Example.new) := by
  obtain ⟨r, hr⟩ := Converge.Example.patchOk
  exact ⟨r, hr, C01_flat_converges_lines _ _ _ _ _ _ r Converge.Example.flatRules Converge.Example.flatOld
    Converge.Example.flatNew Converge.Example.knownOld Converge.Example.knownNew Converge.Example.wfOld
    Converge.Example.wfNew Converge.Example.cmdsOK Converge.Example.noPin hr⟩

/-- Configurations of any depth: executing the PATCH TREE the pipeline computes (`applyTree`: a leaf item is a leaf
command, a block item enters, creating if absent, the block and executes its children there) on `old` yields, at every
level of every block, exactly the lines `new` holds (`SameC`). -/
theorem C01_nested_converges (v : Vendor) (env : Env) (rules : PRules) (ordering : List ORule) (old new : Cfg)
    (r : Api.Result)
    (hr : ConvergeNested.NestedRules rules) (hgo : ConvergeNested.GoodC rules old) (hgn : ConvergeNested.GoodC rules new)
    (hc : ConvergeNested.CmdsOKAll v env rules) (hp : Converge.NoPin ordering)
    (hres : Api.deviceMode Patch.runLogic v rules ordering true old new = .ok r) :
    ConvergeNested.SameC rules (.mk (ConvergeNested.applyTree env rules r.patch old.kids)) new :=
  ConvergeNested.Lemmas.nested_converges v env rules ordering old new r hr hgo hgn hc hp hres

/-- The same for the COMMAND PATHS the formatter sends (`treePaths`: each row, the paths of its children below it, then
`[row, exit]`: what `BlockExitFormatter.cmd_paths` produces, compared with the real `cmd_paths` on every run), executed
one by one from the top of the device (`Device.applyCmds`). -/
theorem C01_nested_converges_paths (v : Vendor) (env : Env) (exit : String) (rules : PRules) (ordering : List ORule)
    (old new : Cfg) (r : Api.Result)
    (hr : ConvergeNested.NestedRules rules) (hgo : ConvergeNested.GoodC rules old) (hgn : ConvergeNested.GoodC rules new)
    (hc : ConvergeNested.CmdsOKAll v env rules) (hp : Converge.NoPin ordering) (hex : env.exits.contains exit = true)
    (hres : Api.deviceMode Patch.runLogic v rules ordering true old new = .ok r) :
    ConvergeNested.SameC rules (applyCmds env rules (ConvergeNested.treePaths exit r.patch) old) new :=
  by
  rw [ConvergeNested.Lemmas.applyCmds_treePaths env exit rules r.patch old hex
    (ConvergeNested.Lemmas.pipeline_pathOK v env exit rules ordering old new r hr hgo hgn hc hres)]
  exact C01_nested_converges v env rules ordering old new r hr hgo hgn hc hp hres

/-- THE PROPERTY IN ITS OWN WORDS: running the pipeline a second time, on the device state after the patch and the same
target, reports no difference and produces an empty patch. -/
theorem C01_nested_second_run_empty (v : Vendor) (env : Env) (rules : PRules) (ordering : List ORule) (old new : Cfg)
    (r : Api.Result)
    (hr : ConvergeNested.NestedRules rules) (hgo : ConvergeNested.GoodC rules old) (hgn : ConvergeNested.GoodC rules new)
    (hc : ConvergeNested.CmdsOKAll v env rules) (hp : Converge.NoPin ordering)
    (hres : Api.deviceMode Patch.runLogic v rules ordering true old new = .ok r) :
    ∃ r2, Api.deviceMode Patch.runLogic v rules ordering true
        (.mk (ConvergeNested.applyTree env rules r.patch old.kids)) new = .ok r2 ∧
      r2.diff = [] ∧ r2.patch.items = [] :=
  ⟨_, ConvergeNested.Lemmas.same_run_empty v rules ordering _ new hr
    (ConvergeNested.Lemmas.applied_good v env rules ordering old new r hr hgo hgn hc hp hres) hgn
    (C01_nested_converges v env rules ordering old new r hr hgo hgn hc hp hres), rfl, rfl⟩

/-- Two configurations that hold the same lines slot by slot at every level (in any order) have an empty diff. -/
theorem C01_same_lines_diff_empty (rules : PRules) (a b : Cfg)
    (hr : ConvergeNested.NestedRules rules) (hga : ConvergeNested.GoodC rules a) (hgb : ConvergeNested.GoodC rules b)
    (hs : ConvergeNested.SameC rules a b) :
    ∃ d, Diff.makeDiff rules a b = .ok d ∧ Diff.stripUnchanged d = [] :=
  by
  obtain ⟨d, hd, -, hall⟩ := ConvergeNested.Lemmas.same_diff_all_unchanged rules a b hr hga hgb hs
  exact ⟨d, hd, Diff.Lemmas.strip_of_all_unchanged d (List.all_eq_true.2 fun i hi => beq_iff_eq.2 (hall i hi))⟩

/-- ALONG CHAINS OF TARGETS (the property's quantifier): deploying target after target, each patch computed against the
device state the previous one left, the device stays a configuration of the kind the theorem quantifies over and
agrees with the last target. -/
theorem C01_chain_converges (v : Vendor) (env : Env) (rules : PRules) (ordering : List ORule)
    (hr : ConvergeNested.NestedRules rules) (hc : ConvergeNested.CmdsOKAll v env rules) (hp : Converge.NoPin ordering)
    (old : Cfg) (targets : List Cfg) (last : Cfg) (final : Cfg)
    (hgo : ConvergeNested.GoodC rules old) (hgt : ∀ t ∈ targets ++ [last], ConvergeNested.GoodC rules t)
    (hres : ConvergeNested.Lemmas.deployChain v env rules ordering old (targets ++ [last]) = some final) :
    ConvergeNested.GoodC rules final ∧ ConvergeNested.SameC rules final last :=
  ConvergeNested.Lemmas.chain_converges v env rules ordering hr hc hp old targets last final hgo hgt hres

/-- Non-vacuity: a three-level instance (interfaces with sub-blocks; one block removed, one added, one changed at two
levels, one unchanged) meets every hypothesis of `C01_nested_converges`. -/
theorem C01_nested_converges_nonvacuous :
    ∃ r, Api.deviceMode Patch.runLogic ConvergeNested.Example.v ConvergeNested.Example.rules
        ConvergeNested.Example.ordering true ConvergeNested.Example.old ConvergeNested.Example.new = .ok r ∧
      ConvergeNested.SameC ConvergeNested.Example.rules
        (.mk (ConvergeNested.applyTree ConvergeNested.Example.env ConvergeNested.Example.rules r.patch
          ConvergeNested.Example.old.kids)) ConvergeNested.Example.new :=
  by
  obtain ⟨r, hr⟩ := ConvergeNested.Example.patchOk
  exact ⟨r, hr, C01_nested_converges _ _ _ _ _ _ r ConvergeNested.Example.nestedRules ConvergeNested.Example.goodOld
    ConvergeNested.Example.goodNew ConvergeNested.Example.cmdsOKAll ConvergeNested.Example.noPin hr⟩

private def env0 : Env := { reverse := "undo", exits := ["quit"] }
private def v0 : Vendor := { reverse := "undo", exit := "quit" }
private def rule1 (row logic : String) : PRules :=
  ⟨[.mk row false { row := row, logic := logic, diffLogic := "common.default_diff", parent := false, forceCommit := false }
      (some ([], []))], []⟩

private def patchCmds (rules : PRules) (old new : Cfg) : List (List String) :=
  match Api.deviceMode Patch.runLogic v0 rules [] true old new with
  | .ok r => flatPaths r.patch
  | .error _ => [["<error>"]]

private def after (rules : PRules) (cmds : List (List String)) (old : Cfg) : List String :=
  rowsOf (applyCmds env0 rules cmds old)

/-- F01a: `permanent` never removes a childless row: no command is sent, the device keeps the row. -/
theorem C01_full_false_permanent :
    let rules := rule1 "description" "common.permanent"
    let old : Cfg := .mk [("description x", .mk [])]
    patchCmds rules old (.mk []) = [] ∧ after rules [] old = ["description x"] := by
  decide +kernel

/-- F01b: `ignore_changes` emits nothing for a replaced row: the device keeps the old text. -/
theorem C01_full_false_ignore_changes :
    let rules := rule1 "mtu" "common.ignore_changes"
    let old : Cfg := .mk [("mtu 1500", .mk [])]
    patchCmds rules old (.mk [("mtu 9000", .mk [])]) = [] ∧ after rules [] old = ["mtu 1500"] := by
  decide +kernel

/-- With the default logic a replacement and an addition converge. -/
theorem C01_flat_default_witness_converges :
    (let rules := rule1 "mtu" "common.default"
     let old : Cfg := .mk [("mtu 1500", .mk [])]
     patchCmds rules old (.mk [("mtu 9000", .mk [])]) = [["mtu 9000"]] ∧ after rules [["mtu 9000"]] old = ["mtu 9000"]) ∧
    (let rules := rule1 "mtu" "common.default"
     let old : Cfg := .mk []
     patchCmds rules old (.mk [("mtu 9000", .mk [])]) = [["mtu 9000"]] ∧ after rules [["mtu 9000"]] old = ["mtu 9000"]) ∧
    (let rules := rule1 "mtu" "common.default"
     after rules [["undo mtu"]] (.mk [("mtu 1500", .mk []), ("sysname x", .mk [])]) = ["sysname x"]) := by
  decide +kernel

end Annet.Device
