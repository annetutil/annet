/-
C05 — Indented text is parsed by the offside rule and bad indentation is refused.
-/
import AnnetModel.Lemmas.OffsideRule
import AnnetModel.Lemmas.CfgTree

/-! OBLIGATIONS
Annet.Offside.C05_impl_eq_spec
Annet.Offside.C05_spec_chain_nearest
Annet.Offside.C05_width_independent
Annet.Offside.C05_blank_ignored
Annet.Offside.C05_duplicates_merge
Annet.Offside.C05_reject_iff
-/

namespace Annet.Offside
open Spec

/-- The stack machine of `_stripped_indents`/`_stacked` computes, for every
list of lines, exactly what the declarative offside rule prescribes: the same
path for every significant line, and `ParserError` at the same line number
(and only there). -/
theorem C05_impl_eq_spec (items : List Item) : stacks items = Spec.stacks items :=
  Lemmas.run_eq items [] St.init [] 1 rfl

/-- The specification's ancestor chain really is "the nearest preceding line
with strictly smaller indentation", iterated. -/
theorem C05_spec_chain_nearest (prev : List (Nat × String)) (k j : Nat) (t : String)
    (anc : List (Nat × String)) (h : chain prev k = (j, t) :: anc) :
    ∃ pre post, prev = pre ++ (j, t) :: post ∧ (∀ p ∈ pre, k ≤ p.1) ∧ j < k ∧
      anc = chain post j := by
  induction prev with
  | nil => cases h
  | cons p rest ih =>
    rw [chain] at h
    split at h
    · rename_i hk
      cases h
      exact ⟨[], rest, rfl, by simp, hk, rfl⟩
    · rename_i hk
      obtain ⟨pre, post, rfl, hall, hj, hanc⟩ := ih h
      exact ⟨p :: pre, post, rfl, List.forall_mem_cons.2 ⟨Nat.le_of_not_lt hk, hall⟩, hj, hanc⟩

/-- Indentation widths do not matter: any strictly monotone re-scaling of the
indents gives the same paths and the same error position. -/
theorem C05_width_independent (f : Nat → Nat) (hf : ∀ a b, a < b → f a < f b)
    (items : List Item) :
    stacks (items.map (mapIndent f)) = stacks items := by
  rw [C05_impl_eq_spec, C05_impl_eq_spec]
  simpa [Spec.stacks, Lemmas.mapPrev] using Lemmas.run_mapIndent hf items [] 1

/-- Blank and comment lines are ignored (they only shift line numbers in errors). -/
theorem C05_blank_ignored (items : List Item) :
    (stacks (items.filter (· ≠ .blank))).toOption = (stacks items).toOption :=
  Lemmas.blank_ignored items

/-- Repeated identical lines at the same place merge: inserting a path twice is
the same as inserting it once. -/
theorem C05_duplicates_merge (p : List String) (t : Cfg) :
    Cfg.insertPath p (Cfg.insertPath p t) = Cfg.insertPath p t :=
  by simpa using Gen.Lemmas.insertPath_append p [] t

/-- Rejection, stated outright for a single section of significant lines: the
parser fails on `ls ++ [l]` after accepting `ls` iff the new line is
inconsistent with the open blocks. -/
theorem C05_reject_iff (ls : List (Nat × String)) (k : Nat) (s : String)
    (hok : (stacks (ls.map fun p => Item.text p.1 p.2)).toOption.isSome) :
    (stacks ((ls ++ [(k, s)]).map fun p => Item.text p.1 p.2)).toOption.isNone
      ↔ consistent ls.reverse k = false := by
  rw [Lemmas.stacks_toOption] at hok ⊢
  obtain ⟨x, hx⟩ := Option.isSome_iff_exists.1 hok
  rw [List.map_append, Lemmas.runO_append, hx, Lemmas.sectionAfter_texts]
  cases hc : consistent ls.reverse k <;> simp [Lemmas.runO, hc]

/-- Non-vacuity: a three-level text is accepted with the expected paths, and a
dedent to a column no block started at is refused at that line. -/
example : (stacks [.text 0 "a", .text 2 "b", .text 5 "c", .blank, .text 2 "d", .text 0 "e"]).toOption
    = some [["a"], ["a", "b"], ["a", "b", "c"], ["a", "d"], ["e"]] := by decide +kernel
example : errLine (stacks [.text 0 "a", .text 4 "b", .text 2 "c"]) = some 3 := by decide +kernel
example : errLine (stacks [.text 2 "a", .text 1 "b"]) = some 2 := by decide +kernel

end Annet.Offside
