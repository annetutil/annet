/-
C06 — ACL filtering selects exactly the covered lines and nothing else.

Model: `Model/Acl.lean` (`compileAcl`, `findMatches`, `selectMatch`, `applyAcl`).
-/
import AnnetModel.Lemmas.Acl
import AnnetModel.Lemmas.AclMerge

/-! OBLIGATIONS
Annet.Acl.C06_subtree_ordered
Annet.Acl.C06_idempotent
Annet.Acl.C06_path_predicate
Annet.Acl.C06_fatal_iff
Annet.Acl.C06_global_tilde_covers_everything
Annet.Acl.C06_merge_monotone_false_global
Annet.Acl.C06_merge_monotone_false_reverse_cant_delete
Annet.Acl.C06_merge_monotone_false_reverse_shadows
Annet.Acl.C06_merge_monotone_false_same_row_global
Annet.Acl.C06_merge_monotone_partial
-/

namespace Annet.Acl
open Annet.Acl.Spec

/-- The filter returns a sub-tree of its input, in input order (any mode). -/
theorem C06_subtree_ordered (v : Vendor) (fatal excl : Bool) (rules : Rules) (path : List String) (t t' : Cfg)
    (h : applyAcl v fatal excl rules path t = .ok t') : Sub t' t :=
  Lemmas.sub_cfg v fatal excl rules path t t' h

/-- Filtering twice changes nothing (in every mode: `Lemmas.applyAcl_idem`). -/
theorem C06_idempotent (v : Vendor) (rules : Rules) (path : List String) (t t' : Cfg)
    (h : applyAcl v false false rules path t = .ok t') :
    applyAcl v false false rules path t' = .ok t' :=
  Lemmas.idempotent v rules path t t' h

/-- Precisely the lines whose whole path is covered survive: a path is in the result iff it is in the
input and every row along it passes at the rules reached along it (in every mode: `Lemmas.path_predicate`). -/
theorem C06_path_predicate (v : Vendor) (rules : Rules) (path : List String) (t t' : Cfg)
    (h : applyAcl v false false rules path t = .ok t') (p : List String) :
    p ∈ t'.paths ↔ (p ∈ t.paths ∧ (walk v rules p).isSome) :=
  Lemmas.path_predicate v rules path t t' h p

/-- Strict mode raises `AclError` iff some row at a covered parent has no match, names the first such
row in document order, and otherwise returns what the lenient mode returns. -/
theorem C06_fatal_iff (v : Vendor) (rules : Rules) (path : List String) (t t0 : Cfg)
    (h : applyAcl v false false rules path t = .ok t0) :
    applyAcl v true false rules path t =
      (match firstUnmatched v rules path t with
       | some q => .error (.aclError q)
       | none => .ok t0) :=
  Lemmas.fatal_iff v rules path t t0 h

/-- Below a row governed by a deletable `~ %global` rule (the rules handed to its children are exactly
that global rule) every non-empty row at every depth survives, in every mode.
`hg`: the run stays inside the modelled grammar (it leaves it iff the vendor's negation word makes the
reverse row `<word> ~` unparsable, e.g. an empty word or one with a regex metacharacter). -/
theorem C06_global_tilde_covers_everything (v : Vendor) (fatal excl : Bool) (cd : List Bool) (prio : Nat)
    (names : List String) (id : String) (path : List String) (t : Cfg)
    (hj : v.juniper = false) (hcd : cd.all (fun b => b) = false) (hne : allRowsNonEmpty t = true)
    (hx : (names.zip cd).length ≤ 1 ∨ excl = false)
    (hg : NoGrammarErr (applyAcl v fatal excl ⟨[], [Rule.mk id "~" false cd prio names none]⟩ path t)) :
    applyAcl v fatal excl ⟨[], [Rule.mk id "~" false cd prio names none]⟩ path t = .ok t := by
  cases hr : reversePat v (Rule.mk id "~" false cd prio names none) with
  | some rp =>
    exact Lemmas.applyAcl_fix (Lemmas.matchRow_tilde id cd prio names v excl rp hj hcd hr hx) fatal path t hne
  | none =>
    match t with
    | .mk [] => rfl
    | .mk ((row, ch) :: rest) =>
      exfalso; apply hg
      rw [applyAcl, applyAclList, matchRowToAcl, Lemmas.findMatches_tilde_none id cd prio names v row hr]
      rfl

/-! ### Merge monotonicity is false of the code

"The filter by two ACLs merged passes everything either passes alone" does not hold: only the
*first* (most specific) match of a row decides whether children rules are taken and whether the row is
dropped. -/

def okPaths (r : Except Err Cfg) : List (List String) :=
  match r with
  | .ok c => c.paths
  | .error _ => []

def errOf (r : Except Err Cfg) : Option Err :=
  match r with
  | .ok _ => none
  | .error e => some e

/-! Four mechanisms, each a recorded finding, here as kernel-checked witnesses on the model: -/

/-- F06a: a `%global` rule of B out-ranks A's local rule with children; A's children rules are not taken. -/
theorem C06_merge_monotone_false_global :
    let A : List RawRule := [.mk "~" false false [false] 0 ["g0"] [.mk "vlan ip" false false [false] 0 ["g0"] []]]
    let B : List RawRule := [.mk "description" false true [false] 0 ["g1"] []]
    let t : Cfg := .mk [("description", .mk [("vlan ip", .mk [])])]
    let v : Vendor := { reverse := "undo" }
    ["description", "vlan ip"] ∈ okPaths (applyAcl v false false (compileAcl [A]) [] t) ∧
    ["description", "vlan ip"] ∉ okPaths (applyAcl v false false (compileAcl [A ++ B]) [] t) := by
  decide +kernel

/-- F06b: the negated form of a `cant_delete` rule of B out-ranks A's deletable rule: the row is dropped. -/
theorem C06_merge_monotone_false_reverse_cant_delete :
    let A : List RawRule := [.mk "description mtu x" false false [false] 0 ["g0"] []]
    let B : List RawRule := [.mk "description *" false false [true] 2 ["g1"] []]
    let t : Cfg := .mk [("undo description mtu x", .mk [])]
    let v : Vendor := { reverse := "undo" }
    ["undo description mtu x"] ∈ okPaths (applyAcl v false false (compileAcl [A]) [] t) ∧
    ["undo description mtu x"] ∉ okPaths (applyAcl v false false (compileAcl [A ++ B]) [] t) := by
  decide +kernel

/-- F06c: a reverse-form first match (B) hides the children rules of A's direct match. -/
theorem C06_merge_monotone_false_reverse_shadows :
    let A : List RawRule := [.mk "no ~" false false [false] 0 ["g0"] [.mk "description port ~" false false [false] 0 ["g0"] []]]
    let B : List RawRule := [.mk "address ~" false false [false] 0 ["g1"] []]
    let t : Cfg := .mk [("no address 10x", .mk [("no description port description", .mk [])])]
    let v : Vendor := { reverse := "no" }
    ["no address 10x", "no description port description"] ∈ okPaths (applyAcl v false false (compileAcl [A]) [] t) ∧
    ["no address 10x", "no description port description"] ∉ okPaths (applyAcl v false false (compileAcl [A ++ B]) [] t) := by
  decide +kernel

/-- F06d: one generator declares a rule row `%global`, another declares the SAME row as a local rule with children:
the merged rule is global and A's children rules are gone. -/
theorem C06_merge_monotone_false_same_row_global :
    let A : List RawRule := [.mk "interface" false false [false] 0 ["g0"] [.mk "bgp" false false [false] 0 ["g0"] []]]
    let B : List RawRule := [.mk "interface" false true [false] 0 ["g1"] [], .mk "interface interface" false false [false] 0 ["g2"] []]
    let t : Cfg := .mk [("interface interface", .mk [("bgp", .mk [])])]
    let v : Vendor := { reverse := "undo" }
    ["interface interface", "bgp"] ∈ okPaths (applyAcl v false false (compileAcl [A]) [] t) ∧
    ["interface interface", "bgp"] ∉ okPaths (applyAcl v false false (compileAcl [A ++ B]) [] t) := by
  decide +kernel

/-- The third clause, positive part: without `%global` / ignore rules and without negated-form matching (the negation word is
a plain word; no rule row and no configuration row — as the matcher reads it: case-insensitively, any blank after the word,
Juniper `inactive:` stripped — begins with it), everything ACL `A` passes alone is passed by the merged ACL `A ++ B`, as an
order-preserving sub-tree, at every depth.  Each excluded feature breaks the clause: F06a–d above and the
counterexamples of `MergeDraft`. -/
theorem C06_merge_monotone_partial (v : Vendor) (A B : List RawRule) (t ca cab : Cfg)
    (hw : plainWord v.reverse.toList = true)
    (hA : PlainRawL A = true) (hB : PlainRawL B = true)
    (hnA : NoNegRuleL v A = true) (hnB : NoNegRuleL v B = true) (ht : NoNegRow v t = true)
    (h1 : applyAcl v false false (compileAcl [A]) [] t = .ok ca)
    (h2 : applyAcl v false false (compileAcl [A ++ B]) [] t = .ok cab) :
    Sub ca cab := by
  obtain ⟨g1, a3⟩ := Lemmas.compile_good v A hA hnA
  obtain ⟨g2, b3⟩ := Lemmas.compile_good v (A ++ B) (Lemmas.plainRawL_append hA hB) (Lemmas.noNegRuleL_append hnA hnB)
  obtain ⟨e1, p1⟩ := Lemmas.applyAcl_ok _ _ _ _ _ _ _ h1
  obtain ⟨e2, p2⟩ := Lemmas.applyAcl_ok _ _ _ _ _ _ _ h2
  rw [e1, e2]
  refine Lemmas.keep_mono_good v hw t _ _ g1 g2 (fun p hp => ?_) ht p1 p2
  exact (b3 p).2 (Lemmas.inDR_mono (fun x hx => List.mem_append_left _ hx) p ((a3 p).1 hp))

/-- Non-vacuity: a nested ACL with a wildcard block, a global rule and an uncovered row. -/
example :
    let A : List RawRule := [.mk "interface *" false false [true] 0 [] [.mk "description ~" false false [false] 0 [] []],
                             .mk "snmp ~" false true [false] 0 [] []]
    let t : Cfg := .mk [("interface Eth1", .mk [("description x y", .mk []), ("mtu 9000", .mk [])]),
                        ("snmp community c", .mk [("anything", .mk [])]), ("vlan 10", .mk [])]
    okPaths (applyAcl { reverse := "undo" } false false (compileAcl [A]) [] t)
      = [["interface Eth1"], ["interface Eth1", "description x y"], ["snmp community c"]] ∧
    errOf (applyAcl { reverse := "undo" } true false (compileAcl [A]) [] t) = some (.aclError ["interface Eth1", "mtu 9000"]) := by
  decide +kernel

end Annet.Acl
