/-
C12 — The worker pool returns exactly one result per submitted device.

`ExactlyOnce c` is FALSE for the rule before 2315307 (`.head`: a race) and, for every rule, without the hypotheses on
the outcomes (`tolerate_fails = False` aborts, by design; an unpicklable exception class was dropped by the queue
feeder, the defect repaired by f56cd41).  Under them it is PROVED for the rule of the code (`.drained`,
parallel.py:430-436) over every schedule, and for `.head` over the schedules without that race.  The other theorems
hold for any rule and schedule.
-/
import AnnetModel.Lemmas.PoolSafe
import AnnetModel.Lemmas.PoolLive
import AnnetModel.Lemmas.PoolSeq

/-! OBLIGATIONS
Annet.Pool.C12_conservation
Annet.Pool.C12_payload
Annet.Pool.C12_stop_after_ids
Annet.Pool.C12_loss_witness_old
Annet.Pool.C12_exactly_once_false_race
Annet.Pool.C12_exactly_once_false_abort
Annet.Pool.C12_exactly_once_false_unpicklable
Annet.Pool.C12_exactly_once_partial
Annet.Pool.C12_exactly_once_patched
Annet.Pool.C12_single_exact
Annet.Pool.C12_run_partition
Annet.Pool.C12_no_deadlock
Annet.Pool.C12_terminates
-/

namespace Annet.Pool

/-- Conservation: in every reachable
state the submitted results are exactly the delivered ones plus those in flight (taken
by the parent but not yet yielded, in the pipe, in a feeder buffer, being computed, or
still queued as a task) plus those a feeder thread dropped. -/
theorem C12_conservation (c : Cfg) (s : State) (h : Reach c s) :
    c.submitted.Perm (s.delivered ++ inflight c s ++ s.dropped) :=
  (inv_reach h).cons

/-- Every delivered result belongs to a submitted id and carries the value (or the
exception) the task computed for that id; `tasks_done` counts the delivered results. -/
theorem C12_payload (c : Cfg) (s : State) (h : Reach c s) :
    (∀ r ∈ s.delivered, r.id ∈ c.ids ∧ r.out = c.out r.id) ∧ s.tasksDone = s.delivered.length := by
  refine ⟨?_, (inv_reach h).count⟩
  intro r hr
  obtain ⟨id, hid, rfl⟩ := (inv_reach h).mem_sub (r := r) (by simp [hr])
  exact ⟨hid, rfl⟩

/-- The task queue always is "remaining ids, then STOPs"; a worker that receives STOP
leaves no id behind (whether or not the `take` is enabled); and there are as many STOPs queued as slots whose
current process has not consumed one - across retirement (exit code 9) and restart. -/
theorem C12_stop_after_ids (c : Cfg) (s : State) (h : Reach c s) :
    s.taskQ = (taskIds s.taskQ).map Task.invoke ++ List.replicate (stops s.taskQ) Task.stop ∧
    stops s.taskQ = s.ws.countP (fun w => w.st.live) ∧
    (∀ w s', step c s (.take w) = some s' → s.taskQ.head? = some .stop → taskIds s.taskQ = []) := by
  have hi := inv_reach h
  refine ⟨hi.shape, hi.stopsLive, ?_⟩
  intro w s' _ hhead
  cases hq : s.taskQ with
  | nil => simp [hq] at hhead
  | cons t q =>
    simp [hq] at hhead
    subst hhead
    rw [← hq]
    exact taskQ_head_stop hi.shape hq

def cfgW (rule : ExitRule) (tol : Bool) (out : Id → Out) : Cfg :=
  { ids := [0, 1], out := out, parallel := 2, maxTasks := 25, tolerate := tol, rule := rule }

def okOut : Id → Out := fun i => .ok (Int.ofNat i)

/-- Slow consumer: both workers finish, flush and exit before the parent's first `get`. -/
def schedOld : List Ev :=
  [.take 0, .take 1, .finish 0, .finish 1, .flush 0, .flush 1, .take 0, .take 1, .exit 0, .exit 1,
   .parent, .parent, .parent, .parent, .parent]

/-- The loop-exit rule before commit a315bab (`if not pool: break`) loses a result under a
schedule that needs no race at all: one result delivered, the other left in the pipe. -/
theorem C12_loss_witness_old :
    ¬ (∀ s, ReachNoRace (cfgW .old true okOut) s → s.terminal = true →
        s.delivered.Perm (cfgW .old true okOut).submitted) := by
  intro h
  have hrun : ((runSchedNR (cfgW .old true okOut) (init (cfgW .old true okOut)) schedOld).map
      fun s => (s.terminal, s.delivered.length)) = some (true, 1) := by decide +kernel
  cases hs : runSchedNR (cfgW .old true okOut) (init (cfgW .old true okOut)) schedOld with
  | none => simp [hs] at hrun
  | some s =>
    simp [hs] at hrun
    have := (h s (reachNR_run .init hs) hrun.1).length_eq
    simp [hrun.2, Cfg.submitted, cfgW] at this

def schedRace : List Ev :=
  [.take 0, .take 1, .finish 0, .finish 1, .take 0, .take 1,
   .parent,                                   -- get: queue.Empty
   .flush 0, .flush 1, .exit 0, .exit 1,      -- results reach the pipe, workers exit
   .parent, .parent, .parent, .parent]        -- read 0, read 1, end of scan, loop-exit test: break

/-- The rule before 2315307 (`ExitRule.head`) loses the results that reach the pipe between a timed-out `get` and
`_check_children`. -/
theorem C12_exactly_once_false_race : ¬ ExactlyOnce (cfgW .head true okOut) :=
  not_exactlyOnce_of_sched schedRace (n := 0) (by decide +kernel) (by decide)

def excOut : Id → Out := fun i => if i = 0 then .exc 1 true else .ok (Int.ofNat i)

def schedAbort : List Ev :=
  [.take 0, .finish 0, .flush 0, .parent, .parent, .parent, .parent, .parent]

/-- `tolerate_fails = False`: the first failed task aborts the run - by design; holds for
every exit rule (here `ExitRule.drained`). -/
theorem C12_exactly_once_false_abort : ¬ ExactlyOnce (cfgW .drained false excOut) :=
  not_exactlyOnce_of_sched schedAbort (n := 0) (by decide +kernel) (by decide)

def unsendableOut : Id → Out := fun i => if i = 0 then .exc 4 false else .ok (Int.ofNat i)

/-- Worker 0 runs both tasks and receives its STOP before its feeder thread has sent anything;
the feeder then meets the unpicklable result while the process is exiting, and ends. -/
def schedUnsendable : List Ev :=
  [.take 0, .finish 0, .take 0, .finish 0, .take 0, .feederDie 0, .exit 0, .take 1, .exit 1,
   .parent, .parent, .parent, .parent, .parent, .parent, .parent, .parent, .parent]

/-- An outcome that cannot be pickled is dropped by the worker's queue feeder, and when the
worker is already exiting everything buffered behind it is lost as well: here NEITHER id gets
an outcome although `tolerate_fails` is true and id 1 succeeded - for every exit rule (here
`ExitRule.drained`). -/
theorem C12_exactly_once_false_unpicklable : ¬ ExactlyOnce (cfgW .drained true unsendableOut) :=
  not_exactlyOnce_of_sched schedUnsendable (n := 0) (by decide +kernel) (by decide)

/-- The rule before 2315307 (`ExitRule.head`: `if not pool and (queue_empty or tasks_done >= len(device_ids))`) delivers
exactly the submitted results on every schedule in which no result reaches the pipe between a timed-out `get` and the
loop-exit test of the same iteration.  Any number of ids, workers, quota; retirement, restart and slow consumers
included. -/
theorem C12_exactly_once_partial (c : Cfg) (hrule : c.rule = .head) (hpar : 0 < c.parallel)
    (htol : Tolerant c) (hsend : Sendable c) (s : State) (hr : ReachNoRace c s)
    (ht : s.terminal = true) : s.delivered.Perm c.submitted := by
  refine exact_of_break hpar htol hsend (fun s got ret hr hpc hb => ?_) hr ht
  simp only [breakNow, hrule, Bool.and_eq_true, Bool.or_eq_true, decide_eq_true_eq, List.isEmpty_iff,
    Option.isNone_iff_eq_none] at hb
  exact hb.2.symm.imp_right fun hg => ⟨hg, hb.1, win_reach hr (by rw [hpc, hg]; rfl)⟩

/-- With the loop-exit rule of the code (`ExitRule.drained`, parallel.py:430-436: leave on a timed-out `get` only
when the pool had already been found empty in an earlier iteration) the full statement
holds for EVERY schedule. -/
theorem C12_exactly_once_patched (c : Cfg) (hrule : c.rule = .drained) (hpar : 0 < c.parallel)
    (htol : Tolerant c) (hsend : Sendable c) : ExactlyOnce c := by
  refine fun s hr ht => exact_of_break hpar htol hsend (fun s got ret hr hpc hb => ?_) hr ht
  simp only [breakNow, hrule, Bool.and_eq_true, Bool.or_eq_true, decide_eq_true_eq, List.isEmpty_iff,
    Option.isNone_iff_eq_none] at hb
  exact hb.2.imp_right fun hd => ⟨hd.1, hb.1, (drained_reach hr).win hd.2 (by rw [hpc, hd.1]; rfl)⟩

/-- `pool_size == 1` (one id, or `parallel = 1`): results come in submission order, up to
the first failure that aborts; nothing aborts under `Tolerant`. -/
theorem C12_single_exact (c : Cfg) :
    single c c.ids = ((c.ids.takeWhile fun id => !c.fatal id).map c.res, c.ids.any c.fatal) ∧
    (Tolerant c → single c c.ids = (c.submitted, false)) :=
  ⟨single_spec c c.ids, single_tolerant c⟩

/-- `Parallel.run` on exactly-once results with distinct ids: the keys of the success and
fail dictionaries partition the submitted ids, every id is filed under its own outcome, and
`strict_error_code` raises exactly when some id failed. -/
theorem C12_run_partition (c : Cfg) (rs : List Res) (hp : rs.Perm c.submitted) (hnd : c.ids.Nodup)
    (strict : Bool) :
    run rs strict =
      (if strict && !(rs.filterMap excOf).isEmpty then .runtimeError (rs.filterMap excOf).length
       else .ok (rs.filterMap okOf) (rs.filterMap excOf)) ∧
    ((rs.filterMap okOf).map Prod.fst ++ (rs.filterMap excOf).map Prod.fst).Perm c.ids ∧
    (∀ k v, (k, v) ∈ rs.filterMap okOf → c.out k = .ok v) ∧
    (∀ k e, (k, e) ∈ rs.filterMap excOf → ∃ sd, c.out k = .exc e sd) := by
  obtain ⟨hnd', hrest⟩ := run_partition hp hnd
  exact ⟨run_spec rs hnd' strict, hrest⟩

/-- No deadlock: in a reachable state that is not terminal the parent can always step, and
every worker process that has not exited can step (a worker blocked in `task_queue.get()`
always finds a task or its STOP). -/
theorem C12_no_deadlock (c : Cfg) (s : State) (h : Reach c s) (hnt : s.terminal = false) :
    Enabled c s .parent ∧
    (∀ i w, s.ws[i]? = some w → w.st.isExited = false → Enabled c s (.worker i)) :=
  ⟨parent_enabled hnt, fun _ _ hw hne => worker_enabled (inv_reach h) hnt hw hne⟩

/-- Termination under weak fairness, for every exit rule: every infinite run in which no
runnable process (and not the consuming caller) is starved forever reaches a terminal
state. -/
theorem C12_terminates (c : Cfg) (r : Run c) (hf : r.WeaklyFair) : ∃ n, (r.st n).terminal = true := by
  apply Classical.byContradiction
  intro hno
  have hnt : ∀ n, (r.st n).terminal = false := fun n => Bool.eq_false_iff.mpr fun h => hno ⟨n, h⟩
  have hstep : ∀ n, step c (r.st n) (r.ev n) = some (r.st (n + 1)) := fun n =>
    (r.next n).resolve_right fun h => Bool.false_ne_true ((hnt n).symm.trans h.1)
  have hreach : ∀ n, Reach c (r.st n) := by
    intro n
    induction n with
    | zero => rw [r.start]; exact .init
    | succ n ih => exact ReachP.step (r.ev n) ih trivial (hstep n)
  have hcl := fun n => mu_step (inv_reach (hreach n)) (step_sound (hstep n))
  obtain ⟨N, hN⟩ := nonincr_stabilises (fun n => mu (r.st n)) fun n =>
    (hcl n).elim Nat.le_of_lt fun h => Nat.le_of_eq h.1
  -- from `N` on `mu` stays, so only the parent moves, and no slot changes
  have hq : ∀ m, N ≤ m → mu (r.st (m + 1)) = mu (r.st m) ∧ r.ev m = .parent ∧ (r.st (m + 1)).ws = (r.st m).ws ∧
      PStep c (r.st m) (r.st (m + 1)) := fun m hm =>
    (hcl m).resolve_left (Nat.ne_of_lt · ((hN (m + 1) (Nat.le_succ_of_le hm)).trans (hN m hm).symm))
  have hws : ∀ k, (r.st (N + k)).ws = (r.st N).ws := by
    intro k
    induction k with
    | zero => rfl
    | succ k ih => exact (hq (N + k) (Nat.le_add_right N k)).2.2.1.trans ih
  have hex : ∀ w ∈ (r.st N).ws, w.st.isExited = true := by
    intro w hw
    obtain ⟨i, hi⟩ := List.mem_iff_getElem?.mp hw
    cases hne : w.st.isExited with
    | true => rfl
    | false =>
      obtain ⟨m, hm, hcase⟩ := hf (.worker i) N
      obtain ⟨k, rfl⟩ := Nat.exists_eq_add_of_le hm
      rcases hcase with hdis | ⟨_, hag⟩
      · exact absurd (worker_enabled (inv_reach (hreach (N + k))) (hnt (N + k)) ((hws k).symm ▸ hi) hne) hdis
      · rw [(hq (N + k) hm).2.1] at hag
        cases hag
  have hnu : ∀ k, nu (r.st (N + k + 1)) < nu (r.st (N + k)) := by
    intro k
    have h := hq (N + k) (Nat.le_add_right N k)
    exact nu_step (inv_reach (hreach (N + k))) (scanSub_reach (hreach (N + k))) ((hws k).symm ▸ hex) h.2.2.2 h.1
  -- `nu` cannot fall for ever
  obtain ⟨M, hM⟩ := nonincr_stabilises (fun k => nu (r.st (N + k))) fun k => Nat.le_of_lt (hnu k)
  exact Nat.ne_of_lt (hnu M) (hM (M + 1) (Nat.le_succ M))

/-- Quota 1: every worker retires after each task. -/
def cfgE (rule : ExitRule) : Cfg :=
  { ids := [0, 1, 2], out := excOut, parallel := 2, maxTasks := 1, tolerate := true, rule := rule }

/-- A schedule with retirement, restart, a raising task and a slow parent. -/
def schedE : List Ev :=
  [.take 0, .take 1, .finish 1, .flush 1, .exit 1, .finish 0,
   .parent, .parent, .parent, .parent, .parent, .parent,      -- get r1, read 0, read 1 (code 9), scanned, yield, restart 1
   .flush 0, .exit 0, .take 1, .finish 1, .flush 1, .exit 1,
   .parent, .parent, .parent, .parent, .parent, .parent, .parent, .parent,   -- loop, get r0, 2 reads (9, 9), scanned, yield, restart 0, restart 1
   .take 0, .take 1, .exit 0, .exit 1,                                       -- both replacements get STOP
   .parent, .parent, .parent, .parent, .parent, .parent]       -- loop, get r2, read 0, read 1, scanned, yield: break

example : Tolerant (cfgE .head) ∧ Sendable (cfgE .head) ∧ 0 < (cfgE .head).parallel := by
  refine ⟨Or.inl rfl, ?_, by decide⟩
  intro id _
  simp only [cfgE, excOut]
  split <;> rfl

example : ((runSchedNR (cfgE .head) (init (cfgE .head)) schedE).map
    fun s => (s.terminal, s.delivered.map (·.id), s.tasksDone)) = some (true, [1, 0, 2], 3) := by decide +kernel

example : ((runSched (cfgE .drained) (init (cfgE .drained)) schedE).map
    fun s => (s.terminal, s.delivered.map (·.id))) = some (true, [1, 0, 2]) := by decide +kernel

def sFinalE : State :=
  { taskQ := [], doneQ := [], ws := [⟨.exited .zero, []⟩, ⟨.exited .zero, []⟩], pool := [],
    delivered := [⟨1, .ok 1⟩, ⟨0, .exc 1 true⟩, ⟨2, .ok 2⟩], tasksDone := 3, dropped := [],
    drained := false, pc := .done }

theorem runE : runSched (cfgE .head) (init (cfgE .head)) schedE = some sFinalE := by decide +kernel

theorem quietE (e : Ev) : step (cfgE .head) sFinalE e = none := by
  cases e with
  | parent => rfl
  | take i | finish i | flush i | feederDie i | exit i => rcases i with _ | _ | i <;> rfl

/-- `C12_terminates` is not vacuous: a weakly fair run exists. -/
example : ∃ r : Run (cfgE .head), r.WeaklyFair ∧ ∃ n, (r.st n).terminal = true :=
  ⟨runOfSched _ schedE sFinalE runE rfl, runOfSched_fair runE rfl quietE,
   C12_terminates _ _ (runOfSched_fair runE rfl quietE)⟩

example : single (cfgE .head) [0, 1, 2] = ([⟨0, .exc 1 true⟩, ⟨1, .ok 1⟩, ⟨2, .ok 2⟩], false) := by decide +kernel
example : single (cfgW .head false excOut) [1, 0, 1] = ([⟨1, .ok 1⟩], true) := by decide +kernel
example : run [⟨1, .ok 1⟩, ⟨0, .exc 1 true⟩, ⟨2, .ok 2⟩] false = .ok [(1, 1), (2, 2)] [(0, 1)] := by decide +kernel
example : run [⟨1, .ok 1⟩, ⟨0, .exc 1 true⟩] true = .runtimeError 1 := by decide +kernel
example : invokeRetry (fun a => if a < 3 then .netErr else .val 7) 3 0 = .ok 7 := by decide +kernel
example : invokeRetry (fun a => if a < 4 then .netErr else .val 7) 3 0 = .exc netTag true := by decide +kernel

end Annet.Pool
