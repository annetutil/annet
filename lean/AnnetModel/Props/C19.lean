/-
C19 — File-based devices get each changed file once, from the winning generator.

Two clauses of the property are FALSE of the code as it is (the upload decision
and the shown diff are taken on `str.splitlines()`): their full-strength statements
are `Spec.UploadIffDiffers` / `Spec.DiffShownIffDiffers`, refuted by
`…_false`, with `…_partial` (exact characterisation of what the code does) and
`…_canonical` (the full statement on canonical Unix texts) stated beside them.
The section headers number the clauses in the order of the statement of C19 in properties.jsonl.
-/
import AnnetModel.Lemmas.Files

/-! OBLIGATIONS
Annet.Files.C19_winner_is_argmax
Annet.Files.C19_winner_has_max_prio
Annet.Files.C19_new_files_from_winner
Annet.Files.C19_argmax_order_independent
Annet.Files.C19_files_are_generated_content
Annet.Files.C19_reload_iff_enabled
Annet.Files.C19_parse_result_ok
Annet.Files.C19_upload_iff_differs_false
Annet.Files.C19_upload_iff_differs_partial
Annet.Files.C19_upload_equal_never
Annet.Files.C19_upload_iff_differs_canonical
Annet.Files.C19_diff_empty_iff_equal_false
Annet.Files.C19_diff_empty_iff_equal_partial
Annet.Files.C19_diff_empty_iff_equal_canonical
Annet.Files.C19_end_to_end
-/

namespace Annet.Files
open Spec Lemmas

/-! ### clause 1 — the winning generator, in every listing order -/

/-- `entire_results[p]` after `run_file_generators` is exactly the result of highest
priority among those the generators produce for `p` (priorities per path distinct). -/
theorem C19_winner_is_argmax (dev : Dev) (gens : List Gen) (res : Results)
    (h : runFileGenerators dev gens = .ok res) (hd : DistinctPrio (produced dev gens))
    (p : Path) (r : EntireResult) :
    lookup p res = some r ↔ IsWinner (produced dev gens) p r := by
  rw [((runFrom_iff dev gens [] res).1 h).2]
  exact lookup_entireResults_iff (produced dev gens) hd p r

/-- Without any hypothesis on the priorities (ties included): whatever is stored for a
path has the highest priority produced for it — with ties it is one of the tied
generators (the first listed, see the example below) — and a path is absent exactly
when no generator produced a result for it (results with the empty path are skipped by
`add_entire`: `if result.path`, result.py:55). -/
theorem C19_winner_has_max_prio (dev : Dev) (gens : List Gen) (res : Results)
    (h : runFileGenerators dev gens = .ok res) (p : Path) :
    (∀ r, lookup p res = some r → IsWinner (produced dev gens) p r) ∧
    (lookup p res = none ↔ ∀ r ∈ produced dev gens, r.path = p → p = []) := by
  have inv := runFileGenerators_inv dev gens res h
  refine ⟨inv.winner p, inv.absent p, ?_⟩
  intro hall
  cases hl : lookup p res with
  | none => rfl
  | some r =>
    obtain ⟨h1, h2, h3, _⟩ := inv.winner p r hl
    exact absurd (hall r h1 h2) h3

/-- `new_files(safe)[p] = (output, reload)` iff these are the output and the reload
command of a generator of the list, run on its own, whose result is the winner for
`p` (and which is safe when `safe` is asked for).  `new_files` is a dict. -/
theorem C19_new_files_from_winner (dev : Dev) (gens : List Gen) (res : Results)
    (h : runFileGenerators dev gens = .ok res) (hd : DistinctPrio (produced dev gens))
    (safe : Bool) (p : Path) (o rl : Text) :
    (lookup p (newFiles safe res) = some (o, rl) ↔
      ∃ g ∈ gens, ∃ r, runEntireGenerator dev g = .ok (some r) ∧
        IsWinner (produced dev gens) p r ∧ (safe = true → r.isSafe = true) ∧
        o = r.output ∧ rl = r.reload) ∧
    NoDupKeys (newFiles safe res) := by
  refine ⟨?_, noDupKeys_newFiles safe res⟩
  have inv := runFileGenerators_inv dev gens res h
  simp only [lookup_newFiles safe res inv.keyed inv.nodup p, Option.bind_eq_some_iff,
    C19_winner_is_argmax dev gens res h hd p, planned_eq_some_iff]
  exact ⟨fun ⟨r, hw, hpl⟩ => let ⟨g, hg, hrun⟩ := (mem_produced dev gens r).mp hw.1; ⟨g, hg, r, hrun, hw, hpl⟩,
    fun ⟨_, _, r, _, hw, hpl⟩ => ⟨r, hw, hpl⟩⟩

/-- Listing the generators in another order changes neither whether the run succeeds
nor any entry of `new_files()` / `new_files(safe=True)`. -/
theorem C19_argmax_order_independent (dev : Dev) (gens gens' : List Gen) (hp : gens.Perm gens')
    (hd : DistinctPrio (produced dev gens)) (res : Results)
    (h : runFileGenerators dev gens = .ok res) :
    ∃ res', runFileGenerators dev gens' = .ok res' ∧
      ∀ safe p, lookup p (newFiles safe res') = lookup p (newFiles safe res) := by
  obtain ⟨hno, e⟩ := (runFrom_iff dev gens [] res).1 h
  have h' := (runFrom_iff dev gens' [] _).2 ⟨fun g hg => hno g (hp.mem_iff.mpr hg), rfl⟩
  refine ⟨_, h', ?_⟩
  intro safe p
  have inv := runFileGenerators_inv dev gens res h
  have inv' := runFileGenerators_inv dev gens' _ h'
  rw [lookup_newFiles safe res inv.keyed inv.nodup p, lookup_newFiles safe _ inv'.keyed inv'.nodup p]
  have := lookup_entireResults_perm (produced_perm (dev := dev) hp) hd p
  simp only [entireResults] at this
  rw [e, this]

/-! ### clauses 3 and 4 — uploaded bytes, reload commands -/

/-- What is uploaded for a path is the generated content, unchanged. -/
theorem C19_files_are_generated_content (ud : UDiff) (inp : JobIn) (out : JobOut)
    (he : inp.err = false) (hn : NoDupKeys inp.newFiles) (h : parseResult ud inp = .ok out)
    (p : Path) (c : Text) (hc : lookup p out.files = some c) :
    ∃ rl, lookup p inp.newFiles = some (c, rl) := by
  let ⟨rl, hl, _⟩ := (parseResult_files_iff ud inp out he hn h p c).1 hc
  exact ⟨rl, hl⟩

/-- A reload command is attached to a path iff the path is uploaded and reloads are
enabled; it is the winning generator's reload command (followed by the deploy
driver's closing commands, if it has any). -/
theorem C19_reload_iff_enabled (ud : UDiff) (inp : JobIn) (out : JobOut)
    (he : inp.err = false) (hn : NoDupKeys inp.newFiles) (h : parseResult ud inp = .ok out)
    (p : Path) :
    ((lookup p out.cmds).isSome ↔ (lookup p out.files).isSome ∧ inp.reload ≠ .no) ∧
    (∀ cmd, lookup p out.cmds = some cmd →
      ∃ c rl, lookup p inp.newFiles = some (c, rl) ∧ cmd = rl ++ driverTail inp.drv) := by
  have hen : inp.reload.enable = true ↔ inp.reload ≠ .no := by simp [Reload.enable]
  rw [parseResult_files ud inp out he hn h p, parseResult_cmds ud inp out he hn h p, ← hen]
  cases lookup p inp.newFiles with
  | none => simp
  | some cr =>
    obtain ⟨c, rl⟩ := cr
    by_cases hu : uploads ud inp p c <;> cases inp.reload.enable <;> simp [hu]

/-- `parse_result` cannot fail when the deploy driver has no closing commands for the
device (the setting of the repo's own test) or reloads are enabled; the only failure
is the `KeyError` of `cmds[file] += …` under `--entire-reload no`. -/
theorem C19_parse_result_ok (ud : UDiff) (inp : JobIn) (hn : NoDupKeys inp.newFiles)
    (h : joinNl (inp.drv.after ++ inp.drv.exit) = [] ∨ inp.reload ≠ .no) :
    ∃ out, parseResult ud inp = .ok out := by
  by_cases he : inp.err = true
  · exact ⟨_, by unfold parseResult; rw [if_pos he]⟩
  rw [parseResult_eq ud inp (by simpa using he)]
  split
  · have hs := finishFiles_isSome (joinNl inp.drv.before) (joinNl (inp.drv.after ++ inp.drv.exit))
        (afterLoop ud inp).files (afterLoop ud inp).cmds [] <| h.imp_right fun h k => by
      have hen : inp.reload.enable = true := by simpa [Reload.enable] using h
      rw [afterLoop_files ud inp hn k, afterLoop_cmds ud inp hn k, hen]
      cases lookup k inp.newFiles <;> simp
    split
    · rename_i hnone; rw [hnone] at hs; cases hs
    · exact ⟨_, rfl⟩
  · exact ⟨_, rfl⟩

/-! ### clause 2 — the upload decision -/

/-- The full-strength upload clause is FALSE of the code: a file whose generated
content `a\n` differs from the device's `a` is not uploaded. -/
theorem C19_upload_iff_differs_false : ¬ UploadIffDiffers := by
  intro hfull
  have h := hfull udToy udToy_spec witnessIn {} rfl (by unfold NoDupKeys; decide +kernel) (by rfl) ['f'] ['a', '\n'] ['r']
    (by decide +kernel)
  revert h
  decide +kernel

/-- What the code does decide: a planned file is uploaded iff the `splitlines()` of
the device's content (none for a missing or empty file) and of the generated content
differ, or reload is forced. -/
theorem C19_upload_iff_differs_partial (ud : UDiff) (hud : UdSpec ud) (inp : JobIn) (out : JobOut)
    (he : inp.err = false) (hn : NoDupKeys inp.newFiles) (h : parseResult ud inp = .ok out)
    (p : Path) (c rl : Text) (hl : lookup p inp.newFiles = some (c, rl)) :
    (lookup p out.files).isSome ↔
      (linesOf (lookup p inp.oldFiles) ≠ linesOf (some c) ∨ inp.reload = .force) := by
  rw [← uploads_iff ud hud, parseResult_files ud inp out he hn h p, hl]
  by_cases hu : uploads ud inp p c <;> simp [hu]

/-- The safe direction holds in full: a file whose generated content equals the
device's content is never uploaded unless reload is forced. -/
theorem C19_upload_equal_never (ud : UDiff) (hud : UdSpec ud) (inp : JobIn) (out : JobOut)
    (he : inp.err = false) (hn : NoDupKeys inp.newFiles) (h : parseResult ud inp = .ok out)
    (p : Path) (c rl : Text) (hl : lookup p inp.newFiles = some (c, rl))
    (heq : lookup p inp.oldFiles = some c) (hf : inp.reload ≠ .force) :
    lookup p out.files = none := by
  have := not_congr (C19_upload_iff_differs_partial ud hud inp out he hn h p c rl hl)
  rw [heq] at this
  simpa [hf] using this

/-- The full-strength clause does hold for canonical Unix texts (only `\n` breaks
lines, a non-empty text ends with `\n`), provided an empty output is not planned for
a file that does not exist on the device. -/
theorem C19_upload_iff_differs_canonical (ud : UDiff) (hud : UdSpec ud) (inp : JobIn) (out : JobOut)
    (he : inp.err = false) (hn : NoDupKeys inp.newFiles) (h : parseResult ud inp = .ok out)
    (p : Path) (c rl : Text) (hl : lookup p inp.newFiles = some (c, rl))
    (hold : ∀ o, lookup p inp.oldFiles = some o → Canonical o) (hc : Canonical c)
    (hmiss : lookup p inp.oldFiles = none → c ≠ []) :
    (lookup p out.files).isSome ↔ (lookup p inp.oldFiles ≠ some c ∨ inp.reload = .force) := by
  rw [C19_upload_iff_differs_partial ud hud inp out he hn h p c rl hl]
  simp only [ne_eq, linesOf_eq_iff_canonical (lookup p inp.oldFiles) c hold hc hmiss]

/-! ### clause 5 — the diff shown -/

/-- The full-strength diff clause is FALSE of the code: a file missing on the device and an
empty planned output show no diff (device `a` vs generated `a\n` is another instance). -/
theorem C19_diff_empty_iff_equal_false : ¬ DiffShownIffDiffers := by
  intro hfull
  have h := hfull udToy udToy_spec [] [(['f'], ([], ['r']))] (by unfold NoDupKeys; decide +kernel) ['f'] [] ['r'] (by decide +kernel)
  revert h
  decide +kernel

/-- What `pc_diff` does show: a planned file appears iff the `splitlines()` of the two
contents differ. -/
theorem C19_diff_empty_iff_equal_partial (ud : UDiff) (hud : UdSpec ud)
    (old : List (Path × Text)) (new : NewFiles) (hn : NoDupKeys new)
    (p : Path) (c rl : Text) (hl : lookup p new = some (c, rl)) :
    (∃ e ∈ pcDiffEntries ud old new, e.1 = p) ↔ linesOf (lookup p old) ≠ linesOf (some c) := by
  rw [shown_iff ud old new hn p c rl hl, diffFile_ne_nil_iff ud hud]

/-- … and on canonical Unix texts that is exactly "the contents differ". -/
theorem C19_diff_empty_iff_equal_canonical (ud : UDiff) (hud : UdSpec ud)
    (old : List (Path × Text)) (new : NewFiles) (hn : NoDupKeys new)
    (p : Path) (c rl : Text) (hl : lookup p new = some (c, rl))
    (hold : ∀ o, lookup p old = some o → Canonical o) (hc : Canonical c)
    (hmiss : lookup p old = none → c ≠ []) :
    (∃ e ∈ pcDiffEntries ud old new, e.1 = p) ↔ lookup p old ≠ some c := by
  rw [C19_diff_empty_iff_equal_partial ud hud old new hn p c rl hl]
  simp only [ne_eq, linesOf_eq_iff_canonical (lookup p old) c hold hc hmiss]

/-- From the generator list to the upload: each path is uploaded at most once, and
`files[p] = c` iff `c` is the output of the winning generator for `p` (safe when
`--acl-safe`) and its lines differ from the device's or reload is forced. -/
theorem C19_end_to_end (ud : UDiff) (hud : UdSpec ud) (dev : Dev) (gens : List Gen) (res : Results)
    (hrun : runFileGenerators dev gens = .ok res) (hd : DistinctPrio (produced dev gens))
    (safe : Bool) (inp : JobIn) (out : JobOut) (he : inp.err = false)
    (hnf : inp.newFiles = newFiles safe res) (h : parseResult ud inp = .ok out) (p : Path) (c : Text) :
    NoDupKeys out.files ∧
    (lookup p out.files = some c ↔
      ∃ r, IsWinner (produced dev gens) p r ∧ (safe = true → r.isSafe = true) ∧ c = r.output ∧
        (linesOf (lookup p inp.oldFiles) ≠ linesOf (some c) ∨ inp.reload = .force)) := by
  have hn : NoDupKeys inp.newFiles := hnf ▸ noDupKeys_newFiles safe res
  refine ⟨?_, ?_⟩
  · rw [(parseResult_ok_inv ud inp out he h).1]; exact afterLoop_noDup_files ud inp
  · simp only [parseResult_files_iff ud inp out he hn h p c, hnf, uploads_iff ud hud,
      (C19_new_files_from_winner dev gens res hrun hd safe p c _).1]
    constructor
    · rintro ⟨_, ⟨_, _, r, _, hw, hs, ho, _⟩, hup⟩
      exact ⟨r, hw, hs, ho, hup⟩
    · rintro ⟨r, hw, hs, ho, hup⟩
      obtain ⟨g, hg, hrung⟩ := (mem_produced dev gens r).mp hw.1
      exact ⟨r.reload, ⟨g, hg, r, hrung, hw, hs, ho, rfl⟩, hup⟩

/-! ### non-vacuity: concrete instances meeting the hypotheses above -/

section Examples

def exDev : Dev := { isPC := true, soft := "SONiC x".toList }

/-- three generators, two of them for `/a` (priorities 1 and 5), listed loser first -/
def exGens : List Gen :=
  [ { path := some "/a".toList, prio := some 1, run := .str "x".toList, reload := some "r1".toList, isSafe := true },
    { path := some "/a".toList, prio := some 5, run := .parts [.str "y".toList, .tup ["k".toList, "v".toList]],
      reload := none, isSafe := false },
    { path := some "/b".toList, prio := none, run := .str "z\n".toList, reload := some "r3".toList, isSafe := true },
    { path := none, prio := none, run := .none, reload := none, isSafe := true } ]

example : DistinctPrio (produced exDev exGens) := by unfold DistinctPrio; decide +kernel

example : ((runFileGenerators exDev exGens).map (newFiles false)).toOption =
    some [("/a".toList, ("y\nk v".toList, "/usr/bin/etckeeper commitreload /a".toList)),
         ("/b".toList, ("z\n".toList, "r3\n/usr/bin/etckeeper commitreload /b".toList))] := by decide +kernel

example : ((runFileGenerators exDev exGens.reverse).map (newFiles true)).toOption =
    some [("/b".toList, ("z\n".toList, "r3\n/usr/bin/etckeeper commitreload /b".toList))] := by decide +kernel

/-- the hypothesis `DistinctPrio` is needed: with equal priorities the first listed wins -/
example :
    let g (o : String) : Gen :=
      { path := some "/a".toList, prio := none, run := .str o.toList, reload := none, isSafe := true }
    ((runFileGenerators exDev [g "x", g "y"]).map (newFiles false)).toOption ≠
      ((runFileGenerators exDev [g "y", g "x"]).map (newFiles false)).toOption := by decide +kernel

def errOf {α : Type} : Except Err α → Option Err
  | .error e => some e
  | .ok _ => none

/-- a generator returning `None`, or yielding the word `None`, stops the whole run -/
example : errOf (runFileGenerators exDev
    [{ path := some "/a".toList, prio := none, run := .none, reload := none, isSafe := true }]) =
      some .exception := by decide +kernel
example : errOf (runFileGenerators exDev
    [{ path := some "/a".toList, prio := none, run := .str "x None".toList, reload := none, isSafe := true }]) =
      some .assertion := by decide +kernel
example : hasNoneWord "xNone None1 _None".toList = false := by decide +kernel

example : splitlines "a\r\nb\n\nc\x0cd\r".toList = ["a".toList, "b".toList, [], "c".toList, "d".toList] := by
  decide +kernel
example : Canonical "a\nb\n".toList := by unfold Canonical; decide +kernel
example : ¬ Canonical "a\nb".toList := by unfold Canonical; decide +kernel

/-- canonical texts, one changed and one equal file, reloads enabled: only the changed
file is uploaded, with its reload command; forcing uploads both -/
def exIn (r : Reload) (after : List Text) : JobIn :=
  { hostname := "h".toList, err := false,
    oldFiles := [("/a".toList, "x\n".toList), ("/b".toList, "z\n".toList)],
    newFiles := [("/a".toList, ("y\n".toList, "ra".toList)), ("/b".toList, ("z\n".toList, "rb".toList))],
    reload := r, drv := { before := [], after := after, exit := [] } }

example : NoDupKeys (exIn .yes []).newFiles := by unfold NoDupKeys; decide +kernel
example : (parseResult udToy (exIn .yes [])).toOption.map (fun o => (o.files, o.cmds)) =
    some ([("/a".toList, "y\n".toList)], [("/a".toList, "ra".toList)]) := by decide +kernel
example : (parseResult udToy (exIn .no [])).toOption.map (fun o => (o.files, o.cmds)) =
    some ([("/a".toList, "y\n".toList)], []) := by decide +kernel
example : (parseResult udToy (exIn .force ["sync".toList])).toOption.map (fun o => (o.files, o.cmds)) =
    some ([("/a".toList, "y\n".toList), ("/b".toList, "z\n".toList)],
          [("/a".toList, "ra\nsync".toList), ("/b".toList, "rb\nsync".toList)]) := by decide +kernel
/-- the `KeyError` branch: reloads disabled and a driver with closing commands -/
example : (parseResult udToy (exIn .no ["sync".toList])).toOption = none := by decide +kernel
example : (pcDiff udToy "h".toList (exIn .yes []).oldFiles (exIn .yes []).newFiles).map (·.1) =
    ["h//a".toList] := by decide +kernel

end Examples

end Annet.Files
