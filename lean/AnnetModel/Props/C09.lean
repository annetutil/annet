/-
C09 — The command stream sent at deploy is exactly the patch that was shown.

`Gen/ApplyTab.lean` holds the `%apply_logic` functions as a table regenerated from the real code.

Formatter theorems are stated for an *arbitrary* `block_exit` function `ex` that yields nothing,
`block_wrapper(x)` or one bare statement (`ExitOk`), and instantiated for the formatter classes
of annet (`blockExit f`, all of which are `ExitOk`: `C09_block_exit_wellformed`).
-/
import AnnetModel.Lemmas.Format
import AnnetModel.Lemmas.Deploy
import AnnetModel.Lemmas.Pre
import AnnetModel.Gen.ApplyTab

/-! OBLIGATIONS
Annet.Format.C09_block_exit_wellformed
Annet.Format.C09_shown_lines_are_block_paths
Annet.Format.C09_cmd_paths_total
Annet.Format.C09_paths_are_dedup_of_text
Annet.Format.C09_text_eq_paths
Annet.Format.C09_text_eq_paths_formatters
Annet.Format.C09_text_eq_paths_partial
Annet.Format.C09_text_eq_paths_false_dup
Annet.Format.C09_text_eq_paths_false_exit_row
Annet.Deploy.C09_body_in_order
Annet.Deploy.C09_only_wrapper_added
Annet.Deploy.C09_body_exact
Annet.Deploy.C09_no_commit_table
Annet.Deploy.C09_no_commit
Annet.Deploy.C09_no_commit_patch
Annet.Deploy.C09_rule_params
Annet.Deploy.C09_rule_params_stream
Annet.Deploy.C09_rule_params_false_overlap
-/

namespace Annet.Format
open Annet.Format.Spec

/-- every formatter class of annet has a well-formed `block_exit`, whatever the context -/
theorem C09_block_exit_wellformed (f : Fmt) (cx : FCtx) : ExitOk (blockExit f cx) := by
  -- each `block_exit` is a cascade of `if`s whose branches are `[]`, a wrapper, a bare statement or
  -- the base class's result
  open Lemmas in
  have hb := baseBlockExit_ok f cx
  unfold blockExit
  split
  · exact exitOk_nil
  · exact hb
  · exact exitOk_ite (exitOk_wrapper _) (exitOk_ite (exitOk_wrapper _)
      (exitOk_ite (exitOk_ite (exitOk_bare _) (exitOk_ite (exitOk_bare _) exitOk_nil)) hb))
  · exact exitOk_ite (exitOk_wrapper _) hb
  · exact exitOk_ite (exitOk_wrapper _) (exitOk_ite (exitOk_wrapper _)
      (exitOk_ite (exitOk_wrapper _) hb))

/-- The lines of `formatter.patch(pt)` are exactly the rows the block generator yields — the rows
of the PatchTree and the exit statements —, in order, each at depth `len(block path) − 1`
(`shownPaths` = the loop of `cmd_paths` without its dictionary). -/
theorem C09_shown_lines_are_block_paths (ex : FCtx → List Mark) (hex : ∀ cx, ExitOk (ex cx)) (pt : PT) :
    ∃ sp, shownPaths ex pt = .ok sp ∧ patchLinesOf ex pt = sp.map fun e => depthLast e.1 :=
  ⟨_, Lemmas.shownPaths_eq_flat ex hex pt, Lemmas.indentAux_eq_raw _ [] _ (Lemmas.shownPaths_eq_flat ex hex pt)⟩

/-- `cmd_paths` never raises (`path[-1]`, `path.pop()` are never applied to an empty list). -/
theorem C09_cmd_paths_total (ex : FCtx → List Mark) (hex : ∀ cx, ExitOk (ex cx)) (pt : PT) :
    ∃ ps, cmdPathsOf ex pt = .ok ps := by
  obtain ⟨sp, h, _⟩ := C09_shown_lines_are_block_paths ex hex pt
  exact ⟨odictOfList sp, by rw [Lemmas.cmdPathsOf_eq, h]; rfl⟩

/-- What is sent, in general: the block paths of the shown lines with every *repeated* block path
dropped (first occurrence kept) — same order otherwise. -/
theorem C09_paths_are_dedup_of_text (ex : FCtx → List Mark) (hex : ∀ cx, ExitOk (ex cx)) (pt : PT) :
    ∃ sp ps, shownPaths ex pt = .ok sp ∧ cmdPathsOf ex pt = .ok ps ∧
      patchLinesOf ex pt = sp.map (fun e => depthLast e.1) ∧
      ps.map (·.1) = dedupKeys (sp.map (·.1)) := by
  obtain ⟨sp, h, hl⟩ := C09_shown_lines_are_block_paths ex hex pt
  refine ⟨sp, odictOfList sp, h, by rw [Lemmas.cmdPathsOf_eq, h]; rfl, hl, Lemmas.odictOfList_keys sp⟩

/-- The equation `lines(patch(pt)) = [(len(p)−1, p[-1]) for p in cmd_paths(pt)]` — same commands, same order, same
depth, exits included, each exactly once — under the semantic hypothesis that no block path is shown twice
(`(sp.map (·.1)).Nodup`); `C09_text_eq_paths` derives that from the structural `NoDupPaths`. -/
theorem C09_text_eq_paths_partial (ex : FCtx → List Mark) (hex : ∀ cx, ExitOk (ex cx)) (pt : PT)
    (sp : List (List String × Ctx)) (hsp : shownPaths ex pt = .ok sp) (hnd : (sp.map (·.1)).Nodup) :
    cmdPathsOf ex pt = .ok sp ∧ patchLinesOf ex pt = sp.map fun e => depthLast e.1 := by
  obtain ⟨sp', h, hl⟩ := C09_shown_lines_are_block_paths ex hex pt
  rw [hsp] at h
  cases h
  refine ⟨?_, hl⟩
  rw [Lemmas.cmdPathsOf_eq, hsp]
  show Except.ok (odictOfList sp) = Except.ok sp
  rw [Lemmas.odictOfList_nodup sp hnd]

/-- FULL statement under the structural hypothesis `NoDupPaths` of the design: in every block of the
PatchTree the rows, the bare exit statements yielded at that level and the exit statement the
formatter appends to the block are pairwise distinct.  Then the lines of `patch(pt)` are exactly
`[(len(p)−1, p[-1]) for p in cmd_paths(pt)]` and every command path occurs once. -/
theorem C09_text_eq_paths (ex : FCtx → List Mark) (hex : ∀ cx, ExitOk (ex cx)) (pt : PT) (h : NoDupPaths ex pt) :
    ∃ ps, cmdPathsOf ex pt = .ok ps ∧ (patchLinesOf ex pt = ps.map fun e => depthLast e.1) ∧ (ps.map (·.1)).Nodup := by
  have hnd : ((flatTree ex none [] pt).map (·.1)).Nodup := by
    obtain ⟨items⟩ := pt
    exact Lemmas.nodup_flatItems ex items none none [] (by simpa using h.1) h.2
  obtain ⟨h1, h2⟩ := C09_text_eq_paths_partial ex hex pt _ (Lemmas.shownPaths_eq_flat ex hex pt) hnd
  exact ⟨_, h1, h2, hnd⟩

/-- … for every formatter class of annet (Common, Optixtrans, BlockExit, Huawei/H3C, Cisco, Nexus,
B4com, Aruba, Arista, Asr) and any indent. -/
theorem C09_text_eq_paths_formatters (f : Fmt) (pt : PT) (h : NoDupPaths (blockExit f) pt) :
    ∃ ps, cmdPaths f pt = .ok ps ∧ (patchLines f pt = ps.map fun e => depthLast e.1) ∧ (ps.map (·.1)).Nodup :=
  C09_text_eq_paths (blockExit f) (C09_block_exit_wellformed f) pt h

/-- non-vacuity of `NoDupPaths`: a Huawei patch with a nested block, an `xpl` block, exit statements -/
example :
    NoDupPaths (blockExit (mkHuawei "  "))
      (.mk [("interface Eth1", some (.mk [("mtu 9000", none, []), ("undo shutdown", none, [])]), []),
            ("xpl route-filter R", some (.mk [("if x then", some (.mk [("refuse", none, [])]), [])]), [])]) := by
  simp only [NoDupPaths, NoDupTree, NoDupItems]
  decide +kernel

/-- the same patch: 9 lines are shown and no block path twice (the hypothesis of `C09_text_eq_paths_partial`) -/
example :
    let pt : PT := .mk [("interface Eth1", some (.mk [("mtu 9000", none, []), ("undo shutdown", none, [])]), []),
                        ("xpl route-filter R", some (.mk [("if x then", some (.mk [("refuse", none, [])]), [])]), [])]
    (∃ sp, shownPaths (blockExit (mkHuawei "  ")) pt = .ok sp ∧ (sp.map (·.1)).Nodup ∧ sp.length = 9) := by
  refine ⟨_, rfl, by decide +kernel, by decide +kernel⟩

/-- Without the hypothesis the full statement is FALSE (finding F09a): a command shown twice among
siblings is one key of the path dictionary and is sent once. -/
theorem C09_text_eq_paths_false_dup :
    ¬ (∀ (f : Fmt) (pt : PT), ∃ ps, cmdPaths f pt = .ok ps ∧ patchLines f pt = ps.map fun e => depthLast e.1) := by
  intro h
  obtain ⟨ps, h1, h2⟩ := h (mkPlainExit "") (.mk [("no ipv6 nd suppress-ra", none, []), ("mtu 9000", none, []),
                                                   ("no ipv6 nd suppress-ra", none, [])])
  have e1 : (cmdPaths (mkPlainExit "") (.mk [("no ipv6 nd suppress-ra", none, []), ("mtu 9000", none, []),
      ("no ipv6 nd suppress-ra", none, [])])).toOption = some [(["no ipv6 nd suppress-ra"], []), (["mtu 9000"], [])] := by decide +kernel
  rw [h1] at e1
  cases e1
  revert h2
  decide +kernel

/-- … also with pairwise distinct sibling rows: a config row equal to the exit statement the
formatter appends to its block (`exit-address-family` inside `address-family …` on Cisco). -/
theorem C09_text_eq_paths_false_exit_row :
    ¬ (∀ (f : Fmt) (pt : PT), ∃ ps, cmdPaths f pt = .ok ps ∧ patchLines f pt = ps.map fun e => depthLast e.1) := by
  intro h
  obtain ⟨ps, h1, h2⟩ := h (mkCisco "") (.mk [("address-family ipv4", some (.mk [("exit-address-family", none, [])]), [])])
  have e1 : (cmdPaths (mkCisco "") (.mk [("address-family ipv4", some (.mk [("exit-address-family", none, [])]), [])])).toOption
      = some [(["address-family ipv4"], []), (["address-family ipv4", "exit-address-family"], [])] := by decide +kernel
  rw [h1] at e1
  cases e1
  revert h2
  decide +kernel

end Annet.Format

namespace Annet.Deploy
open Annet.Deploy.Spec Annet.Deploy.Lemmas
open Annet.Format (Ctx)

/-- Every command of the patch is handed to the driver, in the order of the patch, with its nesting
depth as `level` (the list of `(cmd, level)` of the command paths is a subsequence of the result). -/
theorem C09_body_in_order (rx : Rx) (tab : ApplyTab) (hw : String) (rules : List DRule)
    (paths : List (List String × Ctx)) (df dc : Bool) (out : List Cmd)
    (h : applyDeployRulebook rx tab hw rules paths df dc = .ok out) :
    (paths.map pathCmd).Sublist (out.map fun c => (c.cmd, c.level)) := by
  obtain ⟨cwa, gs, hf, hfl, _, hw⟩ := apply_decompose h
  have := (wrapped_sublist hw).map (fun c : Cmd => (c.cmd, c.level))
  rw [hfl, List.map_map] at this
  rw [← forall2_map_cmd hf]
  exact this

/-- … and nothing else is added than session-wrapper commands: every other command of the result
has level 0 and is a `before`/`after` command of the apply logic of the rule of some patch command. -/
theorem C09_only_wrapper_added (rx : Rx) (tab : ApplyTab) (hw : String) (rules : List DRule)
    (paths : List (List String × Ctx)) (df dc : Bool) (out : List Cmd)
    (h : applyDeployRulebook rx tab hw rules paths df dc = .ok out) :
    ∀ c ∈ out, (c.cmd, c.level) ∈ paths.map pathCmd ∨
      (c.level = 0 ∧ ∃ p ∈ paths, ∃ r b a, matchDeployRule rx rules p.1 p.2 = .ok r ∧
        applyLogic tab r.applyLogic hw dc df = .ok (b, a) ∧ c.cmd ∈ (b ++ a).map (·.cmd)) := by
  obtain ⟨cwa, gs, hf, hfl, _, hwr⟩ := apply_decompose h
  intro c hc
  rcases wrapped_mem hwr c hc with hb | ⟨w, hw', hl, hba⟩
  · left
    rw [← forall2_map_cmd hf, ← hfl]
    obtain ⟨x, hx, hxc⟩ := List.mem_map.mp hb
    exact List.mem_map.mpr ⟨x, hx, by rw [hxc]⟩
  · right
    refine ⟨hl, ?_⟩
    rw [hfl] at hw'
    obtain ⟨p, hp, hpw⟩ := hf.mem_right w hw'
    obtain ⟨r, hr, ha, _⟩ := (cmdOf_ok hpw).2
    refine ⟨p, hp, r, w.before, w.after, hr, ha, ?_⟩
    rw [List.map_append, List.mem_append]
    exact hba

/-- When every command of the patch resolves to the same apply logic (shipped rulebooks: always
`common.apply`, except Aruba's `ap-env` block), the list is exactly
`before ++ [(cmd, level) of the command paths, in order] ++ after`. -/
theorem C09_body_exact (rx : Rx) (tab : ApplyTab) (hw : String) (rules : List DRule)
    (paths : List (List String × Ctx)) (df dc : Bool) (out : List Cmd) (lg : String) (b a : List TabCmd)
    (h : applyDeployRulebook rx tab hw rules paths df dc = .ok out) (hne : paths ≠ [])
    (hlg : ∀ p ∈ paths, ∀ r, matchDeployRule rx rules p.1 p.2 = .ok r → r.applyLogic = lg)
    (hba : applyLogic tab lg hw dc df = .ok (b, a)) :
    ∃ b' body a', out = b' ++ body ++ a' ∧
      body.map (fun c => (c.cmd, c.level)) = paths.map pathCmd ∧
      b'.map (·.cmd) = b.map (·.cmd) ∧ a'.map (·.cmd) = a.map (·.cmd) ∧ ∀ c ∈ b' ++ a', c.level = 0 := by
  obtain ⟨cwa, gs, hf, _, hgs, hwr⟩ := apply_decompose h
  have hall : ∀ w ∈ cwa, w.before = b ∧ w.after = a := by
    intro w hw'
    obtain ⟨p, hp, hpw⟩ := hf.mem_right w hw'
    obtain ⟨r, hr, ha, _⟩ := (cmdOf_ok hpw).2
    rw [hlg p hp r hr, hba] at ha
    cases ha; exact ⟨rfl, rfl⟩
  have hcne : cwa ≠ [] := hf.ne_nil hne
  have hsingle : groupRuns groupKey cwa = [cwa] := by
    apply groupRuns_single groupKey cwa hcne
    intro x hx y hy
    simp [groupKey, (hall x hx).1, (hall x hx).2, (hall y hy).1, (hall y hy).2]
  rw [hsingle] at hgs
  subst hgs
  cases hwr with
  | @cons w ws gs' b' a' out' hb' ha' hrest =>
    cases hrest
    obtain ⟨hb1, hb2⟩ := fillCmds_spec hb'
    obtain ⟨ha1, ha2⟩ := fillCmds_spec ha'
    have hw := hall w List.mem_cons_self
    refine ⟨b', (w :: ws).map (·.cmd), a', by simp, ?_, by rw [hb1, hw.1], by rw [ha1, hw.2], ?_⟩
    · rw [List.map_map]
      exact forall2_map_cmd hf
    · exact List.forall_mem_append.2 ⟨hb2, ha2⟩

/-- non-vacuity of `C09_body_exact`: Huawei CE, two commands, commit and save -/
example :
    (applyDeployRulebook (rxGrammar []) Annet.Gen.applyTab "Huawei CE6870" []
      [(["interface Eth1"], []), (["interface Eth1", "mtu 9000"], [])] true true).toOption
    = some [⟨"system-view", [], 30000, 0⟩, ⟨"interface Eth1", [], 30000, 0⟩, ⟨"mtu 9000", [], 30000, 1⟩,
           ⟨"commit", [], 30000, 0⟩, ⟨"q", [], 30000, 0⟩, ⟨"save", [], 30000, 0⟩] := by decide +kernel

/-- The regenerated table of all `%apply_logic` functions (every hardware class × do_commit ×
do_finalize): no entry with `do_commit = false` contains a commit command.  (Finite table,
re-checked by the kernel whenever the real functions change.) -/
theorem C09_no_commit_table : tabNoCommit Annet.Gen.applyTab = true := by decide +kernel

/-- When committing is disabled, the only commit commands that can be sent are rows of the patch
itself: no session wrapper contains one. -/
theorem C09_no_commit (rx : Rx) (tab : ApplyTab) (htab : tabNoCommit tab = true) (hw : String) (rules : List DRule)
    (paths : List (List String × Ctx)) (df : Bool) (out : List Cmd)
    (h : applyDeployRulebook rx tab hw rules paths df false = .ok out) :
    ∀ c ∈ out, isCommitCmd c.cmd = true → (c.cmd, c.level) ∈ paths.map pathCmd := by
  intro c hc hcommit
  rcases C09_only_wrapper_added rx tab hw rules paths df false out h c hc with hb | ⟨_, p, _, r, b, a, _, ha, hmem⟩
  · exact hb
  · obtain ⟨x, hx, hxc⟩ := List.mem_map.mp hmem
    have := applyLogic_noCommit htab ha x hx
    rw [hxc, hcommit] at this
    cases this

/-- … and `make_patch(do_commit=False)` creates no item of a `%force_commit` rule, hence injects no
`commit` row: the rows of the built tree are exactly the rows the logic functions yielded. -/
theorem C09_no_commit_patch (rec : Patch.PRec) (v : Rules.Vendor) (ordering : List Rules.ORule) (raw : String)
    (attrs : Rules.PAttrs) (ys : List Patch.Yield) (items : List Patch.RawItem)
    (h : Patch.yieldsToItems rec v ordering false raw attrs ys = .ok items) :
    (∀ it ∈ items, it.forceCommit = false) ∧ (Patch.buildTree items).items.map (·.1) = items.map (·.row) := by
  have hfc : ∀ it ∈ items, it.forceCommit = false := fun it hit => by
    obtain ⟨y, hy, hi⟩ := (Patch.PreLemmas.yields_nrel rec v ordering false raw attrs ys items h).mem_right it hit
    rw [hi.2.2.1]
    cases hf : attrs.forceCommit
    · rfl
    · rw [hf] at hy; cases hy
  refine ⟨hfc, ?_⟩
  rw [Patch.PreLemmas.buildTree_flat items hfc]
  exact List.map_map

/-- For deploy rulebooks whose sibling rules have disjoint languages, every command of the patch
carries the timeout and the dialog answers of the rule at the end of the unique rule chain matching
its block path (`specChain`: ancestors no rule matches are skipped), and the defaults — 30 s, no
dialogs (`defaultRule`) — when no chain matches. -/
theorem C09_rule_params (rx : Rx) (tab : ApplyTab) (hw : String) (rules : List DRule) (hd : Disjoint rx rules)
    (df dc : Bool) (p : List String × Ctx) (w : WithApply)
    (h : cmdOf rx tab hw rules df dc p = .ok w) :
    w.cmd.timeout = (specChain rx p.2 rules p.1).timeout ∧
    questionsOf (specChain rx p.2 rules p.1).dialogs = .ok w.cmd.questions := by
  obtain ⟨r, hr, _, hq⟩ := (cmdOf_ok h).2
  have hs := matchDeployRule_spec rx p.2 p.1 rules r hd hr
  subst hs
  unfold makeCmdParams at hq
  split at hq
  · cases hq
  · rename_i qs hqs
    simp only [Except.ok.injEq, Prod.mk.injEq] at hq
    exact ⟨hq.2.symm, hq.1 ▸ hqs⟩

/-- … for the whole stream: the commands of the patch, one per command path and in the same order,
each with `(cmd, level)` of its path and the parameters of its rule chain, are a subsequence of
the list handed to the driver. -/
theorem C09_rule_params_stream (rx : Rx) (tab : ApplyTab) (hw : String) (rules : List DRule) (hd : Disjoint rx rules)
    (paths : List (List String × Ctx)) (df dc : Bool) (out : List Cmd)
    (h : applyDeployRulebook rx tab hw rules paths df dc = .ok out) :
    ∃ body : List Cmd, body.Sublist out ∧
      Forall2 (fun p c => (c.cmd, c.level) = pathCmd p ∧ c.timeout = (specChain rx p.2 rules p.1).timeout ∧
        questionsOf (specChain rx p.2 rules p.1).dialogs = .ok c.questions) paths body := by
  obtain ⟨cwa, gs, hf, hfl, hgs, hwr⟩ := apply_decompose h
  refine ⟨cwa.map (·.cmd), by rw [← hfl]; exact wrapped_sublist hwr, ?_⟩
  clear hwr hfl h hgs
  induction hf with
  | nil => exact Forall2.nil
  | cons hpw _ ih =>
    obtain ⟨h1, h2⟩ := C09_rule_params rx tab hw rules hd df dc _ _ hpw
    exact Forall2.cons ⟨(cmdOf_ok hpw).1, h1, h2⟩ ih

/-- non-vacuity: a disjoint rulebook, a chain with a skipped ancestor, and the default -/
example :
    let rules := [DRule.mk "undo peer *" 60000 "common.apply" [⟨"Continue? [Y/N]:", "Y", true⟩] [] [],
                  DRule.mk "bgp *" 30000 "common.apply" [] [] [DRule.mk "peer * enable" 5000 "common.apply" [] [] []]]
    let rx : Rx := fun rr row => rr == row || (rr == "undo peer *" && row == "undo peer 1.1.1.1")
      || (rr == "bgp *" && row == "bgp 65000") || (rr == "peer * enable" && row == "peer 1.1.1.1 enable")
    (specChain rx [] rules ["bgp 65000", "ipv4-family unicast", "peer 1.1.1.1 enable"]).timeout = 5000 ∧
    (specChain rx [] rules ["interface Eth1", "undo peer 1.1.1.1"]).timeout = 60000 ∧
    (specChain rx [] rules ["bgp 65000", "router-id 1.1.1.1"]).timeout = 30000 := by decide +kernel

/-- Without disjointness the statement is FALSE: `match_deploy_rule` rebinds `rules` while it keeps
iterating the old level, so with two matching siblings the *last* one's children are searched
although the first one would be returned at the last depth.  (Shipped rulebooks have no nested
deploy rules; recorded as a modelled curiosity, not as a finding of the property, whose quantifier
excludes overlapping siblings.) -/
theorem C09_rule_params_false_overlap :
    ¬ (∀ (rx : Rx) (rules : List DRule) (path : List String) (ctx : Ctx) (r : DRule),
        matchDeployRule rx rules path ctx = .ok r → r = specChain rx ctx rules path) := by
  intro h
  have := h (fun rr row => rr == row || rr == "~")
    [DRule.mk "a" 30000 "common.apply" [] [] [DRule.mk "x" 1000 "common.apply" [] [] []],
     DRule.mk "~" 30000 "common.apply" [] [] [DRule.mk "y" 2000 "common.apply" [] [] []]]
    ["a", "y"] [] (DRule.mk "y" 2000 "common.apply" [] [] []) (by rfl)
  have := congrArg DRule.timeout this
  revert this
  decide +kernel

end Annet.Deploy
