/-
C02 — A patch never touches configuration outside the generators' ACL.

Model: `Model/AclDiff.lean` (`applyAclDiff` = `apply_acl_diff`, `makeDiffAcl`, `deviceModeAcl` =
`_diff_and_patch` with an ACL) on top of the ACL model (C06), the diff/patch model (C03/C08) and the
device specification (C01).  Clauses of the property:
 (a) provenance form, proved end to end (`C02_device_patch_provenance`): every item of the patch tree, at every
     depth, stems from an entry of the ACL-filtered diff (`Patch.ProvT`: it is the entry's row, the removal
     command of a REMOVED/MOVED entry, or the `commit` of a `%force_commit` rule — nothing else can appear in a
     patch built by the common logics), and every such entry has a row the ACL matches at every level of its
     path and is deletable if REMOVED (`Covered`).
     The *text* reading (the command text itself is matched by the ACL) is false of the code when the
     ACL rule is longer than the removal command: `C02_paths_covered_false` (finding F02a).
 (b) proved at three levels.  On the device (`C02_outside_untouched_level`): commands on other (rule, key) slots
     leave a line, its subtree and its position alone.  At the top level of the patch `_diff_and_patch` builds
     (`C02_uncovered_line_untouched_flat` / `_device`): that an uncovered row never shares its slot with a covered
     one is a hypothesis (`OutsideFlat.AclSlotClosed`); without it the statement is false: finding F02b (decided
     by the oracle on the real code, witness in corpus/C02).  At every depth (`C02_uncovered_line_untouched_nested` /
     `C02_uncovered_subtree_untouched`), under `OutsideNested.Outside` on the shown diff.
 (c) proved: a REMOVED entry whose selected ACL match only has cant_delete generators is relabelled
     AFFECTED (`C02_commands_address_covered`: third premise of `Covered`), and no common logic emits a removal unless
     the REMOVED/MOVED bucket is non-empty (`C02_cant_delete_never_removed`).
 (d) no ACL owner / empty filter ⇒ empty diff and patch (`C02_no_generator_acl_no_patch`,
     `C02_empty_filter_no_patch`).
-/
import AnnetModel.Lemmas.GenFull
import AnnetModel.Lemmas.OutsideFlatExample
import AnnetModel.Lemmas.OutsideNestedExample
import AnnetModel.Lemmas.ProvenanceExample

/-! OBLIGATIONS
Annet.AclDiff.C02_commands_address_covered
Annet.AclDiff.C02_patch_provenance
Annet.AclDiff.C02_device_patch_provenance
Annet.AclDiff.C02_patch_provenance_nonvacuous
Annet.AclDiff.C02_acl_diff_only_drops
Annet.AclDiff.C02_acl_diff_ops
Annet.AclDiff.C02_cant_delete_never_removed
Annet.AclDiff.C02_outside_untouched_level
Annet.AclDiff.C02_paths_covered_false
Annet.AclDiff.C02_no_generator_acl_no_patch
Annet.AclDiff.C02_empty_filter_no_patch
Annet.AclDiff.C02_nothing_in_nothing_out
Annet.AclDiff.C02_uncovered_line_untouched_flat
Annet.AclDiff.C02_uncovered_line_untouched_device
Annet.AclDiff.C02_uncovered_line_untouched_instance
Annet.AclDiff.C02_uncovered_line_untouched_nested
Annet.AclDiff.C02_uncovered_subtree_untouched
Annet.AclDiff.C02_uncovered_subtree_untouched_instance
-/

namespace Annet.AclDiff
open Annet Annet.Diff

/-- (a), provenance form, and the cant_delete part of (c): see `Lemmas.Covered`. -/
theorem C02_commands_address_covered (v : Acl.Vendor) (rules : Acl.Rules) (d d' : List DItem)
    (h : applyAclDiff v rules d = .ok d') : Lemmas.Covered v rules d' :=
  Lemmas.covered_list v d rules d' h

/-- (a), from the diff to the patch: every item of the patch `make_patch(make_pre(d))` builds with the common logic
functions stems, level by level, from an entry of `d` (`Spec/Provenance.lean`). -/
theorem C02_patch_provenance (v : Rules.Vendor) (ordering : List Rules.ORule) (doCommit : Bool) (d : List DItem)
    (p : Patch.PTree) (h : Patch.makePatch v ordering doCommit (Patch.makePre d) = .ok p) : Patch.ProvT v d p :=
  Patch.patch_provenance v ordering doCommit d p h

/-- (a), end to end over `_diff_and_patch` with an ACL: there is a diff every entry of which is covered level by
level (and deletable if REMOVED) from whose entries every command of the patch stems, at every depth. -/
theorem C02_device_patch_provenance (pv : Rules.Vendor) (av : Acl.Vendor) (acl : Acl.Rules) (rules : Rules.PRules)
    (ordering : List Rules.ORule) (old new : Cfg) (r : Api.Result)
    (h : deviceModeAcl Patch.runLogic pv av acl rules ordering old new = .ok r) :
    ∃ d, Lemmas.Covered av acl d ∧ Patch.ProvT pv d r.patch := by
  obtain ⟨d, -, hp, hcov, -⟩ := OutsideNested.deviceModeAcl_inv h
  exact ⟨d, hcov, Patch.patch_provenance pv ordering true d _ hp⟩

/-- Non-vacuity: a two-level diff (an affected block with an added and a removed child, a removed top-level row)
whose patch is computed in the kernel and to which the provenance theorem applies. -/
theorem C02_patch_provenance_nonvacuous :
    Patch.makePatch Patch.ProvExample.v [] true (Patch.makePre Patch.ProvExample.d) = .ok Patch.ProvExample.p ∧
    Patch.ProvT Patch.ProvExample.v Patch.ProvExample.d Patch.ProvExample.p :=
  ⟨Patch.ProvExample.patch_eq,
   Patch.patch_provenance Patch.ProvExample.v [] true Patch.ProvExample.d Patch.ProvExample.p Patch.ProvExample.patch_eq⟩

/-- the ACL only drops diff entries: it adds none and keeps their order -/
theorem C02_acl_diff_only_drops (v : Acl.Vendor) (rules : Acl.Rules) (d d' : List DItem)
    (h : applyAclDiff v rules d = .ok d') : List.Sublist (d'.map (·.row)) (d.map (·.row)) :=
  Lemmas.acl_diff_rows_sublist v rules d d' h

/-- … and the only op it changes is REMOVED → AFFECTED -/
theorem C02_acl_diff_ops (v : Acl.Vendor) (rules : Acl.Rules) (d d' : List DItem)
    (h : applyAclDiff v rules d = .ok d') (i' : DItem) (hi : i' ∈ d') :
    ∃ i ∈ d, i.row = i'.row ∧ (i'.op = i.op ∨ (i.op = .removed ∧ i'.op = .affected)) := by
  induction d generalizing d' with
  | nil => rw [Lemmas.applyAclDiff_nil] at h; cases h; cases hi
  | cons i rest ih =>
    obtain ⟨oi, r, h1, h2, rfl⟩ := Lemmas.applyAclDiff_cons_ok h
    cases oi with
    | none =>
      obtain ⟨j, hj, hr⟩ := ih r h2 hi
      exact ⟨j, List.mem_cons_of_mem _ hj, hr⟩
    | some i'' =>
      rcases List.mem_cons.1 hi with rfl | hi
      · exact ⟨i, List.mem_cons_self .., Lemmas.aclDiffItem_row_op h1⟩
      · obtain ⟨j, hj, hr⟩ := ih r h2 hi
        exact ⟨j, List.mem_cons_of_mem _ hj, hr⟩

/-- (c): with an empty REMOVED and MOVED bucket — which is what a cant_delete row gets, its REMOVED entry
having been relabelled — no common logic emits a removal command. -/
theorem C02_cant_delete_never_removed (pv : Rules.Vendor) (attrs : Rules.PAttrs) (key : List String)
    (a f u : List Patch.PreEntry) (ys : List Patch.Yield)
    (h : Patch.runLogic pv attrs (.mk key a [] [] f u) = .ok ys) : ∀ y ∈ ys, y.direct = true := by
  intro y hy
  -- a yield is direct, or the removal command of a (rule, key) whose REMOVED or MOVED bucket is not empty
  rcases Patch.Prov.runLogic_ok pv attrs _ ys h y hy with hd | ⟨_, _, _, x, hx⟩
  · exact hd.1
  · cases hx

set_option linter.unusedVariables false in
/-- (b) on the device: a whole list of commands none of which addresses slot `s` leaves the line holding
`s` exactly as it was (text, subtree), at any level.  Under `hwf` (one line per slot) each side is that one line; the
equation holds of any level. -/
theorem C02_outside_untouched_level (env : Device.Env) (rules : Rules.PRules) (cs : List String)
    (kids : List (String × Cfg)) (s : Device.Abs.Slot) (hwf : Device.Abs.WF rules kids)
    (hother : ∀ c ∈ cs, Device.Abs.slotOf rules c ≠ some s ∧
      ∀ r', Device.stripReverse env c = some r' → Device.Abs.slotOf rules r' ≠ some s) :
    (cs.foldl (fun k c => Device.execLeaf env rules c k) kids).filter (fun e => Device.Abs.slotOf rules e.1 == some s) =
      kids.filter (fun e => Device.Abs.slotOf rules e.1 == some s) :=
  List.foldlRecOn (motive := fun k => k.filter (fun e => Device.Abs.slotOf rules e.1 == some s) =
      kids.filter (fun e => Device.Abs.slotOf rules e.1 == some s)) cs _ rfl fun k hk c hc =>
    (Device.Lemmas.leaf_preserves_others' env rules c k s (hother c hc).1 (hother c hc).2).trans hk

/-- F02a: the text reading of (a) is false.  ACL `snmp-agent sys-info contact ~` covers the line
`snmp-agent sys-info contact admin`; the patching rule `snmp-agent sys-info *` removes it with
`undo snmp-agent sys-info contact`, which the ACL matches neither directly nor in reverse form. -/
theorem C02_paths_covered_false :
    let acl := Acl.compileAcl [[.mk "snmp-agent sys-info contact ~" false false [false] 0 [] []]]
    let v : Acl.Vendor := { reverse := "undo" }
    (match Acl.matchRowToAcl v "snmp-agent sys-info contact admin" acl false with
      | .ok (some _) => true | _ => false) = true ∧
    (match Acl.matchRowToAcl v "undo snmp-agent sys-info contact" acl false with
      | .ok none => true | _ => false) = true := by
  decide +kernel

/-! ### from the generators to the patch (`_old_new_per_device` ∘ `_diff_and_patch`) -/

/-- NO OWNER, NO COMMAND: when no selected generator provides an ACL rule for the device (and `--no-acl` is off), whatever the
device holds and whatever the generators would yield, no diff entry is shown and the patch is empty — for any ACL object,
rulebook and logic table handed to `_diff_and_patch`. -/
theorem C02_no_generator_acl_no_patch (v : Acl.Vendor) (sp : Gen.Splitter) (gens : List Gen.GenDef) (exclusive : Bool)
    (filter : Option (List Acl.RawRule)) (old : Cfg) (r : Gen.OldNew) (hg : ∀ g ∈ gens, g.acl = [])
    (h : Gen.oldNewFull v sp gens false exclusive filter old = .ok r)
    (lg : Patch.LogicFn) (pv : Rules.Vendor) (acl : Acl.Rules) (rules : Rules.PRules) (ordering : List Rules.ORule)
    (res : Api.Result) (hres : deviceModeAcl lg pv v acl rules ordering r.old r.new = .ok res) :
    res.diff = [] ∧ res.patch.items = [] := by
  obtain ⟨ho, hn⟩ := Gen.oldNewFull_no_acl_rules v sp gens exclusive filter old r hg h
  rw [ho, hn, Pipeline.deviceModeAcl_nil] at hres
  cases hres
  exact ⟨rfl, rfl⟩

/-- A requested filter that has no rule: nothing is shown, nothing is sent. -/
theorem C02_empty_filter_no_patch (v : Acl.Vendor) (sp : Gen.Splitter) (gens : List Gen.GenDef) (noAcl exclusive : Bool)
    (old : Cfg) (r : Gen.OldNew) (h : Gen.oldNewFull v sp gens noAcl exclusive (some []) old = .ok r)
    (lg : Patch.LogicFn) (pv : Rules.Vendor) (acl : Acl.Rules) (rules : Rules.PRules) (ordering : List Rules.ORule)
    (res : Api.Result) (hres : deviceModeAcl lg pv v acl rules ordering r.old r.new = .ok res) :
    res.diff = [] ∧ res.patch.items = [] := by
  obtain ⟨ho, hn⟩ := Gen.oldNewFull_empty_filter v sp gens noAcl exclusive old r h
  rw [ho, hn, Pipeline.deviceModeAcl_nil] at hres
  cases hres
  exact ⟨rfl, rfl⟩

/-- `_diff_and_patch` on two empty configurations succeeds with an empty diff and an empty patch (so the two theorems above
are not vacuous: the pipeline does not fail there). -/
theorem C02_nothing_in_nothing_out (lg : Patch.LogicFn) (pv : Rules.Vendor) (av : Acl.Vendor) (acl : Acl.Rules)
    (rules : Rules.PRules) (ordering : List Rules.ORule) :
    ∃ res, deviceModeAcl lg pv av acl rules ordering (.mk []) (.mk []) = .ok res ∧ res.diff = [] ∧ res.patch.items = [] :=
  ⟨_, Pipeline.deviceModeAcl_nil lg pv av acl rules ordering, rfl, rfl⟩

/-! ### clause (b), end to end at the top level (`Lemmas/OutsideFlat.lean`) -/

/-- (b), from the two configurations to the device: if no line of `old` or `new` that the ACL covers addresses slot `s`
(as written or through its negated form: `AclSlotClosed`, the hypothesis finding F02b shows to be necessary), then executing
the leaf commands — and also the rows of all top-level items — of the patch `_diff_and_patch` builds leaves the line that
holds `s` exactly as it was, whatever the device holds.  `ReverseInSlot`: the removal command of a rule, read back by the
device, deletes that rule's slot (derived from `Converge.CmdsOK`; proved for the example rulebook). -/
theorem C02_uncovered_line_untouched_flat (pv : Rules.Vendor) (av : Acl.Vendor) (acl : Acl.Rules) (rules : Rules.PRules)
    (ordering : List Rules.ORule) (old new : Cfg) (res : Api.Result) (env : Device.Env) (s : Device.Abs.Slot)
    (h : deviceModeAcl Patch.runLogic pv av acl rules ordering old new = .ok res)
    (hrev : OutsideFlat.ReverseInSlot pv env rules) (hraw : OutsideFlat.RawDetRow rules)
    (hcommit : OutsideFlat.NoForceCommit rules ∨ OutsideFlat.addresses env rules "commit" s = false)
    (hc : OutsideFlat.AclSlotClosed av acl env rules old new s)
    (kids : List (String × Cfg)) :
    ((OutsideFlat.leafCmds res.patch).foldl (fun k c => Device.execLeaf env rules c k) kids).filter
        (fun e => Device.Abs.slotOf rules e.1 == some s) =
      kids.filter (fun e => Device.Abs.slotOf rules e.1 == some s) ∧
    ((OutsideFlat.topCmds res.patch).foldl (fun k c => Device.execLeaf env rules c k) kids).filter
        (fun e => Device.Abs.slotOf rules e.1 == some s) =
      kids.filter (fun e => Device.Abs.slotOf rules e.1 == some s) :=
  ⟨OutsideFlat.outside_cmds h hrev hraw hcommit (OutsideFlat.diff_outside_of_closed h hc)
      (OutsideFlat.leafCmds_subset _) kids,
    OutsideFlat.outside_cmds h hrev hraw hcommit (OutsideFlat.diff_outside_of_closed h hc) (fun _ hc => hc) kids⟩

/-- The same conclusion for `Device.applyCmds` over the linearised patch, with the hypothesis on the shown diff (`hs`;
`AclSlotClosed` implies it by `OutsideFlat.diff_outside_of_closed`), for rulebooks without `%rewrite` rules at this level. -/
theorem C02_uncovered_line_untouched_device (pv : Rules.Vendor) (av : Acl.Vendor) (acl : Acl.Rules) (rules : Rules.PRules)
    (ordering : List Rules.ORule) (old new : Cfg) (res : Api.Result) (env : Device.Env) (s : Device.Abs.Slot)
    (h : deviceModeAcl Patch.runLogic pv av acl rules ordering old new = .ok res)
    (hrev : OutsideFlat.ReverseInSlot pv env rules) (hraw : OutsideFlat.RawDetRow rules) (hrw : OutsideFlat.NoRewrite rules)
    (hcommit : OutsideFlat.NoForceCommit rules ∨ OutsideFlat.addresses env rules "commit" s = false)
    (hs : ∀ e ∈ res.diff, OutsideFlat.addresses env rules e.row s = false) (dev : Cfg) :
    (Device.applyCmds env rules (Device.Abs.flatPaths res.patch) dev).kids.filter
        (fun e => Device.Abs.slotOf rules e.1 == some s) =
      dev.kids.filter (fun e => Device.Abs.slotOf rules e.1 == some s) := by
  rw [OutsideFlat.applyCmds_flatPaths env rules hrw]
  exact OutsideFlat.outside_cmds h hrev hraw hcommit hs (fun _ hc => hc) dev.kids

/-- Non-vacuity: rules `user *`, `ntp *`, ACL `user *` only, old = {user alice, ntp 1.1.1.1}, new = {user bob, ntp 2.2.2.2}:
the pipeline succeeds, and executing its patch leaves `ntp 1.1.1.1` in place although new does not hold it. -/
theorem C02_uncovered_line_untouched_instance :
    ∃ res, deviceModeAcl Patch.runLogic OutsideFlat.Example.v OutsideFlat.Example.av OutsideFlat.Example.acl
        OutsideFlat.Example.rules [] OutsideFlat.Example.old OutsideFlat.Example.new = .ok res ∧
      (((OutsideFlat.leafCmds res.patch).foldl (fun k c => Device.execLeaf OutsideFlat.Example.env OutsideFlat.Example.rules c k)
          OutsideFlat.Example.old.kids).filter
        (fun e => Device.Abs.slotOf OutsideFlat.Example.rules e.1 == some OutsideFlat.Example.s)).map (·.1) = ["ntp 1.1.1.1"] := by
  refine ⟨_, OutsideFlat.Example.res_ok, ?_⟩
  rw [OutsideFlat.Example.outside_flat_of_closed_instance _ OutsideFlat.Example.res_ok]
  exact OutsideFlat.Example.input_evaluated.1.1

/-! ### clause (b) at every depth (`Lemmas/OutsideNested.lean`) -/

/-- (b), nested: along a path `p` of blocks whose own diff entries (if any) are the block line itself, neither REMOVED nor
MOVED (`OutsideNested.Outside`, decidable, on the shown diff), a slot `s` below `p` that no diff entry of that level
addresses keeps exactly its lines — text, subtrees, order — when the tree of the patch `_diff_and_patch` builds is executed
(`ConvergeNested.applyTree`, the executor of `C01_nested_converges`), whatever the device holds.  If some block on the path
has no diff entry at all nothing is asked below it.  `PathOK`: the rulebook hypotheses of
`C02_uncovered_line_untouched_flat` (`ReverseInSlot`, `RawDetRow`, `commit` harmless) at the rule sets reached along `p`
(from `NestedRules`, `CmdsOKAll` and `UniquePath` by `OutsideNested.pathOK_of_nested`). -/
theorem C02_uncovered_line_untouched_nested (pv : Rules.Vendor) (av : Acl.Vendor) (acl : Acl.Rules) (rules : Rules.PRules)
    (ordering : List Rules.ORule) (old new : Cfg) (res : Api.Result) (env : Device.Env) (p : List String)
    (s : Device.Abs.Slot)
    (h : deviceModeAcl Patch.runLogic pv av acl rules ordering old new = .ok res)
    (hok : OutsideNested.PathOK pv env rules p s)
    (hs : OutsideNested.Outside env rules res.diff p s)
    (dev : Cfg) (ls : List (String × Cfg)) (hdev : OutsideNested.slotLinesAt rules dev.kids p s = some ls) :
    OutsideNested.slotLinesAt rules (ConvergeNested.applyTree env rules res.patch dev.kids) p s = some ls :=
  OutsideNested.outside_nested h hok hs dev ls hdev

/-- The property's own wording: the line `r` below the block path `p` (under `Outside` the patch keeps its blocks), with its
whole subtree, is unchanged. -/
theorem C02_uncovered_subtree_untouched (pv : Rules.Vendor) (av : Acl.Vendor) (acl : Acl.Rules) (rules : Rules.PRules)
    (ordering : List Rules.ORule) (old new : Cfg) (res : Api.Result) (env : Device.Env) (p : List String) (r : String)
    (s : Device.Abs.Slot)
    (h : deviceModeAcl Patch.runLogic pv av acl rules ordering old new = .ok res)
    (hok : OutsideNested.PathOK pv env rules p s) (hs : OutsideNested.Outside env rules res.diff p s)
    (hr : (OutsideNested.rulesAt rules p).bind (fun cr => Device.Abs.slotOf cr r) = some s)
    (dev c : Cfg) (hdev : OutsideNested.subtreeAt dev.kids (p ++ [r]) = some c) :
    OutsideNested.subtreeAt (ConvergeNested.applyTree env rules res.patch dev.kids) (p ++ [r]) = some c :=
  OutsideNested.outside_subtree h hok hs hr dev c hdev

/-- Non-vacuity at depth 2: rulebook `interface * { sub * { ip }, mtu, description }`, `sysname`; ACL `interface * { mtu }`;
old `interface a { mtu 1500; description uplink; sub 1 { ip 1 } }`, new `interface a { mtu 9000; sub 1 { ip 2 } }`: after
the patch `description uplink` is still below `interface a`, although new lacks it. -/
theorem C02_uncovered_subtree_untouched_instance :
    OutsideNested.subtreeAt (ConvergeNested.applyTree ConvergeNested.Example.env ConvergeNested.Example.rules
        OutsideNested.Example.exRes.patch OutsideNested.Example.old.kids) ["interface a", "description uplink"] =
      some (.mk []) :=
  OutsideNested.Example.outside_subtree_instance

end Annet.AclDiff
