/-
C03 — The diff is a faithful, lossless description of old versus new.

`callDiffLogic` groups rows by diff logic and concatenates the groups' diffs, so the projection laws are stated per group
(= per call of `baseDiff`, the body `default_diff`, `ordered_diff` and `rewrite_diff` share), for an arbitrary recursive
callee; then for the whole `make_diff`, the two textual views, `collapse_diffs` and, in namespace `Annet.Multiline`,
`multiline_diff`.
-/
import AnnetModel.Lemmas.Diff
import AnnetModel.Lemmas.DiffTextPre
import AnnetModel.Lemmas.DiffWhole
import AnnetModel.Lemmas.Collapse
import AnnetModel.Lemmas.Multiline

/-! OBLIGATIONS
Annet.Diff.C03_proj_new
Annet.Diff.C03_proj_old
Annet.Diff.C03_ops_exact
Annet.Diff.C03_moved_characterisation
Annet.Diff.C03_self_diff_empty
Annet.Diff.C03_strip_idempotent
Annet.Diff.C03_make_diff_ops_exact
Annet.Diff.C03_make_diff_projections
Annet.Diff.C03_diff_text_roundtrip
Annet.Diff.C03_diff_text_roundtrip_strict
Annet.Diff.C03_diff_text_injective
Annet.Diff.C03_stripped_diff_has_text
Annet.Diff.C03_pre_text_roundtrip
Annet.Diff.C03_text_rows_ok_shipped_formatters
Annet.Diff.C03_moved_iff_relative_order_false
Annet.Diff.C03_proj_old_order_false
Annet.Diff.C03_collapse_partition
Annet.Diff.C03_collapse_group_same_text
Annet.Diff.C03_collapse_runs_maximal
Annet.Diff.C03_collapse_faithful
Annet.Multiline.C03_multiline_total
Annet.Multiline.C03_multiline_entry_iff
Annet.Multiline.C03_multiline_children_lossless
Annet.Multiline.C03_multiline_reports_nonempty_changes_partial
Annet.Multiline.C03_multiline_empty_block_false
Annet.Multiline.C03_multiline_body_emptied_false
Annet.Multiline.C03_multiline_body_emptied_false_fixed
Annet.Multiline.C03_multiline_self_diff_empty
Annet.Multiline.C03_multiline_entry_iff_fixed
Annet.Multiline.C03_multiline_children_lossless_fixed
Annet.Multiline.C03_multiline_reports_all_fixed
Annet.Multiline.C03_multiline_empty_block_reported_fixed
Annet.Multiline.C03_multiline_self_diff_empty_fixed
-/

namespace Annet.Diff
open Annet.Rules Annet.Diff.Spec

/-- Dropping removed lines yields the new configuration, *in new's order* (so in particular for the rows
of `%ordered` rules).
`hp`: below a REMOVED parent a common row is labelled REMOVED; in real runs `new` is empty there. -/
theorem C03_proj_new (rec : Rec) (pops : List Pop) (m2a : Bool) (old new : Level) (d : List DItem)
    (h : baseDiff rec pops m2a old new = .ok d) (hp : new = [] ∨ lastOp pops ≠ .removed) :
    (d.filter (fun i => i.op != .removed)).map (·.row) = rowsOf new :=
  Lemmas.baseDiff_proj_new h hp

/-- Dropping added lines yields the old configuration — as a multiset of rows.  The ordered reading is
false of the code, see `C03_proj_old_order_false`.
`hp`: below an ADDED parent a common row is labelled ADDED; in real runs `old` is empty there. -/
theorem C03_proj_old (rec : Rec) (pops : List Pop) (m2a : Bool) (old new : Level) (d : List DItem)
    (h : baseDiff rec pops m2a old new = .ok d) (hp : old = [] ∨ lastOp pops ≠ .added)
    (ho : (rowsOf old).Nodup) (hn : (rowsOf new).Nodup) :
    ((d.filter (fun i => i.op != .added)).map (·.row)).Perm (rowsOf old) :=
  Lemmas.baseDiff_proj_old h hp ho hn

/-- A line is reported added only if absent from old, removed only if absent from new, and every other
op only for lines present on both sides.
`hpa`, `hpr`: as for the two projections. -/
theorem C03_ops_exact (rec : Rec) (pops : List Pop) (m2a : Bool) (old new : Level) (d : List DItem)
    (h : baseDiff rec pops m2a old new = .ok d)
    (hpa : old = [] ∨ lastOp pops ≠ .added) (hpr : new = [] ∨ lastOp pops ≠ .removed)
    (i : DItem) (hi : i ∈ d) :
    (i.op = .added → hasRow old i.row = false ∧ hasRow new i.row = true) ∧
    (i.op = .removed → hasRow old i.row = true ∧ hasRow new i.row = false) ∧
    (i.op ≠ .added → i.op ≠ .removed → hasRow old i.row = true ∧ hasRow new i.row = true) := by
  open Lemmas in
  cases baseDiff_items (Q := fun _ _ _ _ => True) (fun _ _ _ _ _ => trivial) h i hi with
  | removed he hnew _ => simp [row_mk, hasRow_of_mem he, hnew]
  | @kept e _ k hget _ =>
    have h3 := hasRow_of_mem (List.mem_of_getElem? hget)
    rcases opAt_cases pops m2a old (disorderUpTo old new k) e.1 with ⟨ha, hb⟩ | ⟨hb, hc⟩
    · simp [row_mk, ha, hb, h3]
    · simp [common_op_ne hpa hb hc (by decide), common_op_ne hpr h3 hc (by decide), row_mk, hb, h3]

/-- In an `%ordered` group a common row is MOVED iff, up to and including its position in `new`, some
row is new or sits at another index than in `old` (this *is* `block_in_disorder`). -/
theorem C03_moved_characterisation (rec : Rec) (pops : List Pop) (old new : Level) (d : List DItem)
    (h : baseDiff rec pops false old new = .ok d) (hn : (rowsOf new).Nodup)
    (k : Nat) (e : String × PMatch × ACfg) (hk : new[k]? = some e) (hcommon : hasRow old e.1 = true) :
    ∃ i ∈ d, i.row = e.1 ∧ i.op = (if disorderUpTo old new k then Op.moved else lastOp pops) := by
  open Lemmas in
  have _ := hn
  obtain ⟨rs, ns, -, hnw, rfl⟩ := baseDiff_iff.1 h
  obtain ⟨x, hx, k', cs, hk', -, rfl⟩ := hnw.get (b := (e, k)) (by rw [List.getElem?_zipIdx, hk]; simp)
  obtain rfl : k' = k := by simp only at hk'; omega
  refine ⟨_, List.mem_map.2 ⟨_, (sortIdx_perm _).mem_iff.2 (List.mem_append_right _ (List.mem_of_getElem? hx)), rfl⟩,
    rfl, ?_⟩
  simp [opAt, hcommon, disClosed_top]

/-- Comparing a configuration with itself reports no change, at any depth, for every rulebook over the
standard diff logics (default, ordered, rewrite). -/
theorem C03_self_diff_empty (fuel : Nat) (a : ACfg) (d : List DItem)
    (hnd : NoDupRows a) (hf : adepth a < fuel)
    (h : callDiffLogic fuel [.op .affected] a.kids a.kids = .ok d) :
    stripUnchanged (markUnchanged d) = [] := by
  have _ := hf
  exact Lemmas.strip_of_all_unchanged _ (Lemmas.markUnchanged_allAffected_list d
    (Lemmas.callDiffLogic_self fuel [.op .affected] a d (by simp [lastOp]) hnd h))

/-- `strip_unchanged` applied to what is shown changes nothing: the shown diff is a fixed point. -/
theorem C03_strip_idempotent (d : List DItem) : stripUnchanged (stripUnchanged d) = stripUnchanged d :=
  Lemmas.strip_idempotent_list d

/-! The theorems above speak of one diff-logic group with an arbitrary recursive callee.  The next two lift them over the
groups of a level (`call_diff_logic`), over the depth (the fuel is never exhausted) and through `mark_unchanged`. -/

/-- Ops are exact at every depth of the diff `make_diff` returns, for any of the three standard diff logics.
`NoDupRows`: sibling rows are distinct (Python dict keys); without it the statement is false for a repeated block row. -/
theorem C03_make_diff_ops_exact (rules : PRules) (old new : Cfg) (ao an : ACfg) (d : List DItem)
    (ha : annotate rules old = .ok ao) (hn : annotate rules new = .ok an)
    (hdo : NoDupRows ao) (hdn : NoDupRows an)
    (h : makeDiff rules old new = .ok d) :
    ExactL ao.kids an.kids d :=
  Lemmas.makeDiff_ops_exact rules old new ao an d ha hn hdo hdn h

/-- From the diff alone both inputs can be reconstructed, with block nesting intact: dropping ADDED entries (at every
depth) gives `old`, dropping REMOVED entries gives `new`, each restricted to the rows the rulebook knows, per level as a
multiset — for rulebooks comparing with `default_diff` / `ordered_diff` (`rewrite_diff` drops a group that did not
change, by design). -/
theorem C03_make_diff_projections (rules : PRules) (old new : Cfg) (ao an : ACfg) (d : List DItem)
    (ha : annotate rules old = .ok ao) (hn : annotate rules new = .ok an)
    (hdo : NoDupRows ao) (hdn : NoDupRows an) (hpo : PlainLogics ao) (hpn : PlainLogics an)
    (h : makeDiff rules old new = .ok d) :
    RPerm (projOld d) (rtreeOfL ao.kids) ∧ RPerm (projNew d) (rtreeOfL an.kids) :=
  Lemmas.makeDiff_projections rules old new ao an d ha hn hdo hdn hpo hpn h

/-! The textual views carry the same information.  `DiffText.diffText` models `formatter.diff(diff)` (`CommonFormatter._diff_lines`), `DiffText.preText` models
`gen_pre_as_diff(make_pre(diff))`; both are compared line by line with the real functions on every run (four
formatter shapes: no marks, Junos `{ } ;`, Nokia `{ }`, RouterOS `/`).  `parseSigned` / `parsePre` are the readers. -/

/-- Reading the deploy-confirmation view back gives the same entries with the same signs and nesting, for every
formatter with a non-empty indent unit and every entry forest whose printed rows do not begin with the indent unit
and are not mistaken for a block-end mark (`RowsOK`). -/
theorem C03_diff_text_roundtrip (f : DiffText.Fmt) (d : List DiffText.SItem)
    (hf : DiffText.FmtOK f) (hd : DiffText.RowsOK f d) :
    DiffText.parseSigned f (DiffText.diffText f d) = some d :=
  DiffText.diff_text_roundtrip f d hf hd

/-- The same for the strict reader (the twin of the harness's reader), which also requires every block-end line (`}`) to
close a block of its own sign and level: the text is well nested on the old and on the new side. -/
theorem C03_diff_text_roundtrip_strict (f : DiffText.Fmt) (d : List DiffText.SItem)
    (hf : DiffText.FmtOK f) (hd : DiffText.RowsOK f d) :
    DiffText.parseSignedStrict f (DiffText.diffText f d) = some d :=
  DiffText.diff_text_roundtrip_strict f d hf hd

/-- Hence two diffs with the same text are the same diff (signs, rows, nesting). -/
theorem C03_diff_text_injective (f : DiffText.Fmt) (d1 d2 : List DiffText.SItem) (hf : DiffText.FmtOK f)
    (h1 : DiffText.RowsOK f d1) (h2 : DiffText.RowsOK f d2)
    (h : DiffText.diffText f d1 = DiffText.diffText f d2) : d1 = d2 :=
  DiffText.diff_text_injective f d1 d2 hf h1 h2 h

/-- What is printed is a stripped diff, and a stripped diff has a sign for every entry at every depth
(`sign_map[flag]` cannot raise). -/
theorem C03_stripped_diff_has_text (d : List DItem) :
    ∃ s, DiffText.signedList (stripUnchanged d) = some s :=
  DiffText.signedList_stripUnchanged d

/-- The `annet diff` view: reading `gen_pre_as_diff(make_pre(d))` back gives the entries of `d`, per level as a
multiset (`make_pre` regroups the entries by rule and key, the printer by operation), for every indent of `k > 0`
blanks and rows that do not begin with a blank. -/
theorem C03_pre_text_roundtrip (k : Nat) (hk : 0 < k) (d : List DItem) (s : List DiffText.SItem)
    (hs : DiffText.signedList d = some s) (hb : DiffText.NoLeadBlank s) :
    ∃ p, DiffText.parsePre k (DiffText.preText (List.replicate k ' ') d) = some p ∧ DiffText.SPermv p s := by
  have hp := DiffText.makePre_spermv d s hs
  exact ⟨_, DiffText.parsePre_preLines k hk (Patch.makePre d) ((DiffText.noLeadBlank_spermv hp).mpr hb), hp⟩

/-- For the shipped formatter shapes the side condition is just "no row begins with a blank" (configuration rows
never do: the parsers strip them): formatters without marks (indent of blanks) and the Junos-like one. -/
theorem C03_text_rows_ok_shipped_formatters (d : List DiffText.SItem) (h : DiffText.NoLeadBlank d) :
    (DiffText.FmtOK DiffText.plainFmt ∧ DiffText.RowsOK DiffText.plainFmt d) ∧
    (DiffText.FmtOK DiffText.junosFmt ∧ DiffText.RowsOK DiffText.junosFmt d) :=
  ⟨⟨DiffText.fmtOK_plain, DiffText.rowsOK_plain d h⟩, ⟨DiffText.fmtOK_junos, DiffText.rowsOK_junos d h⟩⟩

private def m0 : PMatch := { rawRule := "x *  %ordered", key := [], attrs :=
  { row := "x *", logic := "common.ordered", diffLogic := "common.ordered_diff", parent := false, forceCommit := false } }
private def lvl (rows : List String) : Level := rows.map fun r => (r, m0, ACfg.mk [])
private def ops (r : Except Err (List DItem)) : List (String × String) :=
  match r with
  | .ok d => d.map fun i => (i.op.name, i.row)
  | .error _ => []

/-- F03a: "MOVED iff its relative order changed" fails: `[a,b,c] → [b,a,c]` reports `c` as MOVED. -/
theorem C03_moved_iff_relative_order_false :
    ops (callDiffLogic 3 [.op .affected] (lvl ["x a", "x b", "x c"]) (lvl ["x b", "x a", "x c"]))
      = [("moved", "x b"), ("moved", "x a"), ("moved", "x c")] := by decide +kernel

/-- F03b: the old order is not recoverable: `[a,b,c] → [c,a]`, dropping added lines gives `[c,a,b]`. -/
theorem C03_proj_old_order_false :
    (ops (callDiffLogic 3 [.op .affected] (lvl ["x a", "x b", "x c"]) (lvl ["x c", "x a"]))).map (·.2)
      = ["x c", "x a", "x b"] := by decide +kernel

example : ops (baseDiff (callDiffLogic 2) [.op .affected] true (lvl ["x a", "x b"]) (lvl ["x b", "x c"]))
    = [("affected", "x b"), ("removed", "x a"), ("added", "x c")] := by decide +kernel

/-! ### several devices: `collapse_diffs` (annet/diff.py), the grouping behind `annet diff` and the deploy confirmation -/

/-- Every device is shown in exactly one group: the device names of all groups, concatenated, are the device names
given, up to order. -/
theorem C03_collapse_partition {δ : Type} (es : List (Collapse.Entry δ)) :
    ((Collapse.collapse es).flatMap (·.1)).Perm (es.map (·.dev)) := by
  rw [Collapse.collapse_devs]
  exact (Collapse.groups_perm es).map _

/-- What is shown for a group is the diff of one of its members, and every member of the group has the same
(transformed) text as that member. -/
theorem C03_collapse_group_same_text {δ : Type} (es : List (Collapse.Entry δ)) :
    ∀ p ∈ Collapse.collapse es, ∃ g ∈ Collapse.groups es, ∃ r ∈ g,
      p.1 = g.map (·.dev) ∧ p.2 = r.diff ∧ ∀ x ∈ g, x.key = r.key := by
  intro p hp
  unfold Collapse.collapse at hp
  obtain ⟨g, hg, hgp⟩ := List.mem_filterMap.1 hp
  cases g with
  | nil => simp at hgp
  | cons r t =>
    simp only [Option.some.injEq] at hgp
    subst hgp
    exact ⟨r :: t, hg, r, List.mem_cons_self, rfl, rfl,
      fun x hx => Collapse.groups_same_key es (r :: t) hg x hx r List.mem_cons_self⟩

/-- Runs are maximal, for `groupRuns` of any list (`groups es = groupRuns (sortEntries es)`): neighbouring groups differ
in text. -/
theorem C03_collapse_runs_maximal {δ : Type} (l : List (Collapse.Entry δ)) :
    ∀ i (h : i + 1 < (Collapse.groupRuns l).length),
      ∀ x ∈ ((Collapse.groupRuns l)[i]'(by omega)).getLast?, ∀ y ∈ ((Collapse.groupRuns l)[i + 1]'h).head?, x.key ≠ y.key :=
  fun i h => Collapse.groupRuns_maximal l i _ _ (List.getElem?_eq_getElem (by omega)) (List.getElem?_eq_getElem h)

/-- FAITHFULNESS of the collapsed view: when the text compared is the rendered diff itself (no line masked by
`_transform_text_diff_for_collapsing`; the harness checks on the real code that only `snmp-agent … cipher` lines are
changed by it), every device of a group has exactly the diff that is shown for the group — same entries, same signs,
same nesting. -/
theorem C03_collapse_faithful (f : DiffText.Fmt) (hf : DiffText.FmtOK f) (es : List (Collapse.Entry (List DiffText.SItem)))
    (hk : ∀ e ∈ es, e.key = DiffText.diffText f e.diff ∧ DiffText.RowsOK f e.diff) :
    ∀ p ∈ Collapse.collapse es, ∃ g ∈ Collapse.groups es, p.1 = g.map (·.dev) ∧ ∀ x ∈ g, x ∈ es ∧ x.diff = p.2 := by
  intro p hp
  obtain ⟨g, hg, r, hr, h1, h2, h3⟩ := C03_collapse_group_same_text es p hp
  have hmem : ∀ x ∈ g, x ∈ es := fun x hx =>
    (Collapse.groups_perm es).mem_iff.1 (List.mem_flatten.2 ⟨g, hg, hx⟩)
  refine ⟨g, hg, h1, fun x hx => ⟨hmem x hx, ?_⟩⟩
  rw [h2]
  obtain ⟨kx, ox⟩ := hk x (hmem x hx)
  obtain ⟨kr, or'⟩ := hk r (hmem r hr)
  exact C03_diff_text_injective f x.diff r.diff hf ox or' (by rw [← kx, ← kr]; exact h3 x hx)

example :
    let e (d v : String) (i : Nat) (k : List String) : Collapse.Entry Nat := ⟨d.toList, v.toList, i, k.map String.toList⟩
    (Collapse.collapse [e "sw3" "huawei" 0 ["+ a", "+  b"], e "sw1" "huawei" 1 ["+ a", "+ b"], e "sw2" "huawei" 2 ["+ a", "+  b"]]).map
        (fun p => (p.1.map String.ofList, p.2)) = [(["sw3", "sw2"], 0), (["sw1"], 1)] := by
  decide +kernel


end Annet.Diff

/-! `%multiline` rules: `common.multiline_diff`, the shipped Huawei rule `*/[rd]sa/ peer-public-key * %multiline`.

`multilineDiffFixed` models `multiline_diff` with the skip rule `row in old and row in new and old[row] == new[row]`
(annet from 870061c on; "the repaired rule" below).  `multilineDiff` models the skip rule
`old.get(row, {}) == new.get(row, {})` of the tree before 870061c ("the old rule" below); the theorems about it carry the
witness of defect F03d.  `old` / `new` are the rows of one group of sibling `%multiline` rows at the top level; `none`
would be the `KeyError` of `tree[item.row]`.  The clauses: (a) which rows get an entry and with which op, (b) the children
are the whole subtree, (c) one-sided blocks are reported, (d) unchanged rows produce nothing. -/

namespace Annet.Multiline
open Annet
open Annet.Diff (Op)

private def k1 : String := "rsa peer-public-key K1"
private def k2 : String := "rsa peer-public-key K2"
private def k3 : String := "dsa peer-public-key K3"
private def body (hex : String) : Cfg :=
  .mk [("public-key-code begin", .mk [(hex, .mk [])]), ("public-key-code end", .mk []), ("peer-public-key end", .mk [])]

/-- `tree[item.row]` never raises `KeyError`, for either skip rule, any rows, any depth. -/
theorem C03_multiline_total (rule : Rule) (old new : Level) : ∃ d, multilineDiffWith rule old new = some d :=
  ⟨_, multilineDiffWith_eq rule old new⟩

/-- (a) The old rule: a row has an entry iff it is in `old` or in `new` and `old.get(row, {}) ≠ new.get(row, {})`;
the entry is REMOVED iff the row is not in `new`, ADDED iff it is not in `old`, AFFECTED iff it is in both.  (No
uniqueness hypothesis is needed: `in` and `[]` both read the first binding.) -/
theorem C03_multiline_entry_iff (old new : Level) (d : List MItem) (h : multilineDiff old new = some d) :
    (∀ r, (∃ i ∈ d, i.row = r) ↔
      ((Cfg.hasKey old r = true ∨ Cfg.hasKey new r = true) ∧ sub old r ≠ sub new r)) ∧
    (∀ i ∈ d, (i.op = .removed ↔ Cfg.hasKey new i.row = false) ∧
              (i.op = .added ↔ Cfg.hasKey old i.row = false) ∧
              (i.op = .affected ↔ (Cfg.hasKey old i.row = true ∧ Cfg.hasKey new i.row = true))) :=
  ⟨fun r => by rw [entry_iff_with .head old new d h r, skip_head],
   fun i hi => let ⟨a, b, c, _⟩ := entry_op .head old new d h i hi; ⟨a, b, c⟩⟩

example : (multilineDiff [(k1, body "AA"), (k2, body "BB"), (k3, body "CC")]
                         [(k3, body "CC"), (k2, body "BD"), ("rsa peer-public-key K4", body "EE")]).map
    (fun d => d.map (fun i => (i.op.name, i.row))) =
    some [("removed", "rsa peer-public-key K1"), ("affected", "rsa peer-public-key K2"),
          ("added", "rsa peer-public-key K4")] := by decide +kernel

/-- (b) The children of an entry are the WHOLE subtree of the row — of `new` (every descendant ADDED) unless the entry
is REMOVED, then of `old` (every descendant REMOVED): same paths at every depth, one op. -/
theorem C03_multiline_children_lossless (old new : Level) (d : List MItem) (h : multilineDiff old new = some d)
    (i : MItem) (hi : i ∈ d) :
    (i.op ≠ .removed → ∃ t, Cfg.lookup new i.row = some t ∧ i.children = processMultiline .added t ∧
        mpaths i.children = Cfg.paths t ∧ allOp .added i.children = true) ∧
    (i.op = .removed → ∃ t, Cfg.lookup old i.row = some t ∧ i.children = processMultiline .removed t ∧
        mpaths i.children = Cfg.paths t ∧ allOp .removed i.children = true) :=
  children_lossless .head old new d h i hi

example : (multilineDiff [(k1, body "AA")] [(k1, body "AB")]).map flat =
    some [("affected", ["rsa peer-public-key K1"]),
          ("added", ["rsa peer-public-key K1", "public-key-code begin"]),
          ("added", ["rsa peer-public-key K1", "public-key-code begin", "AB"]),
          ("added", ["rsa peer-public-key K1", "public-key-code end"]),
          ("added", ["rsa peer-public-key K1", "peer-public-key end"])] := by decide +kernel

/-- (c) `_partial` form of "every block present in exactly one configuration is reported": true of the old rule
when the block has at least one row below its header. -/
theorem C03_multiline_reports_nonempty_changes_partial (old new : Level) (d : List MItem)
    (h : multilineDiff old new = some d) (r : String) (t : Cfg) (hne : t.kids ≠ []) :
    (Cfg.lookup old r = some t → Cfg.hasKey new r = false → ∃ i ∈ d, i.row = r ∧ i.op = .removed) ∧
    (Cfg.lookup new r = some t → Cfg.hasKey old r = false → ∃ i ∈ d, i.row = r ∧ i.op = .added) := by
  have hte : t ≠ Cfg.empty := by
    intro he; rw [he] at hne; exact hne rfl
  constructor
  · intro ho hn
    refine (reports_one_sided .head old new d h r ((skip_head ..).2 ?_)).1 (hasKey_of_lookup ho) hn
    simp only [sub, ho, lookup_none_of_not_hasKey hn, Option.getD_some, Option.getD_none]; exact hte
  · intro hn ho
    refine (reports_one_sided .head old new d h r ((skip_head ..).2 ?_)).2 (hasKey_of_lookup hn) ho
    simp only [sub, hn, lookup_none_of_not_hasKey ho, Option.getD_some, Option.getD_none]; exact fun e => hte e.symm

example : (multilineDiff [(k1, body "AA")] []).map (fun d => d.map (fun i => (i.op.name, i.row))) =
    some [("removed", "rsa peer-public-key K1")] := by decide +kernel

/-- F03d: the full-strength statement is FALSE of the old rule: a block without rows below its header that is only
in `old` gets no entry (`odict() == {}`); likewise only in `new`. -/
theorem C03_multiline_empty_block_false :
    (multilineDiff [("rsa peer-public-key K1", .mk [])] []).map flat = some [] ∧
    (multilineDiff [] [("rsa peer-public-key K1", .mk [])]).map flat = some [] := by decide +kernel

/-- F03e: "a block present in both with different bodies is reported" is FALSE of `make_diff` when the new body is empty:
the entry is AFFECTED without children, `mark_unchanged` turns it UNCHANGED, `strip_unchanged` drops it. -/
theorem C03_multiline_body_emptied_false :
    (multilineDiff [("rsa peer-public-key K1", .mk [("peer-public-key end", .mk [])])]
                   [("rsa peer-public-key K1", .mk [])]).map (fun d => (flat d, flat (reported d))) =
      some ([("affected", ["rsa peer-public-key K1"])], []) := by decide +kernel

/-- F03e holds of the repaired rule as well: the same witness for `multilineDiffFixed`. -/
theorem C03_multiline_body_emptied_false_fixed :
    (multilineDiffFixed [("rsa peer-public-key K1", .mk [("peer-public-key end", .mk [])])]
                        [("rsa peer-public-key K1", .mk [])]).map (fun d => (flat d, flat (reported d))) =
      some ([("affected", ["rsa peer-public-key K1"])], []) := by decide +kernel

/-- (d) Unchanged rows produce no entry. -/
theorem C03_multiline_self_diff_empty (t : Level) : multilineDiff t t = some [] := self_empty .head t

/-- (a), repaired: a row has an entry iff it is in `old` or `new` and NOT (in both with equal subtrees); ops as before. -/
theorem C03_multiline_entry_iff_fixed (old new : Level) (d : List MItem) (h : multilineDiffFixed old new = some d) :
    (∀ r, (∃ i ∈ d, i.row = r) ↔
      ((Cfg.hasKey old r = true ∨ Cfg.hasKey new r = true) ∧
        ¬ ∃ a b, Cfg.lookup old r = some a ∧ Cfg.lookup new r = some b ∧ a = b)) ∧
    (∀ i ∈ d, (i.op = .removed ↔ Cfg.hasKey new i.row = false) ∧
              (i.op = .added ↔ Cfg.hasKey old i.row = false) ∧
              (i.op = .affected ↔ (Cfg.hasKey old i.row = true ∧ Cfg.hasKey new i.row = true))) :=
  ⟨fun r => by rw [entry_iff_with .fixed old new d h r, skip_fixed],
   fun i hi => let ⟨a, b, c, _⟩ := entry_op .fixed old new d h i hi; ⟨a, b, c⟩⟩

theorem C03_multiline_children_lossless_fixed (old new : Level) (d : List MItem)
    (h : multilineDiffFixed old new = some d) (i : MItem) (hi : i ∈ d) :
    (i.op ≠ .removed → ∃ t, Cfg.lookup new i.row = some t ∧ i.children = processMultiline .added t ∧
        mpaths i.children = Cfg.paths t ∧ allOp .added i.children = true) ∧
    (i.op = .removed → ∃ t, Cfg.lookup old i.row = some t ∧ i.children = processMultiline .removed t ∧
        mpaths i.children = Cfg.paths t ∧ allOp .removed i.children = true) :=
  children_lossless .fixed old new d h i hi

/-- FULL strength, repaired: every row present in exactly one configuration is reported with that op and its whole
subtree — empty body or not. -/
theorem C03_multiline_reports_all_fixed (old new : Level) (d : List MItem)
    (h : multilineDiffFixed old new = some d) (r : String) :
    (Cfg.hasKey old r = true → Cfg.hasKey new r = false → ∃ i ∈ d, i.row = r ∧ i.op = .removed) ∧
    (Cfg.hasKey new r = true → Cfg.hasKey old r = false → ∃ i ∈ d, i.row = r ∧ i.op = .added) := by
  constructor
  · intro ho hn
    refine (reports_one_sided .fixed old new d h r ((skip_fixed ..).2 ?_)).1 ho hn
    rintro ⟨a, b, _, hb, _⟩; rw [lookup_none_of_not_hasKey hn] at hb; cases hb
  · intro hn ho
    refine (reports_one_sided .fixed old new d h r ((skip_fixed ..).2 ?_)).2 hn ho
    rintro ⟨a, b, ha, _, _⟩; rw [lookup_none_of_not_hasKey ho] at ha; cases ha

/-- The witness of F03d under the repaired rule: the empty block is reported, on either side. -/
theorem C03_multiline_empty_block_reported_fixed :
    (multilineDiffFixed [("rsa peer-public-key K1", .mk [])] []).map flat =
      some [("removed", ["rsa peer-public-key K1"])] ∧
    (multilineDiffFixed [] [("rsa peer-public-key K1", .mk [])]).map flat =
      some [("added", ["rsa peer-public-key K1"])] := by decide +kernel

theorem C03_multiline_self_diff_empty_fixed (t : Level) : multilineDiffFixed t t = some [] := self_empty .fixed t

end Annet.Multiline
