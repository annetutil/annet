/-
C04 — Vendor text and config trees round-trip for every supported vendor.

  RoundTrip f t  :=  ∃ s, join f t = some s ∧ parse f s = some (.ok t)
  FixPoint  f t  :=  ∃ s t', join f t = some s ∧ parse f s = some (.ok t') ∧ join f t' = some s

Nothing here bounds the depth or the size of the tree, the number of rows, or the indentation width.
The per-vendor theorems are instances of `Lemmas.roundtrip_mkFormatter`; `_hk` / `_hv` only name the vendor class.
-/
import AnnetModel.Lemmas.FormatSplit

/-! OBLIGATIONS
Annet.FormatSplit.C04_offside_render
Annet.FormatSplit.C04_common_roundtrip
Annet.FormatSplit.C04_juniper_roundtrip
Annet.FormatSplit.C04_ribbon_roundtrip
Annet.FormatSplit.C04_nokia_roundtrip
Annet.FormatSplit.C04_cisco_roundtrip
Annet.FormatSplit.C04_ros_roundtrip
Annet.FormatSplit.C04_roundtrip_every_vendor
Annet.FormatSplit.C04_fixpoint
Annet.FormatSplit.C04_parsed_text_roundtrip
Annet.FormatSplit.C04_cisco_old_rule_false
Annet.FormatSplit.C04_ros_old_rule_false
-/

namespace Annet.FormatSplit
open Annet Annet.Offside

/-- an `indent` keyword of `make_formatter` inside the domain: absent, or `w ≥ 1` blanks -/
def IndentOk (kw : Option Str) : Prop := kw = none ∨ ∃ w, 0 < w ∧ kw = some (blanks w)

/-- The core of every round trip: the offside parser applied to the
reference rendering of a tree — one row per line behind `w·depth` blanks, ANY width `w ≥ 1`, any
depth — returns exactly that tree, provided rows are non-empty, stripped, no comments, and siblings
are distinct. -/
theorem C04_offside_render (w : Nat) (hw : 0 < w) (t : Cfg)
    (h : wf (fun r => rowBase r.toList) t = true) :
    parseToTree comments ((render w 0 t).map String.ofList) = .ok t :=
  Lemmas.parse_render w hw _ (fun _ hr => hr) t h

/-- Common (optixtrans, pc), Huawei (huawei, h3c), Nexus-like (nexus, arista, aruba, b4com) and Asr
(iosxr): `parse(join(t)) = t` on the whole well-formed domain. -/
theorem C04_common_roundtrip (k : Kind) (_hk : k = .common ∨ k = .huawei ∨ k = .nexusLike ∨ k = .asr)
    (kw : Option Str) (hkw : IndentOk kw) (t : Cfg) (h : WF k t = true) :
    RoundTrip (mkFormatter k kw) t :=
  Lemmas.roundtrip_mkFormatter k kw hkw t h

/-- Juniper: through `_formatted_blocks` (braces, semicolons) and the five `sub_regexs`. -/
theorem C04_juniper_roundtrip (kw : Option Str) (hkw : IndentOk kw) (t : Cfg)
    (h : WF .juniper t = true) : RoundTrip (mkFormatter .juniper kw) t :=
  Lemmas.roundtrip_mkFormatter _ kw hkw t h

/-- Ribbon (its `; # SECRET-DATA` end-of-line comment never reaches the compiled regexes). -/
theorem C04_ribbon_roundtrip (kw : Option Str) (hkw : IndentOk kw) (t : Cfg)
    (h : WF .ribbon t = true) : RoundTrip (mkFormatter .ribbon kw) t :=
  Lemmas.roundtrip_mkFormatter _ kw hkw t h

/-- Nokia: no statement end on output, `;` still stripped on input, and the `configure {}` bounds are
the whole text when no top-level row is `configure`. -/
theorem C04_nokia_roundtrip (kw : Option Str) (hkw : IndentOk kw) (t : Cfg)
    (h : WF .nokia t = true) : RoundTrip (mkFormatter .nokia kw) t :=
  Lemmas.roundtrip_mkFormatter _ kw hkw t h

/-- Cisco, at full strength: rows are words (no double blank), none is the formatter's own delimiter
`exit-address-family`; rows starting with `address-family` are ordinary rows, at any depth, followed by
anything.  (`split` shifts an `address-family` section only when an `exit-address-family` line closes
it at the same indent — `join` of such a tree never prints one.) -/
theorem C04_cisco_roundtrip (kw : Option Str) (hkw : IndentOk kw) (t : Cfg)
    (h : WF .cisco t = true) : RoundTrip (mkFormatter .cisco kw) t :=
  Lemmas.roundtrip_mkFormatter _ kw hkw t h

/-- RouterOS, at full strength: the top level holds sections; a section holds leaf rows, then
sub-sections, to any depth.  `join` prints `/path words` for every section, `split` announces the whole
path again one word per line, and the parser merges the repeated ancestors. -/
theorem C04_ros_roundtrip (kw : Option Str) (hkw : IndentOk kw) (t : Cfg)
    (h : WF .ros t = true) : RoundTrip (mkFormatter .ros kw) t :=
  Lemmas.roundtrip_mkFormatter _ kw hkw t h

/-- The property in its own shape: for EVERY vendor name of the registry, every tree of that vendor's
whole well-formed domain, every admissible indent: `parse_to_tree(join(t), split) == t`. -/
theorem C04_roundtrip_every_vendor (vendor : String) (k : Kind) (_hv : kindOf vendor = some k)
    (kw : Option Str) (hkw : IndentOk kw) (t : Cfg) (h : WFfull k t = true) :
    RoundTrip (mkFormatter k kw) t :=
  Lemmas.roundtrip_mkFormatter k kw hkw t h

/-- Second clause: for the text `s = join(t)`, `join(parse(s)) = s` — for every vendor, on the same domain. -/
theorem C04_fixpoint (vendor : String) (k : Kind) (hv : kindOf vendor = some k)
    (kw : Option Str) (hkw : IndentOk kw) (t : Cfg) (h : WFfull k t = true) :
    FixPoint (mkFormatter k kw) t :=
  Lemmas.fixpoint_of_roundtrip _ t (C04_roundtrip_every_vendor vendor k hv kw hkw t h)

/-- "Re-rendering a parsed device config and parsing again is a fixed point", for the Common formatter
(optixtrans, pc) and ARBITRARY text: whatever tree `parse_to_tree` returns for a text is inside the
round-trip domain, so `parse(join(parse(text))) = parse(text)`. -/
theorem C04_parsed_text_roundtrip (text : Str) (kw kw' : Option Str) (hkw' : IndentOk kw') (t : Cfg)
    (h : parse (mkFormatter .common kw) text = some (.ok t)) :
    RoundTrip (mkFormatter .common kw') t := by
  have hwf : wf (fun r => rowBase r.toList) t = true := by
    apply Lemmas.parsed_wf text t
    simpa [parse, split, mkFormatter] using h
  have hWF : WF .common t = true := by
    have e : (rowOk .common) = (fun r => rowBase r.toList) := by
      funext r; simp [rowOk]
    simp only [WF, e]
    exact hwf
  exact C04_common_roundtrip .common (Or.inl rfl) kw' hkw' t hWF

/-- The Cisco rule as it was before fix 13137d1 (`ciscoSplitOld`: EVERY `address-family` row shifts what
follows) did NOT round-trip on this domain: `[address-family a, c]` came back as `{address-family a: {c}}`. -/
theorem C04_cisco_old_rule_false :
    ¬ ∀ t : Cfg, WF .cisco t = true →
      parseToTree comments ((ciscoSplitOld (commonJoin (blanks 2) t)).map String.ofList) = .ok t := by
  intro hall
  have h := congrArg (fun r => r.toOption.map Cfg.paths) (hall Lemmas.ciscoWitness (by decide +kernel))
  exact absurd (Lemmas.ciscoWitness_old_parse.symm.trans h) (by decide +kernel)

/-- The RouterOS rule as it was before fix c926070 (`rosJoinOld`: sub-section prefix taken from
`context.parent.row`) did NOT round-trip: `{ip: {address: {r}}}` was printed `/ip`, `/address` and came
back as `{ip: {}, address: {r}}`. -/
theorem C04_ros_old_rule_false :
    ¬ ∀ t : Cfg, WF .ros t = true →
      ∃ ls, rosSplit (blanks 2) (rosJoinOld (blanks 2) t) = some ls ∧
        parseToTree comments (ls.map String.ofList) = .ok t := by
  intro hall
  obtain ⟨ls, hs, hp⟩ := hall Lemmas.rosWitness (by decide +kernel)
  have h := Lemmas.rosWitness_old_parse
  rw [hs, Option.map_some, hp] at h
  exact absurd h (by decide +kernel)

/-! ## Non-vacuity -/

example : ["huawei", "h3c", "optixtrans", "cisco", "nexus", "iosxr", "arista", "aruba", "b4com", "juniper",
    "ribbon", "nokia", "routeros", "pc"].all (fun v => (kindOf v).isSome) = true := by decide +kernel

private def leaf (s : String) : String × Cfg := (s, .mk [])

/-- a three-level tree with multi-word rows is in the domain of the indentation vendors … -/
private def sample : Cfg :=
  .mk [("interface Eth1", .mk [leaf "description up link", ("vrf MGMT", .mk [leaf "mtu 9000"]), leaf "shutdown"]),
       leaf "snmp-agent", ("bgp 65000", .mk [leaf "peer 10.0.0.1 as-number 65001"])]

example : WF .common sample = true := by decide +kernel
example : WF .huawei sample = true := by decide +kernel
example : WF .nexusLike sample = true := by decide +kernel
example : WF .asr sample = true := by decide +kernel
example : WF .cisco sample = true := by decide +kernel
/-- … and of the Juniper family (`[ a b ]` lists, `/` and `#` inside words are fine) -/
private def sampleJ : Cfg :=
  .mk [("interfaces", .mk [("ge-0/0/0", .mk [leaf "description \"up link\"", ("unit 0", .mk [leaf "family inet"])])]),
       leaf "apply-groups [ a b ]", leaf "x a#b"]

example : WF .juniper sampleJ = true := by decide +kernel
example : WF .ribbon sampleJ = true := by decide +kernel
example : WF .nokia sampleJ = true := by decide +kernel
/-- RouterOS: nested sections (`/ip address`, `/ip address x`), leaves before sub-sections -/
private def sampleR : Cfg :=
  .mk [("ip", .mk [leaf "add address=10.0.0.1/24 interface=ether1",
         ("address", .mk [leaf "set x=1", ("x", .mk [leaf "q"])]), ("route", .mk [leaf "add gateway=10.0.0.254"])]),
       ("user", .mk [("aaa", .mk [leaf "set accounting=yes"])])]

example : WF .ros sampleR = true := by decide +kernel
/-- Cisco: `address-family` rows with and without children, followed by siblings and shallower rows -/
private def sampleC : Cfg :=
  .mk [("router bgp 1", .mk [("address-family ipv4", .mk [leaf "neighbor x activate"]), leaf "address-family ipv6",
         leaf "bgp log-neighbor-changes"]), leaf "exit", leaf "interface a"]

example : WF .cisco sampleC = true := by decide +kernel
example : IndentOk (some (blanks 3)) := Or.inr ⟨3, by omega, rfl⟩
/-- the two old-rule witnesses are in `WF .cisco` / `WF .ros` -/
example : WF .cisco Lemmas.ciscoWitness = true ∧ WF .ros Lemmas.rosWitness = true := by decide +kernel
/-- the exclusions of `WF .ros` are not vacuous: the `/user ssh-keys` section is post-processed by `split` -/
example : WF .ros (.mk [("user", .mk [("ssh-keys", .mk [leaf "r"])])]) = false := by decide +kernel

end Annet.FormatSplit
