/-
C17 — Implicit defaults never override explicit config and never cause commands alone.

Model: `Model/Implicit.lean` (`config` = `implicit.config`, `merge` = `merge_dicts` on config trees,
`complete` = the completion done in `annet/gen.py`); `configRule` adds a missing default block together with the
defaults inside it (implicit.py as of 387ab6b).
-/
import AnnetModel.Lemmas.DiffWhole
import AnnetModel.Lemmas.Implicit

/-! OBLIGATIONS
Annet.Implicit.C17_keeps_explicit
Annet.Implicit.C17_merge_keeps_left
Annet.Implicit.C17_merge_self
Annet.Implicit.C17_default_iff
Annet.Implicit.C17_ignore_adds_nothing_new
Annet.Implicit.C17_idempotent
Annet.Implicit.C17_same_default_both_sides
Annet.Implicit.C17_default_never_added_or_removed
-/

namespace Annet.Implicit
open Annet.Implicit.Spec

/-- Completion keeps every explicit line, in order, at every depth. -/
theorem C17_keeps_explicit (rules : List IRule) (t m : Cfg) (h : complete rules t = some m) :
    Annet.Acl.Spec.Sub t m := by
  obtain ⟨imp, _, rfl⟩ := Lemmas.complete_eq h
  exact Lemmas.merge_keeps_left _ _

theorem C17_merge_keeps_left (a b : Cfg) : Annet.Acl.Spec.Sub a (merge a b) :=
  Lemmas.merge_keeps_left a b

/-- `merge_dicts(t, t) = t` (so the equality shortcut of `merge_dicts` changes nothing). -/
theorem C17_merge_self (t : Cfg) (h : NoDupKeys t) : merge t t = t :=
  Lemmas.merge_self t h

/-- A default line is present after completion iff it was explicit, or no line of the same kind is
present at that place. -/
theorem C17_default_iff (rules : List IRule) (t m : Cfg) (h : complete rules t = some m) (hd : RowsDistinct rules)
    (r : IRule) (hr : r ∈ rules) (hi : r.ignore = false) :
    hasKey m r.row = (hasKey t r.row || !hasLineOfKind r t) := by
  rw [Bool.eq_iff_iff, Lemmas.complete_keys h, Bool.or_eq_true, Bool.not_eq_true']
  refine or_congr_right ⟨?_, fun hk => ⟨r, hr, hi, hk, rfl⟩⟩
  rintro ⟨r', hr', _, hk, he⟩
  cases List.inj_of_nodup_map IRule.row rules hd r hr r' hr' he
  exact hk

/-- `!`-rules only descend: they never add a line at their own level. -/
theorem C17_ignore_adds_nothing_new (rules : List IRule) (t m : Cfg) (h : complete rules t = some m)
    (hall : ∀ r ∈ rules, r.ignore = true) (k : String) : hasKey m k = hasKey t k := by
  rw [Bool.eq_iff_iff, Lemmas.complete_keys h]
  refine ⟨?_, .inl⟩
  rintro (h1 | ⟨r, hr, hi, _⟩)
  · exact h1
  · cases (hall r hr).symm.trans hi

-- `hd` is implied by `hdd` (its top level); the statement lists it beside the other hypotheses as the other C17
-- theorems do
set_option linter.unusedVariables false in
/-- Completion is idempotent for rule sets whose sibling rules have disjoint languages (assumed of the shipped rule
sets; not checked in Lean).  Two decidable hypotheses go with it: `DeepDistinct` — sibling rows distinct at every level
(without it the statement is false: `[t {a {x}, !a {y}}]` on the empty tree); `SelfMatch` — every rule row is a line of
its own language, so that the default line a rule adds is recognised by that rule, and by `Disjoint` by no other, on the
second run.  Not covered: rule sets with `(?i)` rows, which fail `SelfMatch`. -/
theorem C17_idempotent (rules : List IRule) (t m : Cfg) (h : complete rules t = some m)
    (hnd : NoDupKeys t) (hd : RowsDistinct rules) (hdis : Disjoint rules)
    (hdd : Lemmas.DeepDistinct rules) (hsm : Lemmas.SelfMatch rules) :
    complete rules m = some m :=
  Lemmas.idem_core rules t m h hnd hdd hdis hsm

/-- Old and new are completed the same way: a default that is explicit in neither, where neither has a line of its
kind at that place, is present in both completions.  Without the "no line of its kind" hypothesis the statement is
false by design (recorded finding F17a). -/
theorem C17_same_default_both_sides (rules : List IRule) (t u mt mu : Cfg)
    (ht : complete rules t = some mt) (hu : complete rules u = some mu) (hd : RowsDistinct rules)
    (r : IRule) (hr : r ∈ rules) (hi : r.ignore = false)
    (hkt : hasLineOfKind r t = false) (hku : hasLineOfKind r u = false) :
    hasKey mt r.row = true ∧ hasKey mu r.row = true := by
  constructor
  · rw [C17_default_iff rules t mt ht hd r hr hi, hkt]; simp
  · rw [C17_default_iff rules u mu hu hd r hr hi, hku]; simp

/-- The patch clause, through the diff model: such a default is in both completions (`C17_same_default_both_sides`), so
`make_diff` of the completed configurations, with whatever patching rulebook, reports it neither ADDED nor REMOVED at the
top level and it yields no command (C02_patch_provenance: commands stem from changed entries). -/
theorem C17_default_never_added_or_removed (rules : List IRule) (t u mt mu : Cfg)
    (ht : complete rules t = some mt) (hu : complete rules u = some mu) (hd : RowsDistinct rules)
    (r : IRule) (hr : r ∈ rules) (hi : r.ignore = false)
    (hkt : hasLineOfKind r t = false) (hku : hasLineOfKind r u = false)
    (prules : Rules.PRules) (ao an : Diff.ACfg) (d : List Diff.DItem)
    (ha : Diff.annotate prules mt = .ok ao) (hn : Diff.annotate prules mu = .ok an)
    (hdo : Diff.Spec.NoDupRows ao) (hdn : Diff.Spec.NoDupRows an)
    (h : Diff.makeDiff prules mt mu = .ok d) :
    ∀ i ∈ d, i.row = r.row → i.op ≠ .added ∧ i.op ≠ .removed := by
  have hb := C17_same_default_both_sides rules t u mt mu ht hu hd r hr hi hkt hku
  exact Diff.Lemmas.makeDiff_common_row prules mt mu ao an d ha hn hdo hdn h r.row hb.1 hb.2

/-- Non-vacuity (Huawei NE fragment): `aaa` comes with its default child; an explicit different value wins. -/
example :
    let rules : List IRule := [.mk "user-interface con *" true [.mk "user privilege level 3" false []],
                               .mk "aaa" false [.mk "undo user-password complexity-check" false []], .mk "netconf" false []]
    let t : Cfg := .mk [("user-interface con 0", .mk [("user privilege level 3 idle", .mk [])]), ("netconf", .mk [])]
    (complete rules t).map Cfg.paths = some [["user-interface con 0"], ["user-interface con 0", "user privilege level 3 idle"],
      ["netconf"], ["aaa"], ["aaa", "undo user-password complexity-check"]] := by
  decide +kernel

/-- The two extra hypotheses of `C17_idempotent` are checked by evaluation on a concrete rule set. -/
example :
    let rules : List IRule := [.mk "user-interface con *" true [.mk "user privilege level 3" false []],
                               .mk "aaa" false [.mk "undo user-password complexity-check" false []], .mk "netconf" false []]
    Lemmas.DeepDistinct rules ∧ Lemmas.SelfMatch rules := by
  decide +kernel

end Annet.Implicit
