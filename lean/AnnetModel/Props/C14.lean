/-
C14 — Shipped routing-policy generators emit ACL-covered, self-consistent config.

Model: `Model/Rpl.lean` (Huawei, Arista), `Model/RplCumulus.lean`, `Model/RplRun.lean` (`_run_partial_generator`).
`runPartial` itself is tied by the correspondence only; the theorems are about its three stages separately.
-/
import AnnetModel.Lemmas.RplRefsC
import AnnetModel.Lemmas.RplCovered
import AnnetModel.Lemmas.RplNesting

/-! OBLIGATIONS
Annet.Rpl.C14_error_before_lines_huawei
Annet.Rpl.C14_huawei_next_hop_returns
Annet.Rpl.C14_as_path_rejected_before_rows
Annet.Rpl.C14_huawei_extcommunity_rejected_before_rows
Annet.Rpl.C14_huawei_extcommunity_soo_rejected_before_rows
Annet.Rpl.C14_cumulus_rejected_before_rows
Annet.Rpl.C14_error_before_lines_false
Annet.Rpl.C14_error_before_lines_partial_arista
Annet.Rpl.C14_error_before_lines_partial_cumulus
Annet.Rpl.C14_condition_error_before_lines
Annet.Rpl.C14_statement_stream_huawei
Annet.Rpl.C14_statement_stream_arista
Annet.Rpl.C14_statement_stream_cumulus
Annet.Rpl.C14_acl_covered_huawei
Annet.Rpl.C14_acl_covered_arista
Annet.Rpl.C14_arista_large_covered
Annet.Rpl.C14_acl_covered_tree
Annet.Rpl.C14_refs_defined_huawei
Annet.Rpl.C14_refs_defined_false_empty_list
Annet.Rpl.C14_refs_defined_arista
Annet.Rpl.C14_refs_defined_cumulus
Annet.Rpl.C14_refs_defined_cumulus_text
Annet.Rpl.C14_refs_defined_cumulus_false_empty_list
Annet.Rpl.C14_parse_nesting
Annet.Rpl.C14_block_stream_rows
-/

namespace Annet.Rpl
open Annet.Rpl.Spec

/-! ### "A construct the back-end cannot express is rejected before any line for it is emitted"

Full statement: `∀ cl a, actNamesKnown cl a → ErrorBeforeLines (then_<vendor> cl a)`.
It **holds for Huawei** at full strength (`C14_error_before_lines_huawei`); the five theorems after it state the refusals
on the inputs of F14b–f.  (F14a–f were defects of the pinned tree, repaired in /repo by the `fix:` commits 0cac6f0, 47fe134,
f38bcab, db6d169; the theorems speak of the repaired code.)
For Arista and Cumulus it is false in one shape (`C14_error_before_lines_false`): `extcommunity` naming a list that is not an
RT/SOO list is refused with `ValueError` after a row of an earlier list was yielded — an invalid input, not a construct
the back-end cannot express; the `_partial` theorems exclude exactly that shape (`safeActA`, `safeActC`). -/

def rtList : CommList := { name := s "T1", members := [s "1:1"], type := .rt }
def sooList : CommList := { name := s "S1", members := [s "2:2"], type := .soo }
def largeList : CommList := { name := s "L1", members := [s "1:1:1"], type := .large }
def basicList : CommList := { name := s "C1", members := [s "1:1", s "1:2"] }

def nextHopSelf : Action :=
  { field := .nextHop, type := .custom, val := .nextHop { target := s "self", addr := [] } }
def demoStmt : Stmt :=
  { name := none, number := some (s "10"), result := .allow,
    conds := [{ field := .community, op := .has, val := .names [s "C1"] }],
    acts := [{ field := .community, type := .custom,
               val := .comm { replaced := none, added := [s "C1"], removed := [s "C1"] } },
             { field := .rpkiValidState, type := .set, val := .scalar (s "valid") },
             { field := .tag, type := .set, val := .scalar (s "7") }] }
def communityAddRemove : Action :=
  { field := .community, type := .custom,
    val := .comm { replaced := none, added := [s "C1"], removed := [s "C1"] } }
/-- `rule.extcommunity.add("T1"); rule.extcommunity.remove("C1")` with `C1` a BASIC list -/
def extAddRtRemoveBasic : Action :=
  { field := .extcommunity, type := .custom,
    val := .comm { replaced := none, added := [s "T1"], removed := [s "C1"] } }
/-- `rule.extcommunity.set("T1", "C1")` with `C1` a BASIC list -/
def extSetRtBasic : Action :=
  { field := .extcommunity, type := .custom,
    val := .comm { replaced := some [s "T1", s "C1"], added := [], removed := [] } }

/-- Huawei, full strength: whatever the action and the lists, an action whose lists exist either yields its rows or
raises before any of them. -/
theorem C14_error_before_lines_huawei (cl : List CommList) (a : Action) (hk : actNamesKnown cl a = true) :
    ErrorBeforeLines (thenH cl a) :=
  (Lemmas.gen_thenH cl a).ebl fun h => h hk

/-- F14b — Huawei `rule.next_hop.self()` yields `apply cost 1` and returns (policy.py:358-374). -/
theorem C14_huawei_next_hop_returns :
    thenH [] nextHopSelf = ([[s "apply", s "cost 1"]], none) := by decide +kernel

/-- F14c — `as_path`: Huawei refuses `expand` / `expand_last_as`, Arista refuses `expand` /
`delete`, before the `prepend` rows (policy.py:302-305, 671-674). -/
theorem C14_as_path_rejected_before_rows :
    thenAsPathH { set := none, prepend := [s "65000"], expand := [s "1"], expandLastAs := [], delete := [] }
      = ([], some .runtime) ∧
    thenAsPathH { set := none, prepend := [s "65000"], expand := [], expandLastAs := s "2", delete := [] }
      = ([], some .runtime) ∧
    thenAsPathA { set := none, prepend := [], expand := [s "1"], expandLastAs := [], delete := [] }
      = ([], some .runtime) ∧
    thenAsPathA { set := none, prepend := [], expand := [], expandLastAs := [], delete := [s "1"] }
      = ([], some .runtime) := by decide +kernel

/-- F14d — Huawei `extcommunity`: add + remove, and a replace mixing RT and SOO lists, are refused
with no row (policy.py:268-296). -/
theorem C14_huawei_extcommunity_rejected_before_rows :
    thenExtH [rtList, sooList] { replaced := none, added := [s "T1"], removed := [s "T1"] }
      = ([], some .notImplemented) ∧
    thenExtH [rtList, sooList] { replaced := some [s "T1", s "S1"], added := [], removed := [] }
      = ([], some .notImplemented) := by decide +kernel

/-- F14e — Huawei `extcommunity_soo` add + remove is refused with no row (policy.py:240-246). -/
theorem C14_huawei_extcommunity_soo_rejected_before_rows :
    thenExtSooH [sooList] { replaced := none, added := [s "S1"], removed := [s "S1"] }
      = ([], some .notImplemented) := by decide +kernel

/-- F14f — Cumulus: `large_community` (and `extcommunity_rt` / `_soo`) add + remove, `as_path`
prepend + expand are refused with no row (cumulus_frr.py:283-316, 354-358). -/
theorem C14_cumulus_rejected_before_rows :
    cumThenAddOnly (s "large-community") { replaced := none, added := [s "L1"], removed := [s "L1"] }
      = ([], some .notImplemented) ∧
    cumThenAsPath { set := none, prepend := [s "65000"], expand := [s "1"], expandLastAs := [], delete := [] }
      = ([], some .notImplemented) := by decide +kernel

/-- For Arista and Cumulus the full-strength statement is false: an `extcommunity` action that
names a BASIC (or LARGE) list raises `ValueError` after the row of the RT list before it (policy.py:659-664,
cumulus_frr.py:340-343).  All names exist. -/
theorem C14_error_before_lines_false :
    thenA [rtList, basicList] extAddRtRemoveBasic = ([[s "set extcommunity", s "rt 1:1", s "additive"]], some .value) ∧
    cumThen [rtList, basicList] extSetRtBasic = ([[s "set", s "extcommunity", s "rt", s "1:1"]], some .value) ∧
    (¬ ∀ cl a, actNamesKnown cl a = true → ErrorBeforeLines (thenA cl a)) ∧
    (¬ ∀ cl a, actNamesKnown cl a = true → ErrorBeforeLines (cumThen cl a)) := by
  refine ⟨by decide +kernel, by decide +kernel, fun h => ?_, fun h => ?_⟩
  · exact absurd (h [rtList, basicList] extAddRtRemoveBasic (by decide +kernel)) (by decide +kernel)
  · exact absurd (h [rtList, basicList] extSetRtBasic (by decide +kernel)) (by decide +kernel)

/-- Arista: every action whose lists exist, except `extcommunity` add + remove with a removed list that is not an
RT/SOO list (`safeActA`). -/
theorem C14_error_before_lines_partial_arista (cl : List CommList) (a : Action)
    (hk : actNamesKnown cl a = true) (hs : safeActA cl a = true) : ErrorBeforeLines (thenA cl a) :=
  (Lemmas.gen_thenA cl a).ebl fun h => h ⟨hk, hs⟩

/-- Cumulus: every action whose lists exist, except `extcommunity.set(...)` naming a list that is not an RT/SOO list
(`safeActC`). -/
theorem C14_error_before_lines_partial_cumulus (cl : List CommList) (a : Action)
    (hk : actNamesKnown cl a = true) (hs : safeActC cl a = true) : ErrorBeforeLines (cumThen cl a) :=
  (Lemmas.gen_cumThen cl a).ebl fun h => h ⟨hk, hs⟩

/-- Conditions hold the clause at full strength on all three back-ends: a condition whose lists exist either yields
its rows or raises before any of them. -/
theorem C14_condition_error_before_lines (inp : Input) (c : Cond) (hk : condNamesKnown inp c = true) :
    ErrorBeforeLines (matchH inp c) ∧ ErrorBeforeLines (matchA inp c) ∧ ErrorBeforeLines (cumMatch inp c) :=
  ⟨(Lemmas.gen_matchH inp c).ebl fun h => h hk, (Lemmas.gen_matchA inp c).ebl fun h => h hk, (Lemmas.gen_cumMatch inp c).ebl fun h => h hk⟩

/-- On the `run(device)` stream of any Huawei statement whose lists exist: below the header row
there are exactly the rows of the conditions and actions that completed, in order; the run ends with the exception of
the first failing element, which contributed no row. -/
theorem C14_statement_stream_huawei (inp : Input) (p : Policy) (st : Stmt) (num res : Str)
    (hn : st.number = some num) (hr : resultWord st.result = some res)
    (hc : ∀ c ∈ st.conds, condNamesKnown inp c = true)
    (ha : ∀ a ∈ st.acts, actNamesKnown inp.clists a = true) :
    statementH inp p st =
      (Line.mk [] [s "route-policy", p.name, res, s "node", num] ::
         (completedRows (stmtElemsH inp st)).map (Line.mk [joinSp [s "route-policy", p.name, res, s "node", num]]),
       firstErr (stmtElemsH inp st)) := by
  rw [Lemmas.statementH_eq inp p st num res hn hr, Lemmas.inBlock_eq, Lemmas.seqAll_clean]
  intro o ho
  simp only [stmtElemsH, List.mem_append, List.mem_map, List.mem_singleton] at ho
  rcases ho with (⟨c, hc', rfl⟩ | ⟨a, ha', rfl⟩) | rfl
  · exact (Lemmas.gen_matchH inp c).ebl fun h => h (hc c hc')
  · exact (Lemmas.gen_thenH _ a).ebl fun h => h (ha a ha')
  · exact Lemmas.ebl_trailer _ _

/-- The same on the Arista stream. -/
theorem C14_statement_stream_arista (inp : Input) (p : Policy) (st : Stmt) (num res : Str)
    (hn : st.number = some num) (hr : resultWord st.result = some res)
    (hc : ∀ c ∈ st.conds, condNamesKnown inp c = true)
    (ha : ∀ a ∈ st.acts, actNamesKnown inp.clists a = true ∧ safeActA inp.clists a = true) :
    statementA inp p st =
      (Line.mk [] [s "route-map", p.name, res, num] ::
         (completedRows (stmtElemsA inp st)).map (Line.mk [joinSp [s "route-map", p.name, res, num]]),
       firstErr (stmtElemsA inp st)) := by
  rw [Lemmas.statementA_eq inp p st num res hn hr, Lemmas.inBlock_eq, Lemmas.seqAll_clean]
  intro o ho
  simp only [stmtElemsA, List.mem_append, List.mem_map, List.mem_singleton] at ho
  rcases ho with (⟨c, hc', rfl⟩ | ⟨a, ha', rfl⟩) | rfl
  · exact (Lemmas.gen_matchA inp c).ebl fun h => h (hc c hc')
  · exact (Lemmas.gen_thenA _ a).ebl fun h => h (ha a ha')
  · exact Lemmas.ebl_trailer _ _

/-- The same on the Cumulus stream (`generate_cumulus_rpl`): the `route-map` row, the rows of the conditions and
actions that completed (behind `FRR_INDENT`), and — only when nothing raised — `on-match next` and the closing `!`. -/
theorem C14_statement_stream_cumulus (inp : Input) (p : Policy) (st : Stmt) (num res : Str)
    (hr : resultWord st.result = some res)
    (hc : ∀ c ∈ st.conds, condNamesKnown inp c = true)
    (ha : ∀ a ∈ st.acts, actNamesKnown inp.clists a = true ∧ safeActC inp.clists a = true) :
    cumStatement inp p st num =
      ([s "route-map", p.name, res, num] :: (completedRows (stmtElemsC inp st)).map indentRow ++
         (match firstErr (stmtElemsC inp st) with
          | none => (if st.result == .next then [indentRow [s "on-match next"]] else []) ++ [[s "!"]]
          | some _ => []),
       firstErr (stmtElemsC inp st)) := by
  apply Lemmas.cumStatement_clean inp p st num res hr
  intro o ho
  simp only [stmtElemsC, List.mem_append, List.mem_map] at ho
  rcases ho with ⟨c, hc', rfl⟩ | ⟨a, ha', rfl⟩
  · exact (Lemmas.gen_cumMatch inp c).ebl fun h => h (hc c hc')
  · exact (Lemmas.gen_cumThen _ a).ebl fun h => h (ha a ha')

/-- Non-vacuity: a statement whose `rpki_valid_state` action fails; it left no row. -/
example :
    let cl : List CommList := [basicList]
    let inp : Input := { policies := [], clists := cl, plists := [], aspaths := [], rds := [] }
    let st : Stmt := demoStmt
    (∀ a ∈ st.acts, actNamesKnown cl a = true) ∧
    (statementH inp { name := s "p", stmts := [st] } st).2 = some .notImplemented ∧
    ((statementH inp { name := s "p", stmts := [st] } st).1.map (·.toks)) =
      [[s "route-policy", s "p", s "permit", s "node", s "10"], [s "if-match community-filter", s "C1"],
       [s "apply", s "community", s "1:1", s "1:2", s "additive"], [s "apply comm-filter", s "C1", s "delete"]] := by
  decide +kernel

/-! ### "Every generated line is covered by that generator's own ACL"

`Lemmas.Covered v k l`: the path of the row `l` (the rows of its enclosing blocks, then its text) walks through the
compiled ACL of generator `k`: every row on the path has a
match whose first candidate lets it pass, the children being judged by the rules that match hands down. -/

/-- Huawei, full strength: every row every generator yields — whatever the policies, lists and filters contain — is
covered by that generator's own ACL.  The only hypothesis is on policy names (`route-policy *` binds one word). -/
theorem C14_acl_covered_huawei (inp : Input) (hnames : ∀ p ∈ inp.policies, Pattern.cleanWord p.name)
    (k : GenKind) (l : Line) (h : l ∈ (runGen inp .huawei k).1) : Lemmas.Covered .huawei k l :=
  Lemmas.covered_huawei inp hnames k l h

/-- Arista, full strength (F14a): every row every generator yields is covered by that generator's own
ACL — no hypothesis at all (`route-map` binds nothing, LARGE lists included). -/
theorem C14_acl_covered_arista (inp : Input) (k : GenKind) (l : Line) (h : l ∈ (runGen inp .arista k).1) :
    Lemmas.Covered .arista k l :=
  Lemmas.covered_arista inp k l h

def largeMatchStmt : Stmt :=
  { name := none, number := some (s "10"), result := .allow,
    conds := [{ field := .largeCommunity, op := .has, val := .names [s "L1"] }], acts := [] }
def largeInput : Input :=
  { policies := [{ name := s "p", stmts := [largeMatchStmt] }], clists := [largeList], plists := [], aspaths := [],
    rds := [] }

def aclErrOf (r : Except Acl.Err Cfg) : Option Acl.Err :=
  match r with
  | .ok _ => none
  | .error e => some e

/-- The last stage of `_run_partial_generator`: a configuration tree all of whose paths are paths of covered rows
passes `apply_acl(..., fatal_acl=True)` unchanged — no `AclError`, nothing dropped. -/
theorem C14_acl_covered_tree (v : Vend) (k : GenKind) (lines : List Line) (hc : ∀ l ∈ lines, Lemmas.Covered v k l)
    (t : Cfg) (ht : ∀ p ∈ t.paths, ∃ l ∈ lines, p = (l.path ++ [l.text]).map String.ofList) :
    Acl.applyAcl (aclVendor v) true false (Lemmas.rulesFor v k) [] t = .ok t := by
  apply Acl.Lemmas.applyAcl_of_walks
  intro p hp
  obtain ⟨l, hl, rfl⟩ := ht p hp
  exact hc l hl

/-- F14a — Arista `CommunityType.LARGE`: the community generator yields
`ip large-community-list  L1 permit 1:1:1` (community.py:192-193) and its own ACL, which lists
`ip large-community-list` (community.py:172-177), lets that row pass — as yielded and with the blanks collapsed as
`AristaFormatter.split` does. -/
theorem C14_arista_large_covered :
    (runCommunityA largeInput).1.map (·.text) = ["ip large-community-list  L1 permit 1:1:1".toList] ∧
    (runCommunityA largeInput).2 = none ∧
    aclErrOf (Acl.applyAcl (aclVendor .arista) true false (Lemmas.rulesFor .arista .community) []
        (.mk [("ip large-community-list  L1 permit 1:1:1", .mk [])])) = none ∧
    aclErrOf (Acl.applyAcl (aclVendor .arista) true false (Lemmas.rulesFor .arista .community) []
        (.mk [("ip large-community-list L1 permit 1:1:1", .mk [])])) = none := by
  have hl (w2 ws) := Lemmas.communityA_covered
    (Lemmas.flatCovered_of_toks (h := "ip large-community-list") (.tail _ (.tail _ (.head _))) w2 ws)
  refine ⟨by decide +kernel, by decide +kernel, ?_, ?_⟩
  · rw [C14_acl_covered_tree _ _ [⟨[], [_, [], s "L1", s "permit", s "1:1:1"]⟩] (List.forall_mem_singleton.mpr (hl _ _)) _
      (by decide +kernel)]
    rfl
  · rw [C14_acl_covered_tree _ _ [⟨[], [_, s "L1", s "permit", s "1:1:1"]⟩] (List.forall_mem_singleton.mpr (hl _ _)) _
      (by decide +kernel)]
    rfl

/-- Non-vacuity: a header and three children. -/
example :
    let inp : Input := { policies := [{ name := s "p", stmts := [demoStmt] }], clists := [basicList], plists := [],
                         aspaths := [], rds := [] }
    (∀ p ∈ inp.policies, p.name ≠ [] ∧ ∀ c ∈ p.name, Offside.pyIsSpace c = false) ∧
    ((runGen inp .huawei .policy).1.map (·.path.length)) = [0, 1, 1, 1] := by decide +kernel

/-! ### "Every named list a policy statement refers to is defined, under the same name, by the matching list
generator fed the same inputs"

`refsH` reads the references off the rows inside `route-policy` nodes (`if-match community-filter N`,
`if-match ip-prefix N`, `apply comm-filter N delete`, `if-match rd-filter NUM`, …); `defsH` reads the definitions off
the rows of the list generators (`ip community-filter basic N …`, `ip ip-prefix N …`, `ip rd-filter NUM …`, …); both
are specifications, kind-sensitive except for the address family of prefix lists. -/

/-- Huawei: whenever the four list generators complete, every reference made by the policy rows — including the
derived prefix-list names `N_ge_le` — is defined by them, provided every community list is used under the field of its
own type and no list is empty.  (The policy stream may be partial: rows yielded before an error count too.) -/
theorem C14_refs_defined_huawei (inp : Input)
    (hc : (runCommunityH inp).2 = none) (hpl : (runPrefixH inp).2 = none) (ha : (runAsPathH inp).2 = none)
    (hr : (runRdH inp).2 = none) (hty : TypeConsistent inp) (hne : NonEmptyLists inp)
    (r : RefKind × Str) (h : r ∈ refsH (runPolicyH inp).1) :
    r ∈ defsH ((runCommunityH inp).1 ++ (runPrefixH inp).1 ++ (runAsPathH inp).1 ++ (runRdH inp).1) := by
  obtain ⟨p, hp, st, hst, horig⟩ := Lemmas.origin_refsH inp r h
  obtain ⟨hnc, hnp, hnr⟩ := hne
  obtain ⟨htc, hta⟩ := hty p hp st hst
  unfold defsH
  simp only [List.flatMap_append, List.mem_append]
  rcases horig with ⟨c, hcm, hcr⟩ | ⟨a, ham, ⟨hf, hk, hv, hn⟩⟩
  · cases hcr with
    | comm hf hk hv hn =>
      obtain ⟨cl, hg, hct⟩ := Lemmas.typesIn_mem (Lemmas.condTyped_names hf hv ▸ htc c hcm) hn
      exact .inl (.inl (.inl (Lemmas.community_defined_H inp hc hnc p hp st hst _
        (.inl ⟨c, hcm, Lemmas.fieldCType_mem hf, _, hv, hn⟩) _ _ hk cl hg (List.mem_singleton.mp hct))))
    | rd hf hv hn hg => exact .inr (Lemmas.rd_defined_H inp hr hnr p hp st hst c hcm hf _ hv _ hn _ hg)
    | pfx hf hv hn hg =>
      exact .inl (.inl (.inr (Lemmas.runPrefix_defined inp hnp defsOfRowH (RefKind.prefixList, ·)
        (Lemmas.prefixRowsH_defines _ (.inl rfl)) (Lemmas.prefixRowsH_defines _ (.inr rfl)) hpl hp hst hcm hf hv hn hg)))
    | asPath hf hv => exact .inl (.inr (Lemmas.aspath_defined_H inp ha p hp st hst c hcm hf _ hv))
  · obtain ⟨cl, hg, hct⟩ := Lemmas.typesIn_mem (Lemmas.actTyped_comm hf hv ▸ hta a ham) hn
    exact .inl (.inl (.inl (Lemmas.community_defined_H inp hc hnc p hp st hst _
      (.inr ⟨a, ham, Lemmas.actCType_mem hf, _, hv, hn⟩) _ _ hk cl hg (List.mem_singleton.mp hct))))

def emptyListStmt : Stmt :=
  { name := none, number := some (s "10"), result := .allow,
    conds := [{ field := .community, op := .has, val := .names [s "C1"] }], acts := [] }
def emptyListInput : Input :=
  { policies := [{ name := s "p", stmts := [emptyListStmt] }],
    clists := [{ name := s "C1", members := [] }], plists := [], aspaths := [], rds := [] }

/-- F14g — without the non-emptiness hypothesis the statement is false: a community list without members yields no
`ip community-filter` row, yet the policy row `if-match community-filter C1` refers to it; every generator completes. -/
theorem C14_refs_defined_false_empty_list :
    (runPolicyH emptyListInput).2 = none ∧ (runCommunityH emptyListInput).2 = none ∧
    refsH (runPolicyH emptyListInput).1 = [(.communityFilter, s "C1")] ∧
    defsH ((runCommunityH emptyListInput).1 ++ (runPrefixH emptyListInput).1 ++ (runAsPathH emptyListInput).1 ++
      (runRdH emptyListInput).1) = [] := by decide +kernel

def refsDemoStmt : Stmt :=
  { name := none, number := some (s "10"), result := .allow,
    conds := [{ field := .community, op := .hasAny, val := .names [s "C1"] },
              { field := .ipPrefix, op := .custom, val := .pfx [s "P1"] (some (s "8")) (some (s "24")) },
              { field := .rd, op := .has, val := .names [s "RD1"] }],
    acts := [] }
def refsDemoPl : PrefixList :=
  { name := s "P1",
    members := [{ net := s "10.0.0.0/8", addr := s "10.0.0.0", len := s "8", ge := none, le := none }] }
def refsDemoInput : Input :=
  { policies := [{ name := s "p", stmts := [refsDemoStmt] }], clists := [basicList], plists := [refsDemoPl],
    aspaths := [], rds := [{ name := s "RD1", number := s "7", members := [s "1:1"] }] }

/-- Non-vacuity: a community filter, a derived prefix list `P1_8_24`, an rd filter by number. -/
example :
    refsH (runPolicyH refsDemoInput).1 =
      [(.communityFilter, s "C1"), (.prefixList, s "P1_8_24"), (.rdFilter, s "7")] ∧
    (∀ r ∈ refsH (runPolicyH refsDemoInput).1,
      r ∈ defsH ((runCommunityH refsDemoInput).1 ++ (runPrefixH refsDemoInput).1 ++ (runAsPathH refsDemoInput).1 ++
        (runRdH refsDemoInput).1)) := by decide +kernel

/-- Arista: whenever the three list generators complete, every reference made by the policy rows — united names
`A_OR_B` of `has_any(A, B)`, `set community community-list A`, derived prefix-list names — is defined by them.
`MangleInj`: two different lists of names the program uses as keys must not mangle to the same united name.
(`NonEmptyLists` asks more than is used here and for Cumulus: rd filters.) -/
theorem C14_refs_defined_arista (inp : Input)
    (hc : (runCommunityA inp).2 = none) (hpl : (runPrefixA inp).2 = none) (ha : (runAsPathA inp).2 = none)
    (hty : TypeConsistent inp) (hne : NonEmptyLists inp) (hcn : Lemmas.CondsNamed inp) (hinj : Lemmas.MangleInj inp)
    (r : RefKindA × Str) (h : r ∈ refsA (runPolicyA inp).1) :
    r ∈ defsA ((runCommunityA inp).1 ++ (runPrefixA inp).1 ++ (runAsPathA inp).1) := by
  obtain ⟨p, hp, st, hst, horig⟩ := Lemmas.origin_refsA inp r h
  obtain ⟨hnc, hnp, _⟩ := hne
  unfold defsA
  simp only [List.flatMap_append, List.mem_append]
  rcases horig with ⟨c, hcm, hcr⟩ | ⟨a, ham, ⟨hf, hk, hv, hn⟩⟩
  · cases hcr with
    | comm hf hk hv hx =>
      obtain ⟨ns, hns, hnn, rfl, htyn⟩ := Lemmas.cond_ref_keyList hty hcn hp hst hcm hf hv hx
      exact .inl (.inl (Lemmas.community_defined_A inp hc hnc hinj ns hns hnn _ _ hk htyn))
    | pfx hf hv hn hg =>
      exact .inl (.inr (Lemmas.runPrefix_defined inp hnp defsOfRowA (RefKindA.prefixList, ·)
        (fun pl _ => Lemmas.prefixRowsA_defines _ (.inl rfl) pl) (fun pl _ => Lemmas.prefixRowsA_defines _ (.inr rfl) pl) hpl hp hst hcm hf hv
        hn hg))
    | asPath hf hv => exact .inr (Lemmas.aspath_defined_A inp ha p hp st hst c hcm hf _ hv)
  · obtain ⟨hkey, htyn⟩ := Lemmas.act_ref_keyList hty hp hst ham hf hv hn
    exact .inl (.inl (Lemmas.community_defined_A inp hc hnc hinj [_] hkey (List.cons_ne_nil _ _) _ _ hk htyn))

def basicList2 : CommList := { name := s "C2", members := [s "2:1"] }
def aristaRefsStmt : Stmt :=
  { name := none, number := some (s "10"), result := .allow,
    conds := [{ field := .community, op := .hasAny, val := .names [s "C1", s "C2"] },
              { field := .ipPrefix, op := .custom, val := .pfx [s "P1"] none (some (s "24")) }],
    acts := [{ field := .community, type := .custom,
               val := .comm { replaced := none, added := [s "C1"], removed := [] } }] }
def aristaRefsInput : Input :=
  { policies := [{ name := s "p", stmts := [aristaRefsStmt] }], clists := [basicList, basicList2],
    plists := [refsDemoPl], aspaths := [], rds := [] }

/-- Non-vacuity (Arista): `C1_OR_C2`, `C1`, `P1_unset_24`. -/
example :
    refsA (runPolicyA aristaRefsInput).1 =
      [(.communityList, s "C1_OR_C2"), (.prefixList, s "P1_unset_24"), (.communityList, s "C1")] ∧
    (∀ ns ∈ Lemmas.keyLists aristaRefsInput, ∀ ns' ∈ Lemmas.keyLists aristaRefsInput,
      mangle ns = mangle ns' → ns = ns') ∧
    (∀ r ∈ refsA (runPolicyA aristaRefsInput).1,
      r ∈ defsA ((runCommunityA aristaRefsInput).1 ++ (runPrefixA aristaRefsInput).1 ++
        (runAsPathA aristaRefsInput).1)) := by decide +kernel

/-- Cumulus (`generate_cumulus_rpl`): whenever the three list sections complete, every reference made by the route-map
rows — `match community|large-community-list|extcommunity N` (united names `A_OR_B` for `has_any`),
`match ip|ipv6 address prefix-list N` (derived names `N_ge_le`), `match as-path N`, `set comm-list N delete` — is
defined by them (`bgp community-list|large-community-list|extcommunity … N`, `ip|ipv6 prefix-list N`,
`ip as-path access-list N`), under the same hypotheses as for Arista.  The route-map section may be partial. -/
theorem C14_refs_defined_cumulus (inp : Input)
    (ha : (cumAsPath inp).2 = none) (hc : (cumCommunities inp).2 = none) (hpl : (cumPrefixLists inp).2 = none)
    (hty : TypeConsistent inp) (hne : NonEmptyLists inp) (hcn : Lemmas.CondsNamed inp) (hinj : Lemmas.MangleInj inp)
    (r : RefKindC × Str) (h : r ∈ refsC (cumPolicyConfig inp).1) :
    r ∈ defsC ((cumAsPath inp).1 ++ (cumCommunities inp).1 ++ (cumPrefixLists inp).1) := by
  obtain ⟨p, hp, st, hst, horig⟩ := Lemmas.origin_refsC inp r h
  obtain ⟨hnc, hnp, _⟩ := hne
  unfold defsC
  simp only [List.flatMap_append, List.mem_append]
  rcases horig with ⟨c, hcm, hcr⟩ | ⟨a, ham, ⟨hf, hk, hv, hn⟩⟩
  · cases hcr with
    | comm hf hk hv hx =>
      obtain ⟨ns, hns, hnn, rfl, htyn⟩ := Lemmas.cond_ref_keyList hty hcn hp hst hcm hf hv hx
      exact .inl (.inr (Lemmas.community_defined_C inp hc hnc hinj ns hns hnn _ _ hk htyn))
    | pfx hf hv hn hg => exact .inr (Lemmas.prefix_defined_C inp hpl hnp hp hst hcm hf hv hn hg)
    | asPath hf hv => exact .inl (.inl (Lemmas.aspath_defined_C inp ha p hp st hst c hcm hf _ hv))
  · obtain ⟨hkey, htyn⟩ := Lemmas.act_ref_keyList hty hp hst ham hf hv hn
    exact .inl (.inr (Lemmas.community_defined_C inp hc hnc hinj [_] hkey (List.cons_ne_nil _ _) _ _ hk htyn))

/-- The same read off the one text the generator produces: if `generate_cumulus_rpl` completes, every reference any
of its rows makes is defined by one of its rows. -/
theorem C14_refs_defined_cumulus_text (inp : Input) (hrun : (runCumulus inp).2 = none)
    (hty : TypeConsistent inp) (hne : NonEmptyLists inp) (hcn : Lemmas.CondsNamed inp) (hinj : Lemmas.MangleInj inp)
    (r : RefKindC × Str) (h : r ∈ refsC (runCumulus inp).1) : r ∈ defsC (runCumulus inp).1 := by
  unfold runCumulus at hrun h ⊢
  have ha := Lemmas.seq_ok_left _ _ hrun
  have h2 := Lemmas.seq_ok_right _ _ hrun
  have hc := Lemmas.seq_ok_left _ _ h2
  have h3 := Lemmas.seq_ok_right _ _ h2
  have hpl := Lemmas.seq_ok_left _ _ h3
  rw [Lemmas.seq_ok_rows _ _ hrun, Lemmas.seq_ok_rows _ _ h2, Lemmas.seq_ok_rows _ _ h3] at h ⊢
  -- only the route-map section makes references
  have hpol : r ∈ refsC (cumPolicyConfig inp).1 := by
    obtain ⟨row, hrow, hr⟩ := List.mem_flatMap.mp h
    have top : row.head? ≠ some [' '] → r ∈ refsC (cumPolicyConfig inp).1 := fun ht => by
      rw [Lemmas.refsC_top row ht] at hr; cases hr
    rcases List.mem_append.mp hrow with hrow | hrow
    · exact top (Lemmas.topRows_cumAsPath inp row hrow)
    rcases List.mem_append.mp hrow with hrow | hrow
    · exact top (Lemmas.topRows_cumCommunities inp row hrow)
    rcases List.mem_append.mp hrow with hrow | hrow
    · exact top (Lemmas.topRows_cumPrefixLists inp row hrow)
    · exact List.mem_flatMap.mpr ⟨row, hrow, hr⟩
  have := C14_refs_defined_cumulus inp ha hc hpl hty hne hcn hinj r hpol
  refine Lemmas.mem_flatMap_mono this fun l hl => ?_
  simp only [List.mem_append] at hl ⊢
  rcases hl with (hl | hl) | hl <;> simp only [hl, true_or, or_true]

/-- F14g on Cumulus — without `NonEmptyLists` the statement is false: the community list `C1` has no members, the
community section yields no `bgp community-list … C1` row, the run completes, and `match community C1` refers to it
(replayed on the real code: corpus/C14/dangling-ref:cumulus:empty-list.json). -/
theorem C14_refs_defined_cumulus_false_empty_list :
    (runCumulus emptyListInput).2 = none ∧
    refsC (runCumulus emptyListInput).1 = [(.communityList, s "C1")] ∧
    defsC (runCumulus emptyListInput).1 = [] := by decide +kernel

def cumulusRefsStmt : Stmt :=
  { name := none, number := some (s "10"), result := .allow,
    conds := [{ field := .community, op := .hasAny, val := .names [s "C1", s "C2"] },
              { field := .ipPrefix, op := .custom, val := .pfx [s "P1"] none (some (s "24")) }],
    acts := [{ field := .community, type := .custom,
               val := .comm { replaced := none, added := [], removed := [s "C1"] } }] }
def cumulusRefsInput : Input :=
  { policies := [{ name := s "p", stmts := [cumulusRefsStmt] }], clists := [basicList, basicList2],
    plists := [refsDemoPl], aspaths := [], rds := [] }

/-- Non-vacuity (Cumulus): `C1_OR_C2`, `P1_unset_24`, `C1`, defined by rows of the same text. -/
example :
    (runCumulus cumulusRefsInput).2 = none ∧
    refsC (runCumulus cumulusRefsInput).1 =
      [(.communityList, s "C1_OR_C2"), (.prefixList, s "P1_unset_24"), (.communityList, s "C1")] ∧
    defsC (runCumulus cumulusRefsInput).1 =
      [(.communityList, s "C1"), (.communityList, s "C1"), (.communityList, s "C1_OR_C2"),
       (.communityList, s "C1_OR_C2"), (.communityList, s "C1_OR_C2"), (.prefixList, s "P1_unset_24")] ∧
    (∀ ns ∈ Lemmas.keyLists cumulusRefsInput, ∀ ns' ∈ Lemmas.keyLists cumulusRefsInput,
      mangle ns = mangle ns' → ns = ns') ∧
    (∀ r ∈ refsC (runCumulus cumulusRefsInput).1, r ∈ defsC (runCumulus cumulusRefsInput).1) := by decide +kernel

/-- … and that input meets every hypothesis. -/
example : TypeConsistent cumulusRefsInput ∧ NonEmptyLists cumulusRefsInput ∧ Lemmas.CondsNamed cumulusRefsInput ∧
    Lemmas.MangleInj cumulusRefsInput := by
  refine ⟨?_, ?_, ?_, ?_⟩
  · unfold TypeConsistent; decide +kernel
  · unfold NonEmptyLists; decide +kernel
  · intro p hp st hst c hc l hv
    simp only [cumulusRefsInput, List.mem_singleton] at hp; subst hp
    simp only [List.mem_singleton] at hst; subst hst
    simp only [cumulusRefsStmt, List.mem_cons, List.not_mem_nil, or_false] at hc
    rcases hc with rfl | rfl
    · cases hv; simp
    · cases hv
  · unfold Lemmas.MangleInj; decide +kernel

/-! ### "Every generated line parses back to the block structure it was generated in" -/

/-- For any number of blocks with any number of rows each: the text `PartialGenerator.__call__` produces (header
rows at column 0, the rows yielded inside `with self.block(...)` behind the two-blank indent) is parsed by
`parse_to_tree` into exactly the tree of the yielded paths `[header]`, `[header, row]` — provided the row texts are
"clean" (start and end with a non-blank character and do not start with `!` / `#`).  Flat generators are the case
of blocks without rows.  (`fmtr.split`'s blank-collapsing is the identity on such rows unless they contain a
run of blanks; that step is validated by the correspondence only.) -/
theorem C14_parse_nesting (bs : List (Str × List Str))
    (hclean : ∀ b ∈ bs, Lemmas.CleanBody b.1 ∧ ∀ c ∈ b.2, Lemmas.CleanBody c) :
    Offside.parseToTree ["!", "#"] (Lemmas.renderBlocks bs)
      = .ok (Offside.treeOfStacks (Lemmas.blockPaths (Lemmas.blocksAsStrings bs))) :=
  Lemmas.parse_blocks bs hclean

/-- The rows of a statement stream (`with self.block(header): <body>`) are such a block, whatever the body yields
before it ends or raises. -/
theorem C14_block_stream_rows (header : List Str) (body : Out (List Str)) :
    (inBlock header body).1.map (fun l => String.ofList (rowText l))
      = Lemmas.renderBlocks [(joinSp header, body.1.map joinSp)] := by
  rw [Lemmas.inBlock_eq]
  simp only [List.map_cons, List.map_map, Lemmas.renderBlocks, List.append_nil]
  congr 1

/-- Non-vacuity (item level): two blocks, the second without rows. -/
example : (Offside.stacks (Lemmas.blockItems [("route-policy p permit node 10", ["if-match cost 1", "apply tag 7"]),
                                              ("ip as-path-filter A index 10 permit _1_", [])])).toOption
    = some [["route-policy p permit node 10"], ["route-policy p permit node 10", "if-match cost 1"],
            ["route-policy p permit node 10", "apply tag 7"], ["ip as-path-filter A index 10 permit _1_"]] := by
  decide +kernel

end Annet.Rpl
