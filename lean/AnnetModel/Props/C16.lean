/-
C16 — File mode and device mode compute the same diff and the same patch.

Model: `Model/Api.lean` — `deviceMode` mirrors `_diff_and_patch`, `fileMode` mirrors
`_read_old_new_diff_patch` at commit 15afe27 (the patch is built from the full diff, only the
displayed diff is stripped).  The theorems quantify over *every* table of logic
functions (`lg`), which is how they speak about the vendor `%logic` functions the model does not contain.
-/
import AnnetModel.Model.Api
import AnnetModel.Spec.Diff
import AnnetModel.Lemmas.Basic

/-! OBLIGATIONS
Annet.Api.C16_modes_equal
Annet.Api.C16_diff_equal
Annet.Api.C16_patch_equal
Annet.Api.C16_strip_first_patch_differs
Annet.Api.C16_strip_first_diff_equal
-/

namespace Annet.Api
open Annet Annet.Rules Annet.Diff Annet.Patch

/-- For every logic table, rulebook, ordering and config pair the two front ends compute the same
result (same diff entries, same patch tree, same error). -/
theorem C16_modes_equal (lg : LogicFn) (v : Vendor) (rules : PRules) (ordering : List ORule) (old new : Cfg) :
    fileMode lg v rules ordering old new = deviceMode lg v rules ordering true old new := by
  rfl

theorem C16_diff_equal (lg : LogicFn) (v : Vendor) (rules : PRules) (ordering : List ORule) (old new : Cfg) :
    (fileMode lg v rules ordering old new).map (·.diff) = (deviceMode lg v rules ordering true old new).map (·.diff) := by
  rw [C16_modes_equal]

theorem C16_patch_equal (lg : LogicFn) (v : Vendor) (rules : PRules) (ordering : List ORule) (old new : Cfg) :
    (fileMode lg v rules ordering old new).map (·.patch) = (deviceMode lg v rules ordering true old new).map (·.patch) := by
  rw [C16_modes_equal]

/-- The displayed diff is the same whether the unchanged entries are stripped before the patch is
built (`fileModeStripFirst`) or after (`deviceMode`). -/
theorem C16_strip_first_diff_equal (lg : LogicFn) (v : Vendor) (rules : PRules) (ordering : List ORule) (old new : Cfg)
    (r1 r2 : Result) (h1 : fileModeStripFirst lg v rules ordering old new = .ok r1)
    (h2 : deviceMode lg v rules ordering true old new = .ok r2) : Diff.Spec.erase r1.diff = Diff.Spec.erase r2.diff := by
  obtain ⟨d, hd, h1⟩ := Except.bind_eq_ok.1 h1
  obtain ⟨d', hd', h2⟩ := Except.bind_eq_ok.1 h2
  obtain ⟨p1, -, h1⟩ := Except.bind_eq_ok.1 h1
  obtain ⟨p2, -, h2⟩ := Except.bind_eq_ok.1 h2
  cases hd.symm.trans hd'
  cases h1; cases h2; rfl

private def lgAllIfAlone : LogicFn := fun _ _ it =>
  match it with
  | .mk _ _ r _ _ u =>
    match r with
    | [] => .ok []
    | _ :: _ => if u.isEmpty then .ok [⟨false, "undo vlan all", none⟩]
                else .ok [⟨false, "undo vlan 20", none⟩]

private def rows (r : Except Patch.Err Result) : List String :=
  match r with
  | .ok res => res.patch.items.map (·.1)
  | .error _ => ["<error>"]

/-- `fileModeStripFirst` (strip, then patch) and `deviceMode` give different patches for a logic
that looks at the unchanged siblings of a changed line (huawei prefix lists, vlan lists): here
`lgAllIfAlone`, which removes a line with `undo … all` only when no unchanged sibling of the same
key remains. -/
theorem C16_strip_first_patch_differs :
    let v : Vendor := { reverse := "undo", exit := "quit" }
    let rules : PRules := ⟨[.mk "vlan" false { row := "vlan", logic := "x.all_if_alone", diffLogic := "common.default_diff",
                                               parent := false, forceCommit := false } (some ([], []))], []⟩
    let old : Cfg := .mk [("vlan 10", .mk []), ("vlan 20", .mk [])]
    let new : Cfg := .mk [("vlan 10", .mk [])]
    rows (deviceMode lgAllIfAlone v rules [] true old new) = ["undo vlan 20"] ∧
    rows (fileModeStripFirst lgAllIfAlone v rules [] old new) = ["undo vlan all"] := by
  decide +kernel

end Annet.Api
