/-
C07 — Rule patterns mean what the rule language says, in every rulebook kind.

`matchToks` is the model of what the regular expression built by
`compile_row_regexp` does on a row (tied to CPython `re` by the correspondence
check); `refWords` is the rule language's stated meaning over words.
-/
import AnnetModel.Lemmas.Pattern

/-! OBLIGATIONS
Annet.Pattern.C07_match_is_word_semantics
Annet.Pattern.C07_key_is_placeholders
Annet.Pattern.C07_star_binds_one_word
Annet.Pattern.C07_prefix_semantics
Annet.Pattern.C07_word_boundary
Annet.Pattern.C07_reverse_format
Annet.Pattern.C07_reverse_roundtrip
Annet.Pattern.C07_negate_involutive
Annet.Pattern.C07_negation_word_is_a_whole_word
Annet.Pattern.C07_ignorecase
-/

namespace Annet.Pattern
open Annet.Offside (pyIsSpace)

/-- A rule line of literal words, `*` and a trailing `~` matches a configuration
line exactly when the line starts with the corresponding words at word
boundaries; the groups are the words bound to the placeholders. -/
theorem C07_match_is_word_semantics (ic : Bool) (toks : List Tok) (ws : List (List Char))
    (hwf : WFToks toks) (hne : toks ≠ []) (hws : ∀ w ∈ ws, cleanWord w) :
    matchToks ic false toks (joinWords ws) = refWords ic toks ws := by
  induction toks generalizing ws with
  | nil => exact absurd rfl hne
  | cons t more ih =>
    cases ws with
    | nil => rw [Lemmas.joinWords_nil, Lemmas.refWords_nil_right, Lemmas.matchToks_nil_right ic t more hwf]
    | cons x ws =>
      have hx : cleanWord x := hws x (by simp)
      have hws' : ∀ w ∈ ws, cleanWord w := fun w hw => hws w (by simp [hw])
      rcases Lemmas.wf_cons hwf with ⟨ht, hwf'⟩ | ⟨rfl, rfl⟩
      · obtain ⟨rest, hj, hr, hnil, htl⟩ := Lemmas.joinWords_cons_rest hws' x
        rw [hj, Lemmas.matchToks_word ic ht hx more hr, Lemmas.refWords_word ic ht]
        congr 1; funext caps
        cases more with
        | nil => simp [refWords]
        | cons t' m =>
          cases rest with
          | nil => rw [hnil.1 rfl, Lemmas.refWords_nil_right]; rfl
          | cons c r => simp only [htl c r rfl, ih ws hwf' (by simp) hws']
      · rw [Lemmas.tilde_last ic (fun h0 => Lemmas.not_good_nil (h0 ▸ Lemmas.good_joinWords hx ws))]
        simp [refWords, joinWords]

/-- The key has one entry per placeholder (`key.length = holes toks`); what a `*` binds is `C07_star_binds_one_word`. -/
theorem C07_key_is_placeholders (ic ell : Bool) (toks : List Tok) (row : List Char)
    (key : List (List Char)) (hwf : WFToks toks)
    (h : matchToks ic ell toks row = some key) : key.length = holes toks :=
  -- holds of any token list (`hwf` is not used): a `~` that is not last never matches
  have _ := hwf
  Lemmas.key_length ic ell toks row key h

/-- `*` binds exactly the one word at its position (on `refWords`; carried to `matchToks` by
`C07_match_is_word_semantics`). -/
theorem C07_star_binds_one_word (ic : Bool) (pre post : List Tok) (ws : List (List Char))
    (key : List (List Char)) (h : refWords ic (pre ++ .star :: post) ws = some key) :
    ∃ w, ws[pre.length]? = some w ∧ key[holes pre]? = some w := by
  induction pre generalizing ws key with
  | nil =>
    cases ws with
    | nil => rw [List.nil_append, Lemmas.refWords_nil_right] at h; cases h
    | cons x ws =>
      simp only [List.nil_append, refWords, Option.map_eq_some_iff] at h
      obtain ⟨k', _, rfl⟩ := h
      exact ⟨x, rfl, rfl⟩
  | cons t pre ih =>
    cases ws with
    | nil => rw [List.cons_append, Lemmas.refWords_nil_right] at h; cases h
    | cons x ws =>
      cases t with
      | lit w =>
        simp only [List.cons_append, refWords] at h
        split at h
        · obtain ⟨w', h1, h2⟩ := ih ws key h
          exact ⟨w', h1, by rw [Lemmas.holes_lit]; exact h2⟩
        · cases h
      | star =>
        simp only [List.cons_append, refWords, Option.map_eq_some_iff] at h
        obtain ⟨k', hk', rfl⟩ := h
        obtain ⟨w', h1, h2⟩ := ih ws k' hk'
        exact ⟨w', h1, by rw [Lemmas.holes_star]; exact h2⟩
      | tilde =>
        cases pre <;> simp [refWords] at h

/-- Prefix semantics: a pattern not ending in `~` matches every row that
starts with the right words, with the same key (on `refWords`; carried to `matchToks` by
`C07_match_is_word_semantics`). -/
theorem C07_prefix_semantics (ic : Bool) (toks : List Tok) (ws more key : List (List Char))
    (hnt : endsWithTilde toks = false)
    (h : refWords ic toks ws = some key) : refWords ic toks (ws ++ more) = some key := by
  induction toks generalizing ws key with
  | nil => simpa [refWords] using h
  | cons t m ih =>
    have hm : endsWithTilde m = false := by
      cases m with
      | nil => simp [endsWithTilde]
      | cons t' m' => exact Lemmas.endsWithTilde_cons hnt
    cases ws with
    | nil => rw [Lemmas.refWords_nil_right] at h; cases h
    | cons x ws =>
      cases t with
      | lit w =>
        simp only [List.cons_append, refWords] at h ⊢
        split at h
        · rename_i hc; rw [if_pos hc]; exact ih ws key hm h
        · cases h
      | star =>
        simp only [List.cons_append, refWords, Option.map_eq_some_iff] at h ⊢
        obtain ⟨k', hk', rfl⟩ := h
        exact ⟨k', ih ws k' hm hk', rfl⟩
      | tilde =>
        cases m with
        | nil => simp [endsWithTilde] at hnt
        | cons _ _ => simp [refWords] at h

/-- …but never across a word boundary: `a` does not match `ab`. -/
theorem C07_word_boundary (ic : Bool) (w r : List Char) (c : Char) (hc : pyIsSpace c = false) :
    matchToks ic false [.lit w] (w ++ c :: r) = none := by
  simp [matchToks, matchOne, Lemmas.stripLit_self, boundary, hc]

/-- The removal command is the negation word followed by the rule's words with
the key substituted (or, for a rule that is itself negated, the rule without
its negation word). -/
theorem C07_reverse_format (pre : List Char) (toks : List Tok) (key : List (List Char))
    (hk : holes toks ≤ key.length) :
    format (makeReverse pre toks) key =
      some (if startsWithPrefixTok pre toks then subst (toks.drop 1) key else pre :: subst toks key) :=
  Lemmas.format_makeReverse pre toks key hk

/-- The body of the removal command is matched by the same rule with the same key. -/
theorem C07_reverse_roundtrip (ic : Bool) (toks : List Tok) (ws key : List (List Char))
    (hwf : WFToks toks) (hne : toks ≠ []) (hws : ∀ w ∈ ws, cleanWord w)
    (h : refWords ic toks ws = some key) :
    matchToks ic false toks (joinWords (subst toks key)) = some key :=
  (Lemmas.match_roundtrip ic toks _ key hwf hne (by rw [C07_match_is_word_semantics ic toks ws hwf hne hws, h])).1

/-- Negating a negated rule gives back the plain rule (unless the rule starts
with the negation word twice, where the code strips one each time). -/
theorem C07_negate_involutive (pre : List Char) (ws : List (List Char)) (hne : ws ≠ [])
    (hg : ¬ ∃ w rest, ws = pre :: pre :: w :: rest) :
    negate pre (negate pre ws) = ws := by
  cases ws with
  | nil => exact absurd rfl hne
  | cons a l =>
    cases l with
    | nil => simp [negate, startsWithPrefix]
    | cons b l =>
      by_cases hab : a = pre
      · subst hab
        cases l with
        | nil => simp [negate, startsWithPrefix]
        | cons c l =>
          have hb : b ≠ a := by
            rintro rfl
            exact hg ⟨c, l, rfl⟩
          simp [negate, startsWithPrefix, hb]
      · simp [negate, startsWithPrefix, hab]

/-- The negation word is recognised as a WHOLE first word (`row.startswith(prefix + " ")`): a row whose first word merely
begins with it (`notify …` for `no`, `undoable …` for `undo`) is an ordinary row, and its negated form is the negation word
put in front of the whole row.  A row that does start with the word loses exactly that word. -/
theorem C07_negation_word_is_a_whole_word (pre w : List Char) (ws : List (List Char)) :
    (w ≠ pre → negate pre (w :: ws) = pre :: w :: ws) ∧
    (ws ≠ [] → negate pre (pre :: ws) = ws) := by
  constructor
  · intro h
    cases ws with
    | nil => simp [negate, startsWithPrefix]
    | cons x xs => simp [negate, startsWithPrefix, h]
  · intro h
    cases ws with
    | nil => exact absurd rfl h
    | cons x xs => simp [negate, startsWithPrefix]

/-- `(?i)`: everything matched case-sensitively is matched, with the same key. -/
theorem C07_ignorecase (ell : Bool) (toks : List Tok) (row : List Char) (key : List (List Char))
    (h : matchToks false ell toks row = some key) : matchToks true ell toks row = some key := by
  fun_induction matchToks false ell toks row generalizing key with
  | case1 _ hb => cases h; simp [matchToks, hb]
  | case4 _ _ _ _ hm hb => cases h; simp [matchToks, Lemmas.matchOne_false_true hm, hb]
  | case7 _ _ _ _ hm _ _ _ hs ih =>
    obtain ⟨k', hk', rfl⟩ := Option.map_eq_some_iff.1 h
    rw [matchToks, Lemmas.matchOne_false_true hm]
    simp only [hs, ih _ hk', Option.map_some]
  | _ => cases h

/-- Non-vacuity and sanity on concrete rows. -/
example : (parseRow false "interface * description ~".toList).map (·.match? "interface Eth1 description to  core".toList)
    = some (some ["Eth1".toList, "to  core".toList]) := by decide +kernel
example : (parseRow false "interface *".toList).map (·.match? "interfaces Eth1".toList) = some none := by decide +kernel
example : (parseRow false "(?i)Vlan *".toList).map (·.match? "vlan 10 x".toList) = some (some ["10".toList]) := by decide +kernel
example : (parseRow true "port trunk allow-pass vlan ~".toList).map (fun p => renderTemplate (makeReverse "undo".toList p.toks))
    = some "undo port trunk allow-pass vlan {}".toList := by decide +kernel
example : negate "no".toList (negate "no".toList ["no".toList, "no".toList, "x".toList]) ≠ ["no".toList, "no".toList, "x".toList] := by decide +kernel
example : WFToks [.lit "a".toList, .star, .tilde] ∧ cleanWord "x".toList := by
  refine ⟨⟨⟨by decide, by decide⟩, trivial⟩, by decide, by decide⟩

end Annet.Pattern
