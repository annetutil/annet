/-
C11 — VLAN-list commands change exactly the VLANs that differ.

`old` / `new` are the config lines of one `(rule, key)` (e.g. all `port trunk allow-pass vlan …` lines of an interface) as
token lists; `vl r` is the VLAN set `_parse_vlancfg` reads from line `r`, `setOf vl old` the union (`S_old`); `Disj vl old`:
the lines are a splitting of one range list.  `hLeaf m rev old new` is the pipeline for these lines: bucketing
(`base_diff`/`mark_unchanged`/`make_pre`) and the logic function.  `EndsIn interp cs S_old S_new`: the device understands
every command of `cs`, and executing them in this order from `S_old` leaves exactly `S_new`; `KeepsCommon`: every state on
the way contains `S_old ∩ S_new`.  Both are proved for every permutation `cs` of the emitted rows, so the final ordering
of the patch (C08) cannot break them.

The model follows the code at 679839a (`multi_all`: no `undo … all` while unchanged sibling lines remain), 7d0d905
(`single`: no whole-key reverse command while unchanged sibling lines remain) and 7afbb71 (huawei.rul: the `vlan` lines of a
pool form one key); the two `…_old_rule_false` theorems are about variants that are not this code.
-/
import AnnetModel.Lemmas.Vlan
import AnnetModel.Lemmas.VlanDiff
import AnnetModel.Gen.IfaceLists

/-! OBLIGATIONS
Annet.Vlan.C11_expand_collapse_huawei
Annet.Vlan.C11_expand_collapse_cisco
Annet.Vlan.C11_changed_lines_suffice
Annet.Vlan.C11_written_lines_parse_huawei
Annet.Vlan.C11_written_lines_parse_cisco
Annet.Vlan.C11_huawei_exact
Annet.Vlan.C11_huawei_never_removes_common
Annet.Vlan.C11_huawei_multi_exact
Annet.Vlan.C11_huawei_multi_never_removes_common
Annet.Vlan.C11_huawei_single_refuses_many
Annet.Vlan.C11_huawei_always_emits_false
Annet.Vlan.C11_huawei_always_emits_partial
Annet.Vlan.C11_huawei_single_old_rule_false
Annet.Vlan.C11_cisco_exact
Annet.Vlan.C11_cisco_never_removes_common
Annet.Vlan.C11_pool_one_list
Annet.Vlan.C11_pool_keyed_by_first_id_old_rule_false
Annet.Vlan.C11_vlan_diff_keeps_batch_rows
Annet.Vlan.C11_vlan_diff_never_removes_batched_vlan
Annet.Vlan.C11_nexus_port_channel_member_exact
Annet.Vlan.C11_not_member_is_plain_logic
Annet.Vlan.C11_cisco_leaves_port_channel_false
Annet.Vlan.C11_member_lists_as_modelled
-/

namespace Annet.Vlan
open Spec Lemmas

/-- `huawei_expand_vlandb(" ".join(chunk))` over the chunks of
`collapse_vlandb(S, " to ", tiny_ranges, chunk_len)` gives back exactly `S`: every chunk expands
(no exception) to ids of `S`, and every id of `S` is in the expansion of some chunk.  `S` in any order,
duplicates allowed; `chunk_len = 0`: one flat list. -/
theorem C11_expand_collapse_huawei (tiny : Bool) (chunkLen : Nat) (S : List Nat) (hS : S ≠ []) :
    ∃ chunks, collapseChunks tiny chunkLen S = .ok chunks ∧
      (∀ c ∈ chunks, ∃ out, huaweiExpand (renderHs c) = .ok out ∧ ∀ v ∈ out, v ∈ S) ∧
      (∀ v ∈ S, ∃ c ∈ chunks, ∃ out, huaweiExpand (renderHs c) = .ok out ∧ v ∈ out) :=
  expand_collapse (fun c out => huaweiExpand (renderHs c) = .ok out)
    (fun c hwf => hExpandGo_of_readH _ (readH_render c hwf) none) tiny chunkLen S hS

/-- The same for `cisco_expand_vlandb(",".join(chunk))` and `range_sep = "-"`. -/
theorem C11_expand_collapse_cisco (tiny : Bool) (chunkLen : Nat) (S : List Nat) (hS : S ≠ []) :
    ∃ chunks, collapseChunks tiny chunkLen S = .ok chunks ∧
      (∀ c ∈ chunks, ∃ out, ciscoExpand (c.map renderC) = .ok out ∧ ∀ v ∈ out, v ∈ S) ∧
      (∀ v ∈ S, ∃ c ∈ chunks, ∃ out, ciscoExpand (c.map renderC) = .ok out ∧ v ∈ out) :=
  expand_collapse (fun c out => ciscoExpand (c.map renderC) = .ok out)
    (fun c hwf => ciscoExpand_of_readC (readC_render c hwf)) tiny chunkLen S hS

/-- `_process_vlandb` only looks at the *changed* lines (`diff[Op.REMOVED]`, `diff[Op.ADDED]`).
When the old lines are pairwise disjoint that is enough: the difference of the changed lines' sets
is the difference of the whole sets (and symmetrically with `old`/`new` swapped). -/
theorem C11_changed_lines_suffice {ρ : Type} [BEq ρ] [LawfulBEq ρ] (vl : ρ → List Nat) (old new : List ρ)
    (hold : Disj vl old) (v : Nat) :
    v ∈ sdiff (setOf vl (leafBuckets old new).removed) (setOf vl (leafBuckets old new).added)
      ↔ v ∈ setOf vl old ∧ v ∉ setOf vl new :=
  diff_rows vl old new hold v

/-- A Huawei line made of a prefix ending in a word and any piece `c` of a collapsed range list
(`collapseGo` output: `lo ≤ hi`) is parsed by `_parse_vlancfg` into that prefix and exactly the ids
of the piece.  So for every set and every splitting of its range list over lines, the hypothesis
`hparse` of the theorems below holds (with `vl` = the ids of the piece). -/
theorem C11_written_lines_parse_huawei (p0 : HRow) (s : String) (c : List (Nat × Nat))
    (hwf : ∀ r ∈ c, r.1 ≤ r.2) :
    ∃ out, hParseVlancfg (p0 ++ [.w s] ++ renderHs c) = .ok (p0 ++ [.w s], out) ∧
      ∀ x, x ∈ out ↔ Covers c x :=
  ⟨ids c, hParse_written p0 s c hwf, mem_ids c⟩

/-- Cisco: `<pfx> a-b,c`, `<pfx> add a-b,c` and `<pfx> none` all parse to `<pfx>` and the ids. -/
theorem C11_written_lines_parse_cisco (p : CRow) (hp0 : p ≠ []) (hlast : p.getLast? ≠ some (.w "add"))
    (c : List (Nat × Nat)) (hwf : ∀ r ∈ c, r.1 ≤ r.2) :
    (∃ out, cParseVlancfg (p ++ [.spec (c.map renderC)]) = .ok (p, out) ∧ ∀ x, x ∈ out ↔ Covers c x) ∧
    (∃ out, cParseVlancfg (p ++ [.w "add", .spec (c.map renderC)]) = .ok (p, out) ∧ ∀ x, x ∈ out ↔ Covers c x) ∧
    cParseVlancfg (p ++ [.w "none"]) = .ok (p, []) :=
  have ⟨h1, h2, h3⟩ := cParse_written p hp0 hlast c hwf
  ⟨⟨ids c, h1, mem_ids c⟩, ⟨ids c, h2, mem_ids c⟩, h3⟩

/-- **All three modes** — `single` (`instance N vlan`), `multi` (`vlan batch`, `vlan` of a pool) and
`multi_all` (`port trunk allow-pass vlan`, `port hybrid tagged/untagged vlan`) — any number of lines
on each side, any sets.  Either the logic emits commands that, in every order, leave
exactly `S_new`; or — only in mode `single`, and exactly when more than one line of the key changed
on one side — it raises its own AssertionError ("Too many actions", huawei/vlandb.py:54-56) and emits
nothing at all.  Unchanged sibling lines of the key are allowed in every mode; only `single` bounds the
number of *changed* lines. -/
theorem C11_huawei_exact (m : HMode) (p rev : HRow) (old new : List HRow) (vl : HRow → List Nat)
    (hp : p.head? ≠ some (.w "undo"))
    (hparse : ∀ r, r ∈ old ∨ r ∈ new → hParseVlancfg r = .ok (p, vl r))
    (hold : Disj vl old) (hnew : Disj vl new)
    (hrevAll : m = .multiAll → rev = .w "undo" :: p)
    (hrevSingle : m = .single → ∀ t, rev ≠ p ++ t ∧ rev ≠ .w "undo" :: (p ++ t)) :
    (∃ ys, hLeaf m rev old new = .ok ys ∧
      ∀ cs, cs.Perm (ys.map (·.row)) →
        EndsIn (interpH (hDevice m p rev)) cs (setOf vl old) (setOf vl new)) ∨
    (m = .single ∧
      (1 < (leafBuckets old new).removed.length ∨ 1 < (leafBuckets old new).added.length) ∧
      hLeaf m rev old new = .error .assertion) :=
  (huawei_total m p rev old new vl hp hparse hold hnew hrevAll hrevSingle).imp_left (emits_mono fun _ h => h.1)

/-- … and on the way no VLAN that is in both sets ever disappears. -/
theorem C11_huawei_never_removes_common (m : HMode) (p rev : HRow) (old new : List HRow)
    (vl : HRow → List Nat)
    (hp : p.head? ≠ some (.w "undo"))
    (hparse : ∀ r, r ∈ old ∨ r ∈ new → hParseVlancfg r = .ok (p, vl r))
    (hold : Disj vl old) (hnew : Disj vl new)
    (hrevAll : m = .multiAll → rev = .w "undo" :: p)
    (hrevSingle : m = .single → ∀ t, rev ≠ p ++ t ∧ rev ≠ .w "undo" :: (p ++ t)) :
    (∃ ys, hLeaf m rev old new = .ok ys ∧
      ∀ cs, cs.Perm (ys.map (·.row)) →
        KeepsCommon (interpH (hDevice m p rev)) cs (setOf vl old) (setOf vl new)) ∨
    (m = .single ∧
      (1 < (leafBuckets old new).removed.length ∨ 1 < (leafBuckets old new).added.length) ∧
      hLeaf m rev old new = .error .assertion) :=
  (huawei_total m p rev old new vl hp hparse hold hnew hrevAll hrevSingle).imp_left (emits_mono fun _ h => h.2)

/-- `multi` and `multi_all` never raise: commands are always emitted, and they are exact. -/
theorem C11_huawei_multi_exact (m : HMode) (hm : m ≠ .single) (p rev : HRow) (old new : List HRow)
    (vl : HRow → List Nat)
    (hp : p.head? ≠ some (.w "undo"))
    (hparse : ∀ r, r ∈ old ∨ r ∈ new → hParseVlancfg r = .ok (p, vl r))
    (hold : Disj vl old) (hnew : Disj vl new)
    (hrev : m = .multiAll → rev = .w "undo" :: p) :
    ∃ ys, hLeaf m rev old new = .ok ys ∧
      ∀ cs, cs.Perm (ys.map (·.row)) →
        EndsIn (interpH (hDevice m p rev)) cs (setOf vl old) (setOf vl new) :=
  emits_mono (fun _ h => h.1)
    (huawei_core m p rev old new vl hp hparse hold hnew hrev (absurd · hm) (absurd · hm))

theorem C11_huawei_multi_never_removes_common (m : HMode) (hm : m ≠ .single) (p rev : HRow)
    (old new : List HRow) (vl : HRow → List Nat)
    (hp : p.head? ≠ some (.w "undo"))
    (hparse : ∀ r, r ∈ old ∨ r ∈ new → hParseVlancfg r = .ok (p, vl r))
    (hold : Disj vl old) (hnew : Disj vl new)
    (hrev : m = .multiAll → rev = .w "undo" :: p) :
    ∃ ys, hLeaf m rev old new = .ok ys ∧
      ∀ cs, cs.Perm (ys.map (·.row)) →
        KeepsCommon (interpH (hDevice m p rev)) cs (setOf vl old) (setOf vl new) :=
  emits_mono (fun _ h => h.2)
    (huawei_core m p rev old new vl hp hparse hold hnew hrev (absurd · hm) (absurd · hm))

/-- `single` refuses — AssertionError, no command — as soon as more than one line of the key changed
on one side, whatever the lines are. -/
theorem C11_huawei_single_refuses_many (rev : HRow) (old new : List HRow)
    (hlen : 1 < (leafBuckets old new).removed.length ∨ 1 < (leafBuckets old new).added.length) :
    hLeaf .single rev old new = .error .assertion :=
  huawei_single_refuses rev old new hlen

/-- "commands are always emitted", for all three modes: the statement of `C11_huawei_multi_exact` without
`m ≠ .single`, with the hypothesis of `C11_huawei_exact` on the reverse command of mode `single` -/
def HuaweiAlwaysEmits : Prop :=
  ∀ (m : HMode) (p rev : HRow) (old new : List HRow) (vl : HRow → List Nat),
    p.head? ≠ some (.w "undo") →
    (∀ r, r ∈ old ∨ r ∈ new → hParseVlancfg r = .ok (p, vl r)) →
    Disj vl old → Disj vl new →
    (m = .multiAll → rev = .w "undo" :: p) →
    (m = .single → ∀ t, rev ≠ p ++ t ∧ rev ≠ .w "undo" :: (p ++ t)) →
    ∃ ys, hLeaf m rev old new = .ok ys ∧
      ∀ cs, cs.Perm (ys.map (·.row)) →
        EndsIn (interpH (hDevice m p rev)) cs (setOf vl old) (setOf vl new)

/-- witness lines: `instance 1 vlan 2` + `instance 1 vlan 7` (key `1` of `instance * vlan`) -/
def wP : HRow := [.w "instance", .n 1, .w "vlan"]
def wRev : HRow := [.w "undo", .w "instance", .n 1]
def wOld : List HRow := [wP ++ [.n 2], wP ++ [.n 7]]
def wNew : List HRow := [wP ++ [.n 2]]

theorem wit_hyps :
    wP.head? ≠ some (.w "undo") ∧
    (∀ r, r ∈ wOld ∨ r ∈ wNew → hParseVlancfg r = .ok (wP, idsOf r)) ∧
    Disj idsOf wOld ∧ Disj idsOf wNew ∧
    (∀ t, wRev ≠ wP ++ t ∧ wRev ≠ .w "undo" :: (wP ++ t)) := by
  refine ⟨by decide, ?_, by unfold Disj; decide +kernel, by unfold Disj; decide +kernel, ?_⟩
  · intro r hr
    simp only [wOld, wNew, List.mem_cons, List.not_mem_nil, or_false] at hr
    rcases hr with (rfl | rfl) | rfl <;> rfl
  · intro t
    constructor <;> intro h <;> simp [wRev, wP] at h

/-- **False**: `single` does not always emit.  Both lines of the key removed at once
(`instance 1 vlan 2` + `instance 1 vlan 7` → nothing): AssertionError "Too many actions".  This is a
refusal, not a wrong patch (no command is produced). -/
theorem C11_huawei_always_emits_false : ¬ HuaweiAlwaysEmits := by
  intro h
  obtain ⟨h1, h2, h3, _, h5⟩ := wit_hyps
  obtain ⟨ys, hys, _⟩ := h .single wP wRev wOld [] idsOf h1 (fun r hr => h2 r (hr.imp_right nofun)) h3 nofun nofun
    fun _ => h5
  cases (C11_huawei_single_refuses_many wRev wOld [] (.inl (by decide))).symm.trans hys

/-- What does hold for all three modes about emission: with at most one *changed* line of the key on each side
in mode `single` (unchanged lines do not count), commands are emitted, exact and keeping the common VLANs. -/
theorem C11_huawei_always_emits_partial (m : HMode) (p rev : HRow) (old new : List HRow)
    (vl : HRow → List Nat)
    (hp : p.head? ≠ some (.w "undo"))
    (hparse : ∀ r, r ∈ old ∨ r ∈ new → hParseVlancfg r = .ok (p, vl r))
    (hold : Disj vl old) (hnew : Disj vl new)
    (hsingle : m = .single →
      (leafBuckets old new).removed.length ≤ 1 ∧ (leafBuckets old new).added.length ≤ 1)
    (hrevAll : m = .multiAll → rev = .w "undo" :: p)
    (hrevSingle : m = .single → ∀ t, rev ≠ p ++ t ∧ rev ≠ .w "undo" :: (p ++ t)) :
    ∃ ys, hLeaf m rev old new = .ok ys ∧
      ∀ cs, cs.Perm (ys.map (·.row)) →
        EndsIn (interpH (hDevice m p rev)) cs (setOf vl old) (setOf vl new) ∧
        KeepsCommon (interpH (hDevice m p rev)) cs (setOf vl old) (setOf vl new) :=
  huawei_core m p rev old new vl hp hparse hold hnew hrevAll hrevSingle hsingle

/-- About the variant `hLeafSingleOldRule`, not the shipped code: with one of two lines of the key removed and
none added, the variant emits the whole-key reverse command `undo instance 1`, which also deletes the
unchanged line's VLAN 2 — the final set is wrong and a common VLAN is lost; the shipped `single` emits
`undo instance 1 vlan 7`.  Finding
`huawei:single:whole-key-undo-with-unchanged-lines`; the harness keeps the input as a regression. -/
theorem C11_huawei_single_old_rule_false :
    hLeafSingleOldRule wRev wOld wNew = .ok [⟨false, wRev, none⟩] ∧
    ¬ EndsIn (interpH (hDevice .single wP wRev)) [wRev] (setOf idsOf wOld) (setOf idsOf wNew) ∧
    ¬ KeepsCommon (interpH (hDevice .single wP wRev)) [wRev] (setOf idsOf wOld) (setOf idsOf wNew) ∧
    hLeaf .single wRev wOld wNew = .ok [⟨false, .w "undo" :: (wP ++ [.n 7]), none⟩] := by
  refine ⟨rfl, ?_, ?_, rfl⟩
  · rintro ⟨_, hr, hm⟩
    cases (hr : some [] = some _)
    exact nomatch (hm 2).mpr (by decide)
  · rintro ⟨_, ht, hk⟩
    cases (ht : some [[2, 7], []] = some _)
    exact nomatch hk [] (by decide) 2 (by decide) (by decide)

/-- `simple` (`vlan`, `vlan group … vlan-list`) and `swtrunk` (`switchport trunk allowed vlan`),
Catalyst or not, leaf lines, any number of lines; the empty set may be written `<pfx> none`
(`hnone`: such a line stands alone). -/
theorem C11_cisco_exact {χ : Type} (m : CMode) (catalyst : Bool) (p : CRow) (old new : List CRow)
    (vl : CRow → List Nat)
    (hp0 : p ≠ []) (hp : p.head? ≠ some (.w "no"))
    (hparse : ∀ r, r ∈ old ∨ r ∈ new → cParseVlancfg r = .ok (p, vl r))
    (hold : Disj vl old) (hnew : Disj vl new)
    (hnone : ∀ r ∈ new, vl r = [] → new = [r]) :
    ∃ ys, cLeaf (χ := χ) m catalyst old new = .ok ys ∧
      ∀ cs, cs.Perm (ys.map (·.row)) →
        EndsIn (interpC (cDevice m p)) cs (setOf vl old) (setOf vl new) :=
  emits_mono (fun _ h => h.1) (cisco_core catalyst p old new vl hp0 hp hparse hold hnew hnone m)

theorem C11_cisco_never_removes_common {χ : Type} (m : CMode) (catalyst : Bool) (p : CRow)
    (old new : List CRow) (vl : CRow → List Nat)
    (hp0 : p ≠ []) (hp : p.head? ≠ some (.w "no"))
    (hparse : ∀ r, r ∈ old ∨ r ∈ new → cParseVlancfg r = .ok (p, vl r))
    (hold : Disj vl old) (hnew : Disj vl new)
    (hnone : ∀ r ∈ new, vl r = [] → new = [r]) :
    ∃ ys, cLeaf (χ := χ) m catalyst old new = .ok ys ∧
      ∀ cs, cs.Perm (ys.map (·.row)) →
        KeepsCommon (interpC (cDevice m p)) cs (setOf vl old) (setOf vl new) :=
  emits_mono (fun _ h => h.2) (cisco_core catalyst p old new vl hp0 hp hparse hold hnew hnone m)

/-- The shipped rule under `vlan pool *` is `vlan %logic=huawei.vlandb.multi` (huawei.rul): all `vlan …` lines of
a pool form **one** `(rule, key)` group with prefix `vlan`, so the `multi` theorems apply to the pool's VLAN set as a
whole.  (`rev` is not used by `multi`.) -/
theorem C11_pool_one_list (rev : HRow) (old new : List HRow) (vl : HRow → List Nat)
    (hparse : ∀ r, r ∈ old ∨ r ∈ new → hParseVlancfg r = .ok ([.w "vlan"], vl r))
    (hold : Disj vl old) (hnew : Disj vl new) :
    ∃ ys, hLeaf .multi rev old new = .ok ys ∧
      ∀ cs, cs.Perm (ys.map (·.row)) →
        EndsIn (interpH (hDevice .multi [.w "vlan"] rev)) cs (setOf vl old) (setOf vl new) ∧
        KeepsCommon (interpH (hDevice .multi [.w "vlan"] rev)) cs (setOf vl old) (setOf vl new) :=
  huawei_core .multi [.w "vlan"] rev old new vl (by decide) hparse hold hnew nofun nofun nofun

/-- About the rule `vlan * %logic=huawei.vlandb.multi`, which keys pool lines by first id (not the shipped
rulebook): `vlan 2 to 5` → `vlan 3 to 5` is processed as two independent lists: key `2` loses
its line (`undo vlan 2 to 5`), key `3` gains one (`vlan 3 to 5`).  Executed on the one VLAN set the
pool has, VLANs 3-5 (in both sets) disappear in between.  Finding
`huawei:pool:list-keyed-by-first-id:common-vlan-removed-transiently`; the harness keeps the input as
a regression. -/
theorem C11_pool_keyed_by_first_id_old_rule_false :
    ∃ ys2 ys3,
      hLeaf .multi [.w "undo", .w "vlan", .n 2] [[.w "vlan", .n 2, .to, .n 5]] [] = .ok ys2 ∧
      hLeaf .multi [.w "undo", .w "vlan", .n 3] [] [[.w "vlan", .n 3, .to, .n 5]] = .ok ys3 ∧
      EndsIn (interpH (hDevice .multi [.w "vlan"] [])) ((ys2 ++ ys3).map (·.row)) [2, 3, 4, 5] [3, 4, 5] ∧
      ¬ KeepsCommon (interpH (hDevice .multi [.w "vlan"] [])) ((ys2 ++ ys3).map (·.row)) [2, 3, 4, 5] [3, 4, 5] := by
  refine ⟨_, _, rfl, rfl, ⟨[3, 4, 5], rfl, fun v => Iff.rfl⟩, ?_⟩
  rintro ⟨_, ht, hk⟩
  cases (ht : some [[2, 3, 4, 5], [], [3, 4, 5]] = some _)
  exact nomatch hk [] (by decide) 3 (by decide) (by decide)

/-- `vlan_diff` never touches `vlan batch …` rows: they reach `_process_vlandb` exactly as
`default_diff` produced them (same rows, same ops, same order), so the theorems above apply to the
batch list through this diff logic. -/
theorem C11_vlan_diff_keeps_batch_rows (newRows : List HRow) (items out : List DItem)
    (h : hVlanDiff newRows items = .ok out) :
    out.filter isBatchRow = items.filter isBatchRow := by
  obtain ⟨batch, _, h⟩ := Except.bind_eq_ok.1 h
  exact vlanDiff_keeps_batch batch items out h

/-- … and a `vlan N` block that disappears while `N` stays in the new `vlan batch` is never passed
on as REMOVED (no `undo vlan N` for a VLAN that remains declared). -/
theorem C11_vlan_diff_never_removes_batched_vlan (newRows : List HRow) (items out : List DItem) (batch : List Nat)
    (hb : batchNew newRows = .ok batch) (h : hVlanDiff newRows items = .ok out) :
    ∀ it ∈ out, it.op = .removed → pfxOf it.row = some [.w "vlan"] →
      ∀ v, v ∈ idsOf it.row → v ∉ batch := by
  simp only [hVlanDiff, hb] at h
  exact vlanDiff_protects batch items out h

-- Non-vacuity: the hypotheses can be met on real lines, and the model emits what the real code emits.
def exP : HRow := [.w "port", .w "trunk", .w "allow-pass", .w "vlan"]
def exOld : List HRow := [exP ++ [.n 2, .to, .n 5, .n 10], exP ++ [.n 20, .to, .n 30]]
def exNew : List HRow := [exP ++ [.n 2, .to, .n 4, .n 10, .n 12], exP ++ [.n 20, .to, .n 25, .n 31]]

example : hParseVlancfg (exP ++ [.n 2, .to, .n 5, .n 10]) = .ok (exP, [2, 3, 4, 5, 10]) := rfl
example : hLeaf .multiAll (.w "undo" :: exP) exOld exNew
    = .ok [⟨false, .w "undo" :: (exP ++ [.n 5, .n 26, .to, .n 30]), none⟩, ⟨true, exP ++ [.n 12, .n 31], none⟩] := rfl
-- one removed line of two, nothing added: no `undo … all`, because an unchanged line of the key remains
example : hLeaf .multiAll (.w "undo" :: exP) exOld [exP ++ [.n 2, .to, .n 5, .n 10]]
    = .ok [⟨false, .w "undo" :: (exP ++ [.n 20, .to, .n 30]), none⟩] := rfl
example : hLeaf .multiAll (.w "undo" :: exP) exOld [] = .ok [⟨false, .w "undo" :: (exP ++ [.w "all"]), none⟩] := rfl
example : runDev (interpH (hDevice .multiAll exP (.w "undo" :: exP)))
    [.w "undo" :: (exP ++ [.n 5, .n 26, .to, .n 30]), exP ++ [.n 12, .n 31]] (setOf idsOf exOld)
    = some ([2, 3, 4, 10] ++ [20, 21, 22, 23, 24, 25] ++ [12, 31]) := rfl
theorem ex_hyps : (∀ r, r ∈ exOld ∨ r ∈ exNew → hParseVlancfg r = .ok (exP, idsOf r)) ∧
    Disj idsOf exOld ∧ Disj idsOf exNew := by
  refine ⟨?_, by unfold Disj; decide +kernel, by unfold Disj; decide +kernel⟩
  intro r hr
  simp only [exOld, exNew, List.mem_cons, List.not_mem_nil, or_false] at hr
  rcases hr with (rfl | rfl) | (rfl | rfl) <;> rfl
example : ∃ ys, hLeaf .multiAll (.w "undo" :: exP) exOld exNew = .ok ys ∧
    ∀ cs, cs.Perm (ys.map (·.row)) →
      EndsIn (interpH (hDevice .multiAll exP (.w "undo" :: exP))) cs (setOf idsOf exOld) (setOf idsOf exNew) :=
  C11_huawei_multi_exact .multiAll (by decide) exP (.w "undo" :: exP) exOld exNew idsOf (by decide)
    ex_hyps.1 ex_hyps.2.1 ex_hyps.2.2 (fun _ => rfl)
-- `single` with an unchanged sibling line: the partial undo
example : hLeaf .single wRev wOld wNew = .ok [⟨false, .w "undo" :: (wP ++ [.n 7]), none⟩] := rfl
example : runDev (interpH (hDevice .single wP wRev)) [.w "undo" :: (wP ++ [.n 7])] (setOf idsOf wOld)
    = some [2] := rfl
example : ∃ ys, hLeaf .single wRev wOld wNew = .ok ys ∧
    ∀ cs, cs.Perm (ys.map (·.row)) →
      EndsIn (interpH (hDevice .single wP wRev)) cs (setOf idsOf wOld) (setOf idsOf wNew) ∧
      KeepsCommon (interpH (hDevice .single wP wRev)) cs (setOf idsOf wOld) (setOf idsOf wNew) :=
  C11_huawei_always_emits_partial .single wP wRev wOld wNew idsOf wit_hyps.1 wit_hyps.2.1 wit_hyps.2.2.1
    wit_hyps.2.2.2.1 (fun _ => by decide) (fun e => by cases e) (fun _ => wit_hyps.2.2.2.2)
example : hLeaf .single wRev [wP ++ [.n 2]] [] = .ok [⟨false, wRev, none⟩] := rfl
example : hLeaf .single wRev wOld [] = .error .assertion := rfl
-- the pool as one list: `vlan 2 to 5` → `vlan 3 to 5` is just `undo vlan 2`
example : hLeaf .multi [.w "undo", .w "vlan"] [[.w "vlan", .n 2, .to, .n 5]] [[.w "vlan", .n 3, .to, .n 5]]
    = .ok [⟨false, [.w "undo", .w "vlan", .n 2], none⟩] := rfl
example : traceDev (interpH (hDevice .multi [.w "vlan"] [.w "undo", .w "vlan"]))
    [[.w "undo", .w "vlan", .n 2]] [2, 3, 4, 5] = some [[2, 3, 4, 5], [3, 4, 5]] := rfl
example : hParseVlancfg [.w "vlan", .n 2, .to, .n 5] = .ok ([.w "vlan"], [2, 3, 4, 5]) := rfl
example : runDev (interpH (hDevice .multiAll exP (.w "undo" :: exP))) [[.w "shutdown"]] [1] = none := rfl
example : collapse true [5, 2, 3, 4, 10, 11, 13] = .ok [(2, 5), (10, 11), (13, 13)] := rfl
example : collapse false [2, 3, 5, 10, 11, 12] = .ok [(2, 2), (3, 3), (5, 5), (10, 12)] := rfl
example : huaweiExpand [.n 2, .to, .n 5, .n 10] = .ok [2, 3, 4, 5, 10] := rfl
example : huaweiExpand [.n 3, .to] = .error .index := rfl
example : ciscoExpand [[2, 5], [10]] = .ok [2, 3, 4, 5, 10] := rfl
def exC : CRow := [.w "switchport", .w "trunk", .w "allowed", .w "vlan"]
example : cLeaf (χ := Unit) .swtrunk false [exC ++ [.spec [[2, 5], [10]]], exC ++ [.w "add", .spec [[20, 30]]]]
      [exC ++ [.spec [[2, 4], [10], [12]]], exC ++ [.w "add", .spec [[20, 25], [31]]]]
    = .ok [⟨false, [.w "no"] ++ exC ++ [.w "remove", .spec [[5], [26, 30]]], none⟩,
           ⟨true, exC ++ [.w "add", .spec [[12], [31]]], none⟩] := rfl
example : cLeaf (χ := Unit) .swtrunk false [exC ++ [.spec [[2, 5]]]] [exC ++ [.w "none"]]
    = .ok [⟨true, exC ++ [.w "none"], none⟩] := rfl
def exCOld : List CRow := [exC ++ [.spec [[2, 5], [10]]], exC ++ [.w "add", .spec [[20, 30]]]]
def exCNew : List CRow := [exC ++ [.w "none"]]
example : ∃ ys, cLeaf (χ := Unit) .swtrunk true exCOld exCNew = .ok ys ∧
    ∀ cs, cs.Perm (ys.map (·.row)) →
      EndsIn (interpC (cDevice .swtrunk exC)) cs (setOf idsOfC exCOld) (setOf idsOfC exCNew) :=
  C11_cisco_exact .swtrunk true exC exCOld exCNew idsOfC (by decide) (by decide)
    (by
      intro r hr
      simp only [exCOld, exCNew, List.mem_cons, List.not_mem_nil, or_false] at hr
      rcases hr with (rfl | rfl) | rfl <;> rfl)
    (by unfold Disj; decide +kernel) (by unfold Disj; decide +kernel)
    (by
      intro r hr _
      simp only [exCNew, List.mem_cons, List.not_mem_nil, or_false] at hr
      subst hr; rfl)
example : (interpC (cDevice .swtrunk exC) ([.w "no"] ++ exC ++ [.w "remove", .spec [[5], [26, 30]]]))
    = some (.rem [5, 26, 27, 28, 29, 30]) := rfl

/-- NX-OS, whichever side is a port-channel member — in particular a port that leaves its port-channel: the commands end
in exactly the new set and never remove a common VLAN. -/
theorem C11_nexus_port_channel_member_exact {χ : Type} (m : CMode) (catalyst oldMember newMember : Bool) (p : CRow)
    (old new : List CRow) (vl : CRow → List Nat)
    (hp0 : p ≠ []) (hp : p.head? ≠ some (.w "no"))
    (hparse : ∀ r, r ∈ old ∨ r ∈ new → cParseVlancfg r = .ok (p, vl r))
    (hold : Disj vl old) (hnew : Disj vl new)
    (hnone : ∀ r ∈ new, vl r = [] → new = [r]) :
    ∃ ys, cLeafIface (χ := χ) .nexus m catalyst oldMember newMember old new = .ok ys ∧
      ∀ cs, cs.Perm (ys.map (·.row)) →
        EndsIn (interpC (cDevice m p)) cs (setOf vl old) (setOf vl new) ∧
        KeepsCommon (interpC (cDevice m p)) cs (setOf vl old) (setOf vl new) := by
  rw [cLeafIface_nexus]
  exact cisco_core catalyst p old new vl hp0 hp hparse hold hnew hnone m

/-- Ports that are no port-channel members on either side: both vendors are the plain logic. -/
theorem C11_not_member_is_plain_logic {χ : Type} (d : IfaceDiff) (m : CMode) (catalyst : Bool) (old new : List CRow) :
    cLeafIface (χ := χ) d m catalyst false false old new = cLeaf m catalyst old new := by
  simp [cLeafIface, memberRows]

/-- witness of `C11_cisco_leaves_port_channel_false`: prefix, old and new lines; `swIds` is `Spec.idsOfC` -/
def swP : CRow := [.w "switchport", .w "trunk", .w "allowed", .w "vlan"]
def swOld : List CRow := [swP ++ [.spec [[10], [20]]]]
def swNew : List CRow := [swP ++ [.spec [[10]]]]
def swIds (r : CRow) : List Nat := match cParseVlancfg r with | .ok (_, vl) => vl | .error _ => []

/-- F11d — the exactness statement is FALSE for a Cisco IOS port that leaves its port-channel: old `channel-group 1 …` +
`switchport trunk allowed vlan 10,20`, new `switchport trunk allowed vlan 10`.  The member's rows are hidden from the old
side, `switchport trunk allowed vlan add 10` is all that is sent, and executed on {10, 20} it leaves {10, 20}.  NX-OS sends
`no switchport trunk allowed vlan remove 20`.  Replayed on the real code (corpus/C11/cisco-port-leaves-port-channel.json). -/
theorem C11_cisco_leaves_port_channel_false :
    cLeafIface (χ := Unit) .cisco .swtrunk false true false swOld swNew = .ok [⟨true, swP ++ [.w "add", .spec [[10]]], none⟩] ∧
    ¬ EndsIn (interpC (cDevice .swtrunk swP)) [swP ++ [.w "add", .spec [[10]]]] (setOf swIds swOld) (setOf swIds swNew) ∧
    cLeafIface (χ := Unit) .nexus .swtrunk false true false swOld swNew =
      .ok [⟨false, .w "no" :: (swP ++ [.w "remove", .spec [[20]]]), none⟩] := by
  refine ⟨rfl, ?_, rfl⟩
  rintro ⟨_, hr, hm⟩
  cases (hr : some [10, 20, 10] = some _)
  exact absurd ((hm 20).mp (by decide)) (by decide)

/-- The model's constants are what the source does (`Gen/IfaceLists.lean` is regenerated on every run by calling the real
predicates on a `switchport trunk allowed vlan` row): Cisco IOS does not keep such a row of a port-channel member, NX-OS
does, and NX-OS does not hide it from the old side when the port leaves its port-channel (so `cLeafIface .nexus` sees the
old rows). -/
theorem C11_member_lists_as_modelled :
    Annet.Gen.IfaceLists.ciscoKeepsSwitchportRows = switchportAllowedOnMember .cisco ∧
    Annet.Gen.IfaceLists.nexusKeepsSwitchportRows = switchportAllowedOnMember .nexus ∧
    Annet.Gen.IfaceLists.nexusHidesSwitchportRowsOnLeave = false := by
  decide

end Annet.Vlan
