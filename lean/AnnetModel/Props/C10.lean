/-
C10 — Generators are confined to their ACL, own lines exclusively, and merge by union.

Model: `Model/Gen.lean` (`runGen`, `split`, `runPartial`, `runPartials`, `configTree`, `combineAcl`, `oldNew`, `filterOld`,
`aclSteps`, `runPartialsU`, `oldNewFull`) on top of
`Model/Offside.lean`, `Model/Acl.lean`, `Model/Implicit.lean` (`merge`).  Vocabulary: `Spec/Gen.lean`.
The lemmas behind the theorems are in `Lemmas/Gen*.lean`, `CfgTree.lean`, `Acl.lean` (`Acl.Lemmas.…`) and `Implicit.lean`.

Modelled, not verified (parameters / outside the model): ACL texts are parsed by the real `syntax.parse_text` (the
model starts from the parsed rule trees; `_combine_acl_text` is modelled as the `generator_names := [name]` tagging of
those trees and compared with the real parse of the real combined text on every run); rule rows are matched by
`Model/Pattern.lean` (C07); the assertion of `PartialGenerator.__call__` that no row contains the word `None`,
`JuniperList`/`GenStringable` values, RefGenerators, annotations, `acl_safe`, perf measurement, tracing and implicit
rules are not modelled; `C10_yield_paths` is stated for `CommonFormatter.split` (the Huawei and remove-spaces
splitters of `Model/Gen.lean` are tied by the correspondence only).
-/
import AnnetModel.Lemmas.GenText
import AnnetModel.Lemmas.GenLayout
import AnnetModel.Lemmas.GenRun
import AnnetModel.Lemmas.GenAcl
import AnnetModel.Lemmas.GenFull
import AnnetModel.Lemmas.Implicit

/-! OBLIGATIONS
Annet.Gen.C10_yield_paths
Annet.Gen.C10_first_line_at_block_column
Annet.Gen.C10_single_line_yield_wf
Annet.Gen.C10_yield_wf_of_first_text
Annet.Gen.C10_yield_paths_old_rule_false
Annet.Gen.C10_layout_offside
Annet.Gen.C10_tree_lines
Annet.Gen.C10_fatal_iff_uncovered
Annet.Gen.C10_covered_kept_false_negated_cant_delete
Annet.Gen.C10_owners_spec
Annet.Gen.C10_exclusive_iff
Annet.Gen.C10_merge_paths
Annet.Gen.C10_merge_first_seen_order
Annet.Gen.C10_merge_assoc
Annet.Gen.C10_union
Annet.Gen.C10_first_failure_ends_run
Annet.Gen.C10_old_new
Annet.Gen.C10_new_paths
Annet.Gen.C10_new_eq_union_false_merged_acl
Annet.Gen.C10_new_eq_union_partial
Annet.Gen.C10_full_sub
Annet.Gen.C10_full_no_acl_rules_nothing_passes
Annet.Gen.C10_full_empty_filter_nothing_passes
Annet.Gen.C10_full_filter_narrows
Annet.Gen.C10_full_new_paths_covered
Annet.Gen.C10_full_old_paths_covered
Annet.Gen.C10_full_noacl_nofilter_identity
Annet.Gen.C10_run_partials_use_acl
-/

namespace Annet.Gen
open Annet Annet.Offside Annet.Acl Annet.Acl.Spec Annet.Gen.Spec
open Annet.Implicit (merge)
open Annet.Implicit.Spec (NoDupKeys)

/-! ### every yielded line appears under the block path it was yielded in -/

/-- The layout theorem on items, for any columns: the stack machine of the offside parser gives every line of a well
formed layout the path `block path ++ own path`, and fails iff some yield is inconsistently indented in itself. -/
theorem C10_layout_offside (prog : List LOp) (hwf : WFL prog = true) :
    (stacks (layoutL 0 prog)).toOption = specPathsL [] prog :=
  (Lemmas.runItems_runSt _ St.init [] 1).trans
    (Lemmas.layout_run_list prog hwf [] 0 [] St.init [] rfl (show Lemmas.Ready [] 0 St.init from rfl)).outputs

/-- A program whose layout is well formed runs without raising, and its output parses to exactly the tree of the
specified paths: block path, then the line's own path inside its yield.  It is refused (`ParserError`) iff some
yield is inconsistently indented in itself.

Well formed (`WFL`) means: block headers are single significant lines, block indents are non-empty blanks, and every
yield's first significant line starts at the block's column with no `#`-in-column-0 line in it.  `_split_and_strip`
strips single-line texts too, so the last condition holds for *every* single-line yield, whatever
blanks it starts or ends with (`C10_single_line_yield_wf`), and for every multi-line yield whose first line is
significant (`C10_yield_wf_of_first_text`); it can fail only for a yield that contains a line starting with `#` in
column 0 (a Huawei section end for the parser) or whose first line is a comment followed by an indented line. -/
theorem C10_yield_paths (ops : List Op) (prog : List LOp) (hl : toLayoutL ops = some prog)
    (hw : WFL prog = true) :
    ∃ rows, runGen ops = some rows ∧
      (parseToTree comments (split .common rows)).toOption = (specPathsL [] prog).map treeOfStacks := by
  obtain ⟨rows, hr, hrows⟩ := Lemmas.run_layout_ops ops [] prog hl hw Lemmas.indsOk_nil
  refine ⟨rows, hr, ?_⟩
  rw [Lemmas.parseToTree_toOption, Lemmas.stacks_split_common, hrows]
  have : Lemmas.width [] = 0 := by simp [Lemmas.width, concatStr]
  rw [this, C10_layout_offside prog hw]

/-- What `_split_and_strip` guarantees for every yield: the first row has no leading whitespace, so if the first
line is significant it starts at the block's column. -/
theorem C10_first_line_at_block_column (text : String) :
    ∃ i rest, ownItems text = i :: rest ∧ ∀ k s, i = .text k s → k = 0 := by
  obtain ⟨r, rest, hr, hc⟩ := Lemmas.splitAndStrip_head text.toList
  refine ⟨classify comments (String.ofList r), rest.map fun r => classify comments (String.ofList r), ?_,
    Lemmas.classify_text_indent r hc⟩
  simp only [ownItems, hr, List.map_cons]

/-- Every single-line yield — with any leading or trailing blanks — satisfies the yield condition of
`C10_yield_paths`, unless it is a `#`-in-column-0 line. -/
theorem C10_single_line_yield_wf (text : String) (h : text.toList.contains '\n' = false) :
    OwnOk (ownItems text) = true ↔ ownItems text ≠ [.sectionEnd] := by
  obtain ⟨i, rest, hi, hk⟩ := C10_first_line_at_block_column text
  have hs : ownItems text = [classify comments (String.ofList (strip text.toList))] := by
    rw [ownItems, Lemmas.splitAndStrip_of_no_nl h]; rfl
  rw [hs] at hi ⊢
  obtain ⟨rfl, rfl⟩ := List.cons.inj hi
  cases hcl : classify comments (String.ofList (strip text.toList)) with
  | blank => exact ⟨fun _ => nofun, fun _ => rfl⟩
  | sectionEnd => simp [Lemmas.ownOk_cons_sectionEnd]
  | text k s =>
    cases hk k s hcl
    simp [Lemmas.ownOk_cons_text]

/-- Every yield (multi-line included) whose first line is significant and that has no `#`-in-column-0 line
satisfies the yield condition of `C10_yield_paths`. -/
theorem C10_yield_wf_of_first_text (text : String) (hse : (ownItems text).all (· != .sectionEnd) = true)
    (hfirst : (ownItems text).head? ≠ some .blank) : OwnOk (ownItems text) = true := by
  obtain ⟨i, rest, hi, hk⟩ := C10_first_line_at_block_column text
  rw [hi] at hse hfirst ⊢
  simp only [List.all_cons, Bool.and_eq_true] at hse
  cases i with
  | blank => simp at hfirst
  | sectionEnd => simp at hse
  | text k s =>
    cases hk k s rfl
    rw [Lemmas.ownOk_cons_text, hse.2]; rfl

/-- For the variant `Spec.splitAndStripOld` (a single-line text is one row, verbatim; not the shipped code) the
statement is false (F10a): `yield " description x"` after `yield "mtu 9000"` inside `block("interface Eth1")` is one
column right of the block's column — a layout that is not well formed, which the parser reads as a child of
`mtu 9000` instead of the specified `interface Eth1 / description x`.  Under `_split_and_strip` the same yield starts
at the block's column. -/
theorem C10_yield_paths_old_rule_false :
    ownItemsOld " description x" = [.text 1 "description x"] ∧
    ownItems " description x" = [.text 0 "description x"] ∧
    (let prog : List LOp := [.block "interface Eth1" 2 [.emit (ownItemsOld "mtu 9000"), .emit (ownItemsOld " description x")]]
     WFL prog = false ∧
     specPathsL [] prog = some [["interface Eth1"], ["interface Eth1", "mtu 9000"], ["interface Eth1", "description x"]] ∧
     (stacks (layoutL 0 prog)).toOption =
       some [["interface Eth1"], ["interface Eth1", "mtu 9000"], ["interface Eth1", "mtu 9000", "description x"]]) := by
  decide +kernel

/-- The lines of a parsed tree are exactly the non-empty prefixes of the paths the parser yielded; a path yielded
twice is one line. -/
theorem C10_tree_lines (ss : List (List String)) (q : List String) :
    (q ∈ (treeOfStacks ss).paths ↔ q ≠ [] ∧ ∃ s ∈ ss, q <+: s) ∧ NoDupKeys (treeOfStacks ss) :=
  ⟨(Lemmas.treeOfStacks_spec ss).2 q, (Lemmas.treeOfStacks_spec ss).1⟩

/-! ### a generator is confined to its ACL -/

/-- `_run_partial_generator` fails with the generator error naming the document-order first line that no rule of the
generator's own ACL matches (at a covered parent) iff there is such a line; otherwise it returns what the lenient
filter returns. -/
theorem C10_fatal_iff_uncovered (v : Vendor) (sp : Splitter) (g : GenDef) (rows : List String) (cfg t0 : Cfg)
    (hrun : runGen g.ops = some rows) (hparse : parseToTree comments (split sp rows) = .ok cfg)
    (hlen : applyAcl v false false (compileAcl [g.acl]) [] cfg = .ok t0) :
    runPartial v sp g =
      (match firstUnmatched v (compileAcl [g.acl]) [] cfg with
       | some q => .error (.acl g.name q)
       | none => .ok t0) := by
  rw [runPartial, hrun]
  simp only [hparse]
  rw [Acl.Lemmas.fatal_iff v _ [] cfg t0 hlen]
  cases firstUnmatched v (compileAcl [g.acl]) [] cfg <;> rfl

private def exNegated : GenDef :=
  ⟨"G0", [.yieldStr "undo interface Eth1", .yieldStr "vlan 10"],
    [.mk "interface *" false false [true] 0 [] [], .mk "vlan *" false false [false] 0 [] []]⟩

/-- "Otherwise the generator's result is what it yielded" is false of the code: a yielded line that is the negated
form of a rule whose generators all have `cant_delete` (the default for rules starting with `interface`) is matched,
raises nothing and is dropped. -/
theorem C10_covered_kept_false_negated_cant_delete :
    ¬ ∀ (v : Vendor) (sp : Splitter) (g : GenDef) (rows : List String) (cfg c : Cfg),
        runGen g.ops = some rows → parseToTree comments (split sp rows) = .ok cfg →
        runPartial v sp g = .ok c → c.paths = cfg.paths := by
  intro h
  have hev : runGen exNegated.ops = some ["undo interface Eth1", "vlan 10"] ∧
      (parseToTree comments (split .huawei ["undo interface Eth1", "vlan 10"])).toOption.map Cfg.paths =
        some [["undo interface Eth1"], ["vlan 10"]] ∧
      (runPartial { reverse := "undo" } .huawei exNegated).toOption.map Cfg.paths = some [["vlan 10"]] := by
    decide +kernel
  obtain ⟨cfg, hparse, hcfg⟩ := Except.ok_of_toOption_map hev.2.1
  obtain ⟨c, hc, hcp⟩ := Except.ok_of_toOption_map hev.2.2
  have := h _ _ _ _ cfg c hev.1 hparse hc
  rw [hcfg, hcp] at this
  exact absurd this (by decide)

/-! ### exclusive ownership -/

/-- The names listed in `AclNotExclusiveError` are exactly the generators that own a deletable matching rule (some
matching rule lists them with `cant_delete` false), each once; more than one is listed iff two different generators
do. -/
theorem C10_owners_spec (ms : List Match) :
    (∀ n, n ∈ canDeleteNames ms ↔ Owns ms n) ∧ (canDeleteNames ms).Nodup ∧
    ((canDeleteNames ms).length > 1 ↔ ∃ n1 n2, n1 ≠ n2 ∧ Owns ms n1 ∧ Owns ms n2) := by
  have hn := Acl.Lemmas.canDeleteNames_nodup ms
  refine ⟨Acl.Lemmas.mem_canDeleteNames ms, hn, ?_⟩
  simp only [Owns, ← Acl.Lemmas.mem_canDeleteNames ms]
  exact hn.one_lt_length_iff

/-- The exclusive filter raises `AclNotExclusiveError` iff some row it reaches may be deleted by at least two
generators, names the document-order first such row and those generators, and otherwise returns what the
non-exclusive filter returns. -/
theorem C10_exclusive_iff (v : Vendor) (rules : Rules) (path : List String) (t t0 : Cfg)
    (h : applyAcl v false false rules path t = .ok t0) :
    applyAcl v false true rules path t =
      (match firstConflict v rules path t with
       | some (p, ns) => .error (.notExclusive p ns)
       | none => .ok t0) :=
  Lemmas.excl_cfg v rules path t t0 h

/-! ### merge by union -/

/-- `merge_dicts` on config trees is the union of the lines, and keeps sibling keys unique. -/
theorem C10_merge_paths (a b : Cfg) (ha : NoDupKeys a) (hb : NoDupKeys b) :
    (∀ p, p ∈ (merge a b).paths ↔ p ∈ a.paths ∨ p ∈ b.paths) ∧ NoDupKeys (merge a b) :=
  ⟨Lemmas.paths_merge a b ha hb, Lemmas.nodup_merge a b ha hb⟩

/-- First-seen order: the left tree keeps its place (it is an order-preserving sub-tree of the merge), the keys the
right tree adds at a level come after, in their own order; merging a tree with itself changes nothing. -/
theorem C10_merge_first_seen_order (a b : Cfg) :
    Sub a (merge a b) ∧
    (merge a b).kids.map (·.1) = a.kids.map (·.1) ++ (b.kids.map (·.1)).filter (fun k => !(a.kids.any (·.1 == k))) ∧
    (NoDupKeys a → merge a a = a) :=
  ⟨Implicit.Lemmas.merge_keeps_left a b,
    by simpa only [Assoc.keys, List.contains_eq_any_beq, List.any_map, Function.comp_def, BEq.comm]
      using Lemmas.keys_merge a b,
    Implicit.Lemmas.merge_self a⟩

/-- `merge_dicts` on config trees is associative: the union does not depend on how the fold over the generators
is bracketed. -/
theorem C10_merge_assoc (a b c : Cfg) (ha : NoDupKeys a) (hb : NoDupKeys b) (hc : NoDupKeys c) :
    merge (merge a b) c = merge a (merge b c) := by
  -- holds of all trees (`Lemmas.merge_assoc`): the three hypotheses are not used
  have _ := ha; have _ := hb; have _ := hc
  exact Lemmas.merge_assoc a b c

/-- `config_tree()` of a run in which no generator failed is the union of the generators' results. -/
theorem C10_union (v : Vendor) (sp : Splitter) (gens : List GenDef) (cs : List Cfg) (hok : AllOk v sp gens cs)
    (p : List String) :
    p ∈ (configTree (resultsOf gens cs)).paths ↔ ∃ c ∈ cs, p ∈ c.paths :=
  (Lemmas.allOk_union hok).2 p

/-! ### the whole run -/

/-- The first generator (in order) whose own run fails ends `_old_new_per_device` with its error. -/
theorem C10_first_failure_ends_run (v : Vendor) (sp : Splitter) (e : RunErr) (pre : List GenDef) (g : GenDef)
    (post : List GenDef) (hpre : ∀ x ∈ pre, ∃ c, runPartial v sp x = .ok c) (hg : runPartial v sp g = .error e) :
    oldNew v sp (pre ++ g :: post) = .error e := by
  rw [oldNew, Lemmas.runPartials_err v sp e pre g post [] hpre hg]

/-- If no generator fails, the run raises `AclNotExclusiveError` for the first line of the union that at least two
generators may delete (by the merged, name-tagged ACL), and otherwise returns the union filtered by the merged ACL. -/
theorem C10_old_new (v : Vendor) (sp : Splitter) (gens : List GenDef) (cs : List Cfg) (t0 : Cfg)
    (hok : AllOk v sp gens cs) (hn : (gens.map (·.name)).Nodup)
    (hlen : applyAcl v false false (compileAcl [combineAcl (resultsOf gens cs)]) []
      (configTree (resultsOf gens cs)) = .ok t0) :
    oldNew v sp gens =
      (match firstConflict v (compileAcl [combineAcl (resultsOf gens cs)]) [] (configTree (resultsOf gens cs)) with
       | some (p, ns) => .error (.notExclusive p ns)
       | none => .ok t0) := by
  have hr := Lemmas.runPartials_ok v sp gens cs [] hok (by simpa using hn)
  rw [List.nil_append] at hr
  rw [oldNew, hr]
  simp only
  rw [Lemmas.excl_cfg v _ [] _ t0 hlen]
  cases firstConflict v (compileAcl [combineAcl (resultsOf gens cs)]) [] (configTree (resultsOf gens cs)) <;> rfl

/-- The lines of the result: a line is in `new` iff some generator's result has it and every row along it passes
the merged ACL; nothing else appears, and no line appears twice. -/
theorem C10_new_paths (v : Vendor) (sp : Splitter) (gens : List GenDef) (cs : List Cfg) (t0 : Cfg)
    (hok : AllOk v sp gens cs)
    (hlen : applyAcl v false false (compileAcl [combineAcl (resultsOf gens cs)]) []
      (configTree (resultsOf gens cs)) = .ok t0) :
    (∀ p, p ∈ t0.paths ↔ (∃ c ∈ cs, p ∈ c.paths) ∧
      (walk v (compileAcl [combineAcl (resultsOf gens cs)]) p).isSome) ∧ NoDupKeys t0 :=
  ⟨fun p => by rw [Acl.Lemmas.path_predicate v _ [] _ t0 hlen p, C10_union v sp gens cs hok p],
    Lemmas.nodup_sub _ _ (Acl.Lemmas.sub_cfg _ _ _ _ _ _ _ hlen) (Lemmas.allOk_union hok).1⟩

private def exNested : GenDef :=
  ⟨"G0", [.block [.str "description"] none [.yieldStr "vlan ip"]],
    [.mk "~" false false [false] 0 [] [.mk "vlan ip" false false [false] 0 [] []]]⟩

private def exGlobal : GenDef := ⟨"G1", [.yieldStr "description"], [.mk "description" false true [true] 0 [] []]⟩

/-- "`new` is the union of the generators' results" is false of the code: the merged ACL can drop a line its own
generator's ACL covers.  Here G1's `%global` rule for `description` (with `cant_delete`, so there is no ownership
conflict) is the more specific first match and hides the children rules of G0's `~` (C06's F06a). -/
theorem C10_new_eq_union_false_merged_acl :
    ¬ ∀ (v : Vendor) (sp : Splitter) (gens : List GenDef) (cs : List Cfg) (t0 : Cfg),
        AllOk v sp gens cs → (gens.map (·.name)).Nodup → oldNew v sp gens = .ok t0 →
        ∀ p, p ∈ t0.paths ↔ ∃ c ∈ cs, p ∈ c.paths := by
  intro h
  -- one evaluation: the kernel runs each generator once, for its own result and inside `oldNew`
  have hev : (runPartial { reverse := "undo" } .huawei exNested).toOption.map Cfg.paths =
        some [["description"], ["description", "vlan ip"]] ∧
      (runPartial { reverse := "undo" } .huawei exGlobal).toOption.map Cfg.paths = some [["description"]] ∧
      (oldNew { reverse := "undo" } .huawei [exNested, exGlobal]).toOption.map Cfg.paths = some [["description"]] := by
    decide +kernel
  obtain ⟨c0, h0, hc0⟩ := Except.ok_of_toOption_map hev.1
  obtain ⟨c1, h1, _⟩ := Except.ok_of_toOption_map hev.2.1
  obtain ⟨t0, ht, htp⟩ := Except.ok_of_toOption_map hev.2.2
  have := (h _ _ [exNested, exGlobal] [c0, c1] t0 ⟨h0, h1, trivial⟩ (by decide) ht ["description", "vlan ip"]).2
    ⟨c0, List.mem_cons_self, hc0 ▸ by decide⟩
  rw [htp] at this
  exact absurd this (by decide)

/-- With the hypothesis that the merged ACL lets every line of the union through, `new` is the union. -/
theorem C10_new_eq_union_partial (v : Vendor) (sp : Splitter) (gens : List GenDef) (cs : List Cfg) (t0 : Cfg)
    (hok : AllOk v sp gens cs)
    (hlen : applyAcl v false false (compileAcl [combineAcl (resultsOf gens cs)]) []
      (configTree (resultsOf gens cs)) = .ok t0)
    (hpass : ∀ c ∈ cs, ∀ p ∈ c.paths, (walk v (compileAcl [combineAcl (resultsOf gens cs)]) p).isSome)
    (p : List String) :
    p ∈ t0.paths ↔ ∃ c ∈ cs, p ∈ c.paths := by
  rw [(C10_new_paths v sp gens cs t0 hok hlen).1 p]
  exact ⟨fun h => h.1, fun ⟨c, hc, hp⟩ => ⟨⟨c, hc, hp⟩, hpass c hc p hp⟩⟩


/-! ### non-vacuity -/

def okPaths (r : Except Nat Cfg) : List (List String) :=
  match r with
  | .ok c => c.paths
  | .error _ => []

private def partialPaths (r : Except RunErr Cfg) : Option (List (List String)) :=
  match r with
  | .ok c => some c.paths
  | .error _ => none

def showErr (r : Except RunErr Cfg) : Option RunErr :=
  match r with
  | .ok _ => none
  | .error e => some e

def exOps : List Op :=
  [.block [.str "interface", .str "Eth1"] none
     [.yieldTuple [.str "mtu", .tup [.str "9000"]],
      .yieldStr "\n        ip address 10.0.0.1\n          sub x\n        description a  b\n    ",
      .blockIf [.str "vlan", .none] none [.yieldStr "shutdown"],
      .multiblock [[.str "bgp"], [.str "peer", .str "1"]] [.yieldStr "as 65000 "]],
   .yieldStr "! comment",
   .yieldStr "vlan 10"]

/-- a program with a tuple yield, a multi-line yield, a skipped `block_if`, a `multiblock` and a comment: its layout
exists and is well formed (hypotheses of `C10_yield_paths`), and the specified paths are the expected ones -/
example : (toLayoutL exOps).map WFL = some true ∧
    (toLayoutL exOps).bind (specPathsL []) = some
      [["interface Eth1"], ["interface Eth1", "mtu 9000"], ["interface Eth1", "ip address 10.0.0.1"],
       ["interface Eth1", "ip address 10.0.0.1", "sub x"], ["interface Eth1", "description a  b"],
       ["interface Eth1", "shutdown"], ["interface Eth1", "bgp"], ["interface Eth1", "bgp", "peer 1"],
       ["interface Eth1", "bgp", "peer 1", "as 65000"], ["vlan 10"]] := by decide +kernel

/-- trees with unique sibling keys exist (hypothesis of the merge theorems): every parsed tree is one -/
example : NoDupKeys (treeOfStacks [["a"], ["a", "b"], ["c"], ["a", "d"]]) := Lemmas.nodup_treeOfStacks _
/-- a three-way merge in first-seen order -/
example : (merge (merge (treeOfStacks [["a", "x"], ["b"]]) (treeOfStacks [["c"], ["a", "y"]])) (treeOfStacks [["a", "x", "z"]])).paths
    = [["a"], ["a", "x"], ["a", "x", "z"], ["a", "y"], ["b"], ["c"]] := by decide +kernel

/-- single-line yields and a block header with leading / trailing blanks and tabs are well formed and land under
their block path (the F10a input) -/
example :
    let ops : List Op := [.block [.str " interface", .str "Eth1 "] none
      [.yieldStr "mtu 9000", .yieldStr " description x", .yieldTuple [.str "\tshutdown", .str " "], .yieldStr "   ! c"]]
    (toLayoutL ops).map WFL = some true ∧
    (toLayoutL ops).bind (specPathsL []) = some
      [["interface Eth1"], ["interface Eth1", "mtu 9000"], ["interface Eth1", "description x"],
       ["interface Eth1", "shutdown"]] ∧
    (runGen ops).map (fun rows => okPaths (parseToTree comments (split .common rows))) = some
      [["interface Eth1"], ["interface Eth1", "mtu 9000"], ["interface Eth1", "description x"],
       ["interface Eth1", "shutdown"]] := by decide +kernel

/-- a `None` token makes the generator raise; an inconsistently indented multi-line yield is refused by the parser -/
example : runGen [.yieldTuple [.str "mtu", .none]] = none ∧
    (toLayoutL [.yieldStr "a\n    b\n  c"]).bind (specPathsL []) = none ∧
    (runGen [.yieldStr "a\n    b\n  c"]).map (fun rows => okPaths (parseToTree comments (split .common rows))) = some [] := by
  decide +kernel

def exAclIf : List RawRule :=
  [.mk "interface *" false false [true] 0 [] [.mk "mtu *" false false [false] 0 [] [], .mk "description ~" false false [false] 0 [] []]]

/-- an uncovered line fails the run naming the line; the covered program passes; with a second generator owning
`mtu *` below the shared `interface *` the run reports the conflict; with disjoint children the result is the union -/
example :
    let v : Vendor := { reverse := "undo" }
    let g0 : GenDef := ⟨"G0", [.block [.str "interface Eth1"] none [.yieldStr "mtu 9000", .yieldStr "shutdown"]], exAclIf⟩
    let g1 : GenDef := ⟨"G1", [.block [.str "interface Eth1"] none [.yieldStr "mtu 9000", .yieldStr "description x"]], exAclIf⟩
    let g2 : GenDef := ⟨"G2", [.block [.str "interface Eth1"] none [.yieldStr "mtu 1500"]],
      [.mk "interface *" false false [true] 0 [] [.mk "mtu *" false false [false] 0 [] []]]⟩
    let g3 : GenDef := ⟨"G3", [.block [.str "interface Eth1"] none [.yieldStr "ip address 1"], .yieldStr "vlan 10"],
      [.mk "interface *" false false [true] 0 [] [.mk "ip ~" false false [false] 0 [] []],
       .mk "vlan *" false false [false] 0 [] []]⟩
    showErr (oldNew v .huawei [g1, g0]) = some (.acl "G0" ["interface Eth1", "shutdown"]) ∧
    showErr (oldNew v .huawei [g1, g2]) = some (.notExclusive ["interface Eth1", "mtu 9000"] ["G1", "G2"]) ∧
    partialPaths (oldNew v .huawei [g1, g3]) = some [["interface Eth1"], ["interface Eth1", "mtu 9000"],
      ["interface Eth1", "description x"], ["interface Eth1", "ip address 1"], ["vlan 10"]] := by
  decide +kernel

/-! ### `_old_new_per_device` with a device configuration and a filter ACL (`Model/Gen.lean`, `aclSteps`, `oldNewFull`) -/

/-- What is passed on is an order-preserving sub-tree of the device configuration, respectively of the merged
generator output. -/
theorem C10_full_sub (v : Vendor) (sp : Splitter) (gens : List GenDef) (noAcl exclusive : Bool)
    (filter : Option (List RawRule)) (old : Cfg) (r : OldNew)
    (h : oldNewFull v sp gens noAcl exclusive filter old = .ok r) :
    Sub r.old old ∧ ∃ rs, runPartialsU (!noAcl) v sp gens [] = .ok rs ∧ Sub r.new (configTree rs) := by
  obtain ⟨rs, hr, ha⟩ := oldNewFull_inv h
  rw [aclSteps_ok ha]
  exact ⟨passed_sub .., rs, hr, passed_sub ..⟩

/-- AN EMPTY ALLOW-LIST ALLOWS NOTHING: generators none of which provides an ACL rule (unsupported vendor, `acl()` returning
nothing) yield an empty old and an empty new — nothing of the device can be patched. -/
theorem C10_full_no_acl_rules_nothing_passes (v : Vendor) (sp : Splitter) (gens : List GenDef) (exclusive : Bool)
    (filter : Option (List RawRule)) (old : Cfg) (r : OldNew) (hg : ∀ g ∈ gens, g.acl = [])
    (h : oldNewFull v sp gens false exclusive filter old = .ok r) : r.old = .mk [] ∧ r.new = .mk [] :=
  oldNewFull_no_acl_rules v sp gens exclusive filter old r hg h

/-- A REQUESTED FILTER THAT COVERS NOTHING PASSES NOTHING (`-i` naming no port of this device, an empty `--filter-acl`). -/
theorem C10_full_empty_filter_nothing_passes (v : Vendor) (sp : Splitter) (gens : List GenDef) (noAcl exclusive : Bool)
    (old : Cfg) (r : OldNew) (h : oldNewFull v sp gens noAcl exclusive (some []) old = .ok r) :
    r.old = .mk [] ∧ r.new = .mk [] :=
  oldNewFull_empty_filter v sp gens noAcl exclusive old r h

/-- A filter only narrows what the run without a filter passes on. -/
theorem C10_full_filter_narrows (v : Vendor) (noAcl exclusive : Bool) (genAcl f : List RawRule) (old new : Cfg)
    (r : OldNew) (h : aclSteps v noAcl exclusive genAcl (some f) old new = .ok r) :
    ∃ r0, aclSteps v noAcl exclusive genAcl none old new = .ok r0 ∧ Sub r.old r0.old ∧ Sub r.new r0.new := by
  rw [aclSteps_some] at h
  obtain ⟨r0, h0, hf⟩ := Except.bind_eq_ok.1 h
  rw [filterBoth_ok hf]
  exact ⟨r0, h0, Acl.Lemmas.keep_sub .., Acl.Lemmas.keep_sub ..⟩

/-- Every path passed on in `new` is covered level by level by the generators' combined ACL and by the filter ACL … -/
theorem C10_full_new_paths_covered (v : Vendor) (genAcl f : List RawRule) (old new : Cfg)
    (r : OldNew) (h : aclSteps v false false genAcl (some f) old new = .ok r) (p : List String) (hp : p ∈ r.new.paths) :
    p ∈ new.paths ∧ (walk v (compileAcl [genAcl]) p).isSome ∧ (walk v (compileAcl [f]) p).isSome := by
  rw [aclSteps_ok h] at hp
  exact and_assoc.1 (mem_paths_passed.1 hp)

/-- … and so is every path passed on in `old`. -/
theorem C10_full_old_paths_covered (v : Vendor) (exclusive : Bool) (genAcl f : List RawRule) (old new : Cfg)
    (r : OldNew) (h : aclSteps v false exclusive genAcl (some f) old new = .ok r) (p : List String) (hp : p ∈ r.old.paths) :
    p ∈ old.paths ∧ (walk v (compileAcl [genAcl]) p).isSome ∧ (walk v (compileAcl [f]) p).isSome := by
  rw [aclSteps_ok h] at hp
  exact and_assoc.1 (mem_paths_passed.1 hp)


/-- With `--no-acl` and no filter option everything is passed on unchanged: the device configuration as it is, the
generators' rows as parsed and merged. -/
theorem C10_full_noacl_nofilter_identity (v : Vendor) (sp : Splitter) (gens : List GenDef) (exclusive : Bool) (old : Cfg)
    (r : OldNew) (h : oldNewFull v sp gens true exclusive none old = .ok r) :
    r.old = old ∧ ∃ rs, runPartialsU false v sp gens [] = .ok rs ∧ r.new = configTree rs := by
  obtain ⟨rs, hr, ha⟩ := oldNewFull_inv h
  rw [aclSteps_ok ha]
  exact ⟨rfl, rs, hr, rfl⟩

/-- `use_acl = True` is the run the other theorems of this file are about. -/
theorem C10_run_partials_use_acl (v : Vendor) (sp : Splitter) (gens : List GenDef) (acc : List Result) :
    runPartialsU true v sp gens acc = runPartials v sp gens acc :=
  runPartialsU_true v sp gens acc

/-- Non-vacuity (`--no-acl`, filter `interface * / description ~`): the filter selects exactly the covered lines of the
device configuration. -/
example :
    (oldNewFull { reverse := "undo" } .common [] true true
      (some [.mk "interface *" false false [false] 0 [] [.mk "description ~" false false [false] 0 [] []]])
      (.mk [("interface Eth1", .mk [("description x", .mk []), ("mtu 9000", .mk [])]), ("snmp-agent", .mk [])])).toOption.map
        (fun r => (r.old.paths, r.new.paths)) =
      some ([["interface Eth1"], ["interface Eth1", "description x"]], []) := by
  decide +kernel

/-- Non-vacuity (no generator supports the device, ACLs on): nothing of the device configuration is passed on. -/
example :
    (oldNewFull { reverse := "undo" } .common [] false true none
      (.mk [("interface Eth1", .mk [("description x", .mk [])]), ("snmp-agent", .mk [])])).toOption.map
        (fun r => (r.old.paths, r.new.paths)) = some ([], []) := by
  decide +kernel

end Annet.Gen
