/-
C13 — JSON fragments stay inside their pointers and JSON patches reproduce the target.

Naming: `X_false` refutes the full-strength statement `X` with a concrete witness
(replayed on the real code by the harness, see corpus/C13), `X_partial` is the
statement with the hypothesis that makes it true, `X_old_rule_false` refutes `X` for
the resolver rule `childrenOfOld` (`Spec/Json.lean`: a glob pattern descends into the characters
of a string value, i.e. `_resolve_json_pointers` without the `not isinstance(doc, (str, bytes))`
test of jsontools.py:172) on an input on which `X` holds for the code.
-/
import AnnetModel.Lemmas.JsonFilter

/-! OBLIGATIONS
Annet.Json.C13_fragment_inside_partial
Annet.Json.C13_fragment_outside_partial
Annet.Json.C13_fragment_idempotent_partial
Annet.Json.C13_fragment_inside_false
Annet.Json.C13_fragment_total_false
Annet.Json.C13_fragment_idempotent_false
Annet.Json.C13_fragment_inside_old_rule_false
Annet.Json.C13_fragment_idempotent_old_rule_false
Annet.Json.C13_chain_partial
Annet.Json.C13_resolve_sound_complete
Annet.Json.C13_resolve_old_rule_false
Annet.Json.C13_resolve_escapes_partial
Annet.Json.C13_resolve_escapes_false
Annet.Json.C13_filters_subdocument_partial
Annet.Json.C13_filters_subdocument_false
Annet.Json.C13_filters_subdocument_old_rule_false
Annet.Json.C13_patch_roundtrip
Annet.Json.C13_patch_append
Annet.Json.C13_sorted_patch_false
-/

namespace Annet.Json
open Lemmas

/-- `r|acl == f|acl`, full strength: for all documents with unique keys and all
lists of non-root glob pointers the merge succeeds and, wherever a pattern selects,
the result has exactly what the fragment has. -/
def FragmentInside : Prop :=
  ∀ (old f : J) (acl : List String) (ps : List (List String)),
    ParsedAcl acl ps → (∀ p ∈ ps, p ≠ []) → old.wf = true → f.wf = true →
    ∃ r, applyFragment old f acl = .ok r ∧ InsideEq ps r f

/-- The full statement is false of the code: array elements the fragment lacks are
not removed (jsontools.py:41 only pops from dicts). -/
theorem C13_fragment_inside_false : ¬ FragmentInside := by
  intro h
  obtain ⟨r, hr, hin⟩ := h (.obj [("a", .arr [.num 1, .num 2])]) (.obj [("a", .arr [.num 9])]) ["/a/*"]
    [["a", "*"]] ⟨by decide +kernel, trivial⟩ (by simp) rfl rfl
  have hr' : applyFragment (.obj [("a", .arr [.num 1, .num 2])]) (.obj [("a", .arr [.num 9])]) ["/a/*"]
      = .ok (.obj [("a", .arr [.num 9, .num 2])]) := by decide +kernel
  cases hr.symm.trans hr'
  exact absurd (hin ["a", "*"] (by simp) ["a", "1"] (by decide +kernel)) (by decide +kernel)

/-- …and the merge is not even total: a fragment array longer than the device's
raises `IndexError` (jsonpointer `parent[part] = value`). -/
theorem C13_fragment_total_false :
    ¬ ∀ (old f : J) (acl : List String), old.wf = true → f.wf = true →
        (∀ pat ∈ acl, ∃ p, parsePointer pat = .ok p ∧ p ≠ []) → ∃ r, applyFragment old f acl = .ok r := by
  intro h
  obtain ⟨r, hr⟩ := h (.obj [("a", .arr [])]) (.obj [("a", .arr [.num 1])]) ["/a/*"] rfl rfl
    (by intro pat hp; simp at hp; subst hp; exact ⟨["a", "*"], by decide +kernel, by simp⟩)
  have : applyFragment (.obj [("a", .arr [])]) (.obj [("a", .arr [.num 1])]) ["/a/*"] = .error .index := by
    decide +kernel
  cases hr.symm.trans this

/-- Idempotence at full strength is false as well, for documents that are NOT of one
schema: where the device has an array and the fragment an object with the key `-`, the
selected pointer (last part `-`) means "append" to `jsonpointer` (`parent.append(value)`,
jsonpointer.py:209), so every further merge appends once more.  (A second mechanism,
under `childrenOfOld`: `C13_fragment_idempotent_old_rule_false`.) -/
theorem C13_fragment_idempotent_false :
    ¬ ∀ (old f : J) (acl : List String) (r : J), old.wf = true → f.wf = true →
        (∀ pat ∈ acl, ∃ p, parsePointer pat = .ok p ∧ p ≠ []) →
        applyFragment old f acl = .ok r → applyFragment r f acl = .ok r := by
  intro h
  have := h (.obj [("a", .arr [])]) (.obj [("a", .obj [("-", .num 1)])]) ["/a/-"] (.obj [("a", .arr [.num 1])]) rfl rfl
    (by
      intro pat hp
      simp at hp
      subst hp
      exact ⟨["a", "-"], by decide +kernel, by simp⟩)
    (by decide +kernel)
  exact absurd this (by decide +kernel)

/-! ### why jsontools.py:172 excludes strings: the same laws over `childrenOfOld`

The two inputs below satisfy the hypotheses of the `_partial` theorems that follow (the
device document is `{}`, the fragment has a string where the pattern continues), so the
laws hold on them for the code; under `childrenOfOld` both fail. -/

/-- Under `childrenOfOld` the pattern `/b/0` selects the first character of the fragment's string
`"1"` and the merge writes `{"b": {"0": "1"}}` — the result has a pointer `/b/0` that the
fragment does not have. -/
theorem C13_fragment_inside_old_rule_false :
    ¬ ∀ (old f : J) (acl : List String) (ps : List (List String)),
        ParsedAcl acl ps → (∀ p ∈ ps, p ≠ []) → old.wf = true → f.wf = true →
        SpineObj ps old → SpineNoArr ps f →
        ∃ r, applyFragmentOld old f acl = .ok r ∧ InsideEq ps r f := by
  intro h
  obtain ⟨r, hr, hin⟩ := h (.obj []) (.obj [("b", .str "1")]) ["/b/0"] [["b", "0"]] ⟨by decide +kernel, trivial⟩
    (by simp) rfl rfl (spineObj_of_check _ _ (by decide +kernel)) (spineNoArr_of_check _ _ (by decide +kernel))
  have hr' : applyFragmentOld (.obj []) (.obj [("b", .str "1")]) ["/b/0"]
      = .ok (.obj [("b", .obj [("0", .str "1")])]) := by decide +kernel
  cases hr.symm.trans hr'
  exact absurd (hin ["b", "0"] (by simp) ["b", "0"] (by decide +kernel)) (by decide +kernel)

/-- Under `childrenOfOld` the first merge succeeds and the second raises `TypeError`
(`'str' object does not support item assignment`). -/
theorem C13_fragment_idempotent_old_rule_false :
    ¬ ∀ (old f : J) (acl : List String) (ps : List (List String)),
        ParsedAcl acl ps → (∀ p ∈ ps, p ≠ []) → old.wf = true → f.wf = true →
        SpineObj ps old → SpineNoArr ps f →
        ∃ r, applyFragmentOld old f acl = .ok r ∧ applyFragmentOld r f acl = .ok r := by
  intro h
  obtain ⟨r, hr, hagain⟩ := h (.obj []) (.obj [("k", .str "0")]) ["/k/0", "/k"] [["k", "0"], ["k"]]
    ⟨by decide +kernel, by decide +kernel, trivial⟩ (by simp) rfl rfl
    (spineObj_of_check _ _ (by decide +kernel)) (spineNoArr_of_check _ _ (by decide +kernel))
  have hr' : applyFragmentOld (.obj []) (.obj [("k", .str "0")]) ["/k/0", "/k"] = .ok (.obj [("k", .str "0")]) := by
    decide +kernel
  cases hr.symm.trans hr'
  exact absurd hagain (by decide +kernel)

/-- Inside law.  Hypotheses: whatever the device document has above a selectable pointer
is an object (`SpineObj`), and the fragment has no array there (`SpineNoArr`).
`SpineNoArr` suffices for the fragment: the resolver selects nothing below a string or any
other scalar, so only an array above a selectable pointer can break the merge.  Then the
merge succeeds and at every pointer covered by a pattern — the selected pointer itself and
everything below it — the result reads exactly as the fragment does; in particular keys the
fragment lacks are gone.  Any number of patterns, nested or overlapping. -/
theorem C13_fragment_inside_partial (old f : J) (acl : List String) (ps : List (List String))
    (hparse : ParsedAcl acl ps) (hne : ∀ p ∈ ps, p ≠ [])
    (hwo : old.wf = true) (hwf : f.wf = true) (hso : SpineObj ps old) (hsf : SpineNoArr ps f) :
    ∃ r, applyFragment old f acl = .ok r ∧ InsideEq ps r f := by
  obtain ⟨r, h1, h2, _, _, _⟩ := fragment_laws old f acl ps hparse hne hwo hwf hso hsf
  exact ⟨r, h1, h2⟩

/-- Outside law: every pointer that leaves all patterns (it is neither covered by a
pattern nor an ancestor of a selectable pointer) reads as in the old document — its
whole subtree, present or absent — and every object of the old document that no
pattern covers (the ancestors of selected pointers included) is still an object. -/
theorem C13_fragment_outside_partial (old f : J) (acl : List String) (ps : List (List String))
    (hparse : ParsedAcl acl ps) (hne : ∀ p ∈ ps, p ≠ [])
    (hwo : old.wf = true) (hwf : f.wf = true) (hso : SpineObj ps old) (hsf : SpineNoArr ps f) :
    ∃ r, applyFragment old f acl = .ok r ∧ OutsideEq ps r old ∧
      (∀ a : Ptr, (∀ p ∈ ps, covers p a = false) → ObjAt a old → ObjAt a r) := by
  obtain ⟨r, h1, _, h3, _, h5⟩ := fragment_laws old f acl ps hparse hne hwo hwf hso hsf
  exact ⟨r, h1, h3, h5⟩

/-- Merging again changes nothing — equality of documents, key order included. -/
theorem C13_fragment_idempotent_partial (old f : J) (acl : List String) (ps : List (List String))
    (hparse : ParsedAcl acl ps) (hne : ∀ p ∈ ps, p ≠ [])
    (hwo : old.wf = true) (hwf : f.wf = true) (hso : SpineObj ps old) (hsf : SpineNoArr ps f) :
    ∃ r, applyFragment old f acl = .ok r ∧ applyFragment r f acl = .ok r := by
  obtain ⟨r, h1, _, _, h4, _⟩ := fragment_laws old f acl ps hparse hne hwo hwf hso hsf
  exact ⟨r, h1, h4⟩

/-- Several generators over one file (`new_json_fragment_files`): if all fragments and
the device document are of one schema with respect to all patterns of all
generators, the chain succeeds, the last generator's region equals its fragment and
nothing outside all regions differs from the device document. -/
theorem C13_chain_partial (old : J) (gens : List (J × List String)) (f : J) (acl : List String)
    (pss : List (List (List String))) (ps : List (List String))
    (hparse : ParsedGens (gens ++ [(f, acl)]) (pss ++ [ps]))
    (hne : ∀ p ∈ (pss ++ [ps]).flatten, p ≠ [])
    (hwo : old.wf = true) (hso : SpineObj (pss ++ [ps]).flatten old)
    (hg : ∀ g ∈ gens ++ [(f, acl)], g.1.wf = true ∧ SpineObj (pss ++ [ps]).flatten g.1) :
    ∃ r, applyChain old (gens ++ [(f, acl)]) = .ok r ∧ InsideEq ps r f ∧
      OutsideEq (pss ++ [ps]).flatten r old := by
  obtain ⟨r, h, _, _, ho, hi⟩ := chain_laws _ _ _ hparse
    (fun x hx p hp => have := List.mem_flatten.2 ⟨x, hx, hp⟩; ⟨this, hne p this⟩) hg old hwo hso
  exact ⟨r, h, hi (f, acl) ps (by simp) (by simp), ho⟩

/-- `_resolve_json_pointers(pattern, d)` returns exactly the pointers of `d` selected by
the pattern — at full strength: EVERY document with unique keys (objects; arrays by
canonical index `str(i)`; nothing below strings and other scalars, jsontools.py:167-176),
every non-root pattern. -/
theorem C13_resolve_sound_complete (pat : String) (p : List String) (d : J) (q : Ptr)
    (hp : parsePointer pat = .ok p) (hne : p ≠ []) (hw : d.wf = true) :
    ∃ qs, resolve pat d = .ok qs ∧ (q ∈ qs ↔ (matchPtr p q = true ∧ getP q d ≠ none)) := by
  obtain ⟨qs, h, mem⟩ := resolve_spec pat p d hp hne hw
  exact ⟨qs, h, mem q⟩

/-- The same statement over `childrenOfOld` is false: `/c/0` resolves to the pointer `/c/0`
in `{"c": "y"}`, which has nothing there (RFC 6901: a string has no children). -/
theorem C13_resolve_old_rule_false :
    ¬ ∀ (pat : String) (p : List String) (d : J) (q : Ptr),
        parsePointer pat = .ok p → p ≠ [] → d.wf = true →
        ∃ qs, resolveOld pat d = .ok qs ∧ (q ∈ qs ↔ (matchPtr p q = true ∧ getP q d ≠ none)) := by
  intro h
  obtain ⟨qs, hq, hiff⟩ := h "/c/0" ["c", "0"] (.obj [("c", .str "y")]) ["c", "0"] (by decide +kernel) (by simp) rfl
  have hq' : resolveOld "/c/0" (.obj [("c", .str "y")]) = .ok [["c", "0"]] := by decide +kernel
  cases hq.symm.trans hq'
  exact (hiff.1 (by simp)).2 rfl

/-- The pointer rebuilt from matched keys denotes those keys, whatever characters
(`/`, `~`, …) they contain: each key goes through `jsonpointer.escape`
(jsontools.py:183). -/
theorem C13_resolve_escapes_partial (mp : Ptr) (h : mp ≠ []) : rebuild mp = .ok mp :=
  rebuild_eq mp h

/-- …except for the empty list of parts (the root pointer `""`): the text `"/"` is
built, which denotes the key `""` and not the document. -/
theorem C13_resolve_escapes_false : ¬ ∀ mp : Ptr, rebuild mp = .ok mp := by
  intro h
  have := h []
  rw [rebuild_nil] at this
  cases this

/-- Full strength: whatever the filters, the result is a sub-document (objects with a
subset of the keys, everything else copied unchanged).  False of the code: a selected
array element is rendered as an object keyed by its index.  (The harness tolerates
exactly this rendering.  Under `childrenOfOld` there is a second witness:
`C13_filters_subdocument_old_rule_false`.) -/
theorem C13_filters_subdocument_false :
    ¬ ∀ (d : J) (F : List String) (r : J), d.wf = true → applyAclFilters d F = .ok r → isSub r d = true := by
  intro h
  have := h (.obj [("a", .arr [.str "x"])]) ["/a/0"] (.obj [("a", .obj [("0", .str "x")])]) rfl (by decide +kernel)
  revert this
  decide +kernel

/-- Under `childrenOfOld` a filter continuing below a string value returns an object keyed by
character positions, on a document that meets the hypotheses of
`C13_filters_subdocument_partial`. -/
theorem C13_filters_subdocument_old_rule_false :
    ¬ ∀ (d : J) (F : List String) (ps : List (List String)),
        (∀ t ∈ F, pyStrip t = "" ∨ ∃ p ∈ ps, p ≠ [] ∧ parsePointer (pyStrip t) = .ok p) →
        d.wf = true → SpineNoArr ps d → d.isObj = true →
        ∃ r, applyAclFiltersOld d F = .ok r ∧ isSub r d = true := by
  intro h
  obtain ⟨r, hr, hsub⟩ := h (.obj [("c", .str "y")]) ["/c/0"] [["c", "0"]]
    (by
      intro t ht
      simp at ht
      subst ht
      exact Or.inr ⟨["c", "0"], by simp, by simp, by decide +kernel⟩)
    rfl (spineNoArr_of_check _ _ (by decide +kernel)) rfl
  have hr' : applyAclFiltersOld (.obj [("c", .str "y")]) ["/c/0"] = .ok (.obj [("c", .obj [("0", .str "y")])]) := by
    decide +kernel
  cases hr.symm.trans hr'
  revert hsub
  decide +kernel

/-- For a document without an array above a selectable pointer (objects and scalars,
strings included), `apply_acl_filters` succeeds and returns a
sub-document: objects with a subset of the keys, everything else copied unchanged. -/
theorem C13_filters_subdocument_partial (d : J) (F : List String) (ps : List (List String))
    (hF : ∀ t ∈ F, pyStrip t = "" ∨ ∃ p ∈ ps, p ≠ [] ∧ parsePointer (pyStrip t) = .ok p)
    (hw : d.wf = true) (hs : SpineNoArr ps d) (hobj : d.isObj = true) :
    ∃ r, applyAclFilters d F = .ok r ∧ isSub r d = true := by
  cases d with
  | obj dk => exact filters_sub ps _ hw hs F hF (.obj []) rfl
  | _ => cases hobj

/-- `apply_patch(old, make_patch(old, new)) == new`, for every diff library that is
correct.  `make_patch` hands the library's operations through unchanged
(jsontools.py:78), so this is exactly the library's contract (`LibCorrect`), which the
harness checks on every generated pair. -/
theorem C13_patch_roundtrip (lib : J → J → List Op) (h : LibCorrect lib) (old new : J) :
    applyPatch old (makePatch lib old new) = .ok new := h old new

/-- RFC 6902 patches compose: applying `p ++ q` is applying `p`, then `q` (this is what
makes the order of operations matter, and what the upload of a patch relies on). -/
theorem C13_patch_append (d : J) (p q : List Op) (hq : q.forM validOp = .ok ()) :
    applyPatch d (p ++ q) = (applyPatch d p).bind (fun d1 => applyPatch d1 q) := by
  have happ : (p ++ q).forM validOp = (do p.forM validOp; q.forM validOp) := by simp [List.forM_append]
  simp only [applyPatch, happ, List.foldlM_append, hq]
  cases hp : p.forM validOp with
  | error e => rfl
  | ok u =>
    cases List.foldlM applyOp d p with
    | error e => simp [bind, Except.bind]
    | ok d1 => simp [bind, Except.bind]

/-- Why `make_patch` keeps the library's order (comment at jsontools.py:76-77): sorting
a correct patch by path breaks it. -/
theorem C13_sorted_patch_false :
    ¬ ∀ (old new : J) (ops : List Op), applyPatch old ops = .ok new → applyPatch old (sortByPath ops) = .ok new := by
  intro h
  have := h (.obj [("a", .arr [.num 1, .num 2, .num 3])]) (.obj [("a", .arr [.num 1])])
    [{ op := "remove", path := "/a/2" }, { op := "remove", path := "/a/1" }] (by decide +kernel)
  exact absurd this (by decide +kernel)

/-! A SONiC-like instance (keys containing `|`, `/`, `~`; arrays as values; two nested
patterns, one of them a glob) meets every hypothesis of the fragment theorems, and the
merge replaces `T|a/b` by the fragment's (dropping `X`), adds `T|c`, keeps `keep~` and
`BGP`. -/

def exOld : J := .obj [("ACL", .obj [("T|a/b", .obj [("P", .str "1"), ("X", .arr [.num 1])]), ("keep~", .str "k")]),
                       ("BGP", .obj [("asn", .num 1)])]
def exF : J := .obj [("ACL", .obj [("T|a/b", .obj [("P", .str "2")]), ("T|c", .obj [("P", .str "3")])])]
def exAcl : List String := ["/ACL/T|*", "/ACL/T|a~1b/P"]
def exPs : List (List String) := [["ACL", "T|*"], ["ACL", "T|a/b", "P"]]

example : ParsedAcl exAcl exPs := ⟨by decide +kernel, by decide +kernel, trivial⟩
example : ∀ p ∈ exPs, p ≠ [] := by decide +kernel
example : exOld.wf = true ∧ exF.wf = true := by decide +kernel
example : SpineObj exPs exOld := spineObj_of_check exPs exOld (by decide +kernel)
example : SpineNoArr exPs exF := spineNoArr_of_check exPs exF (by decide +kernel)

/-- the input corpus/C13/frag.string-below-pattern.json meets the
hypotheses as well — the fragment has a string where `/b/0` continues — and nothing is selected -/
example : SpineObj [["b", "0"]] (.obj []) ∧ SpineNoArr [["b", "0"]] (.obj [("b", .str "1")]) :=
  ⟨spineObj_of_check _ _ (by decide +kernel), spineNoArr_of_check _ _ (by decide +kernel)⟩
example : ¬ SpineObj [["b", "0"]] (.obj [("b", .str "1")]) := by
  intro h
  have := h ["b", "0"] (by simp) ["b"] (by simp) (by decide +kernel) (.str "1") rfl
  cases this
example : applyFragment (.obj []) (.obj [("b", .str "1")]) ["/b/0"] = .ok (.obj []) := by decide +kernel
example : applyAclFilters (.obj [("c", .str "xy")]) ["/c/0"] = .ok (.obj []) := by decide +kernel
example : resolve "/c/*" (.obj [("c", .str "xy")]) = .ok [] ∧
    resolve "/c/*" (.obj [("c", .arr [.str "x", .str "y"])]) = .ok [["c", "0"], ["c", "1"]] := by decide +kernel

example : applyFragment exOld exF exAcl =
    .ok (.obj [("ACL", .obj [("T|a/b", .obj [("P", .str "2")]), ("keep~", .str "k"), ("T|c", .obj [("P", .str "3")])]),
               ("BGP", .obj [("asn", .num 1)])]) := by decide +kernel

/-- a pointer outside both patterns, one inside the first -/
example : (exPs.all fun p => outsideOf p ["BGP", "asn"]) = true := by decide +kernel
example : covers ["ACL", "T|*"] ["ACL", "T|a/b", "X", "0"] = true := by decide +kernel

/-- filters: hypotheses met, result is a proper sub-document -/
example : applyAclFilters exOld [" /ACL/T|*/P ", "", "/BGP"] =
    .ok (.obj [("ACL", .obj [("T|a/b", .obj [("P", .str "1")])]), ("BGP", .obj [("asn", .num 1)])]) := by decide +kernel
example : SpineNoArr [["ACL", "T|*", "P"], ["BGP"]] exOld := spineNoArr_of_check _ exOld (by decide +kernel)
example : pyStrip " /ACL/T|*/P " = "/ACL/T|*/P" ∧ pyStrip "" = "" := by decide +kernel

example : ParsedGens [(exF, ["/ACL/T|c"]), (exF, exAcl)] [[["ACL", "T|c"]], exPs] :=
  ⟨⟨by decide +kernel, trivial⟩, ⟨by decide +kernel, by decide +kernel, trivial⟩, trivial⟩

/-- `LibCorrect` is satisfiable: replacing the whole document is a correct (if useless) diff -/
example : LibCorrect (fun _ b => [{ op := "replace", path := "", value := some b }]) := by
  intro a b
  rfl

/-- escaping: the key `a/b~` round-trips through the pointer text `/a~1b~0` -/
example : path ["a/b~"] = "/a~1b~0" ∧ parsePointer "/a~1b~0" = .ok ["a/b~"] := by decide +kernel

end Annet.Json
