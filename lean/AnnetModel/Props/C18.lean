/-
C18 — Every known hardware model resolves to one vendor and a loadable rulebook.

The tables (`devdb`, `vendors`, `hwRefs`, `logicUsed`, `logicImportable`, `vendorRulExists`, `templateSoftRefs`) are in
`Gen/DevDb.lean`, regenerated from the annet working tree before every build.  Where the statement for *every* database
or registry is false, the witness is proved (`…_false`) and the version with the needed hypothesis kept (`…_partial`);
the hypothesis is discharged for the shipped tables by kernel evaluation.
-/
import AnnetModel.Lemmas.HwTables
import AnnetModel.Lemmas.HwProvider
import AnnetModel.Lemmas.HwMako
import AnnetModel.Gen.DevDb

/-! OBLIGATIONS
Annet.Hw.C18_devdb_wellformed
Annet.Hw.C18_devdb_loads
Annet.Hw.C18_hierarchical
Annet.Hw.C18_hierarchical_anydb_partial
Annet.Hw.C18_hierarchical_anydb_false
Annet.Hw.C18_no_attribute_error
Annet.Hw.C18_logic_resolves
Annet.Hw.C18_rul_exists
Annet.Hw.C18_most_specific
Annet.Hw.C18_match_order_independent_partial
Annet.Hw.C18_match_order_independent_false
Annet.Hw.C18_vendors_evaluable
Annet.Hw.C18_unique_best
Annet.Hw.C18_vendor_order_independent
Annet.Hw.C18_deterministic_partial
Annet.Hw.C18_deterministic_false
Annet.Hw.C18_templates_ignore_soft
Annet.Hw.C18_escape_protects
-/

namespace Annet.Hw
open Lemmas Annet.Gen.DevDb

/-- Table check: the parent of every sequence is a sequence (what `_build_tree` needs to raise no `KeyError`, whatever
`allowed_by_seq` holds). -/
theorem devdb_parents : parentsKnownB devdb [[]] devdb = true := by decide +kernel

/-- Table check: `_build_tree` raises no `KeyError` (every
prefix of every sequence is itself an entry), no two sibling entries carry the same regexp (so no two
sequences share a tree node), and the database is not empty. -/
theorem C18_devdb_wellformed :
    (buildTree devdb (allowed devdb)).isSome = true ∧ sibDistinctB devdb = true ∧ devdb ≠ [] := by
  exact ⟨buildTree_isSome _ devdb_parents, sibDistinctB_of_nat (by decide +kernel), by decide +kernel⟩

/-- `parse_hw_model` succeeds for every model string (every outcome `m` of the regexp searches). -/
theorem C18_devdb_loads (m : Nat → Bool) : ∃ h, parseHw devdb m = .ok h :=
  parseHw_total (fun A => buildTree_isSome A devdb_parents) C18_devdb_wellformed.2.2 m

/-- **Hierarchy.**  For every model string — every truth assignment `m` of the regexps of the 168 entries, not only the
synthesised ones — if `hw.A.….Y.Z` is true then every `hw.A.….Y` is true (and raises nothing). -/
theorem C18_hierarchical (m : Nat → Bool) (h : HwSets Nat) (hp : parseHw devdb m = .ok h)
    (p q : List Nat) (hm : hwMatchPath h p = some true) (hq : q <+: p) (hne : q ≠ []) :
    hwMatchPath h q = some true :=
  hierarchy_attr (injPaths_of_sibDistinct C18_devdb_wellformed.2.1) hp hm hq hne

/-- The same for any database in which no two entries with the same parent have the same regexp. -/
theorem C18_hierarchical_anydb_partial {α ρ : Type} [DecidableEq α] [DecidableEq ρ]
    (P : List (List α × ρ)) (hd : sibDistinctB P = true) (m : ρ → Bool) (h : HwSets α)
    (hp : parseHw P m = .ok h) (p q : List α) (hm : hwMatchPath h p = some true) (hq : q <+: p)
    (hne : q ≠ []) : hwMatchPath h q = some true :=
  hierarchy_attr (injPaths_of_sibDistinct hd) hp hm hq hne

/-- Without that proviso the hierarchy fails: `_build_tree` keys each level by regexp, so with
`{"A": "x", "B": "x", "B.C": "y"}` the entry `B` never gets a node of its own; on a model string matching
`x` and `y`, `hw.B.C` is true while `hw.B` is false. -/
theorem C18_hierarchical_anydb_false :
    ¬ ∀ (P : List (List Nat × Nat)) (m : Nat → Bool) (h : HwSets Nat), parseHw P m = .ok h →
      ∀ p q, hwMatchPath h p = some true → q <+: p → q ≠ [] → hwMatchPath h q = some true := by
  intro hall
  have := hall [([0], 0), ([1], 0), ([1, 2], 1)] (fun _ => true) _ rfl [1, 2] [1] (by decide +kernel)
    (by decide +kernel) (by decide +kernel)
  exact absurd this (by decide +kernel)

/-- **No `AttributeError`.**  Every `hw.<path>` written in a rule template or in annet's python sources can be
evaluated on the hardware view of every model string. -/
theorem C18_no_attribute_error (m : Nat → Bool) (h : HwSets Nat) (hp : parseHw devdb m = .ok h) :
    ∀ r ∈ hwRefs, hwMatchPath h r ≠ none := by
  have table : hwRefs.all (knownPathFastB devdb) = true := by decide +kernel
  exact fun r hr => evaluable_of_known hp (List.all_eq_true.mp table r hr)

/-- Every logic function named by a rule file (in any Mako branch), by the built-in defaults or by a vendor's
`diff()` is one `import_rulebook_function` can import. -/
theorem C18_logic_resolves : ∀ n ∈ logicUsed, n ∈ logicImportable := by
  have table : logicUsed.all (fun n => logicImportable.contains n) = true := by decide +kernel
  intro n hn
  simpa using List.all_eq_true.mp table n hn

/-- Every registered vendor has its patching rule file (`get_rulebook` cannot raise `FileNotFoundError`). -/
theorem C18_rul_exists : ∀ v ∈ vendorRulExists, v.2 = true := by
  have table : vendorRulExists.all (·.2) = true := by decide +kernel
  intro v hv
  exact List.all_eq_true.mp table v hv

/-- **Most specific.**  Whatever `Registry.match` returns owns a `match()` expression that holds of the
hardware and has the largest dot count among all expressions of all vendors that hold. -/
theorem C18_most_specific {α ν : Type} [DecidableEq α] (h : HwSets α)
    (vs : List (ν × List (List α × Nat))) (v : ν) (hm : registryMatch h vs = some (some v)) :
    ∃ items p d, (v, items) ∈ vs ∧ (p, d) ∈ items ∧ hwMatchPath h p = some true ∧
      ∀ v' items' p' d', (v', items') ∈ vs → (p', d') ∈ items' → hwMatchPath h p' = some true → d' ≤ d := by
  simp only [registryMatch, Option.map_eq_some_iff] at hm
  obtain ⟨ms, hml, a, hhead, rfl⟩ := hm
  obtain ⟨ha, hmax⟩ := sortDesc_head hhead
  obtain ⟨items, p, hv, hi, ht⟩ := (mem_matchedList (d := a.2) hml).mp ha
  refine ⟨items, p, a.2, hv, hi, ht, fun v' items' p' d' hv' hi' ht' => ?_⟩
  exact hmax (v', d') ((mem_matchedList hml).mpr ⟨items', p', hv', hi', ht'⟩)

/-- **Order independence**, for every hardware view and every registry: if the largest dot count among the
matched expressions is reached by one vendor only, every order of registration gives the same result. -/
theorem C18_match_order_independent_partial {α ν : Type} [DecidableEq α] (h : HwSets α)
    (vs vs' : List (ν × List (List α × Nat))) (hp : vs.Perm vs')
    (hu : ∀ ms, matchedList h vs = some ms → UniqueBest ms) :
    registryMatch h vs' = registryMatch h vs := by
  have hp' : (vendorItems vs).Perm (vendorItems vs') := hp.flatMap_right _
  simp only [registryMatch, matchedList_eq, hp'.mem_iff] at hu ⊢
  split
  · rfl
  · next hno => exact congrArg some (pick_perm (hp'.filterMap _) (hu _ (if_neg hno))).symm

/-- Without a unique best the registration order decides (the case of a vendor whose `match()` is
`["OptiXtrans"]` beside `"Huawei"`: neither has a dot; the shipped `OptixTransVendor` says
`"Huawei.OptiXtrans"`). -/
theorem C18_match_order_independent_false :
    ¬ ∀ (h : HwSets Nat) (vs vs' : List (Nat × List (List Nat × Nat))), vs.Perm vs' →
      registryMatch h vs' = registryMatch h vs := by
  intro hall
  have := hall ⟨[[0], [1]], []⟩ [(7, [([0], 0)]), (8, [([1], 0)])] [(8, [([1], 0)]), (7, [([0], 0)])]
    (List.Perm.swap _ _ _)
  exact absurd this (by decide +kernel)

/-- Table check: every `match()` expression of every registered vendor, and every prefix of it, is a known
sequence. -/
theorem vendors_known : vendorsKnownFastB devdb vendors = true := by decide +kernel

/-- No `match()` expression of a registered vendor can raise `AttributeError`, for any
model string; `Registry.match` therefore always returns. -/
theorem C18_vendors_evaluable (m : Nat → Bool) (h : HwSets Nat) (hp : parseHw devdb m = .ok h) :
    ∃ ms, matchedList h vendors = some ms :=
  ⟨_, matchedList_of_ne_none fun it hi => evaluable_of_known hp (List.all_eq_true.mp vendors_known it hi)⟩

/-- Table check: on the chain of every one of the devdb sequences some vendor matches, and the best dot count
is reached by one vendor only.  (With `OptixTransVendor.match() == ["OptiXtrans"]` this does not build.) -/
theorem C18_unique_best :
    ∀ e ∈ devdb, uniqueBestB (chainMatched vendors e.1) = true ∧ chainMatched vendors e.1 ≠ [] := by
  have table : devdb.all (fun e => uniqueBestB (chainMatchedFast vendors e.1) &&
      !(chainMatchedFast vendors e.1).isEmpty) = true := by decide +kernel
  simp only [chainMatchedFast_eq] at table
  intro e he
  have := List.all_eq_true.mp table e he
  simp only [Bool.and_eq_true, Bool.not_eq_true', List.isEmpty_eq_false_iff] at this
  exact this

/-- **One vendor, whatever the registration order.**  For every devdb sequence and every hardware view that is
true exactly on its chain (`ChainTrue`): `Registry.match` returns a registered vendor, and
returns the same one for every permutation of the registration order. -/
theorem C18_vendor_order_independent (e : List Nat × Nat) (he : e ∈ devdb) (h : HwSets Nat)
    (hc : ChainTrue devdb e.1 h) :
    (∃ v, registryMatch h vendors = some (some v) ∧ ∃ items, (v, items) ∈ vendors) ∧
    ∀ vs', vendors.Perm vs' → registryMatch h vs' = registryMatch h vendors := by
  have table := vendors_known
  have hml := matchedList_chain hc table
  obtain ⟨hub, hne⟩ := C18_unique_best e he
  constructor
  · unfold registryMatch
    rw [hml]
    cases hh : (sortDesc (chainMatched vendors e.1)).head? with
    | none => exact absurd (sortDesc_head_none.mp hh) hne
    | some a =>
      refine ⟨a.1, by simp [hh], ?_⟩
      obtain ⟨ha, _⟩ := sortDesc_head hh
      obtain ⟨items, _, hv, _, _⟩ := (mem_matchedList (v := a.1) (d := a.2) hml).mp ha
      exact ⟨items, hv⟩
  · intro vs' hp
    refine C18_match_order_independent_partial h _ _ hp (fun ms hms => ?_)
    rw [hml] at hms
    simp only [Option.some.injEq] at hms
    subst hms
    exact uniqueBest_of_B hub

/-- **Loading is deterministic.**  Whatever `get_rulebook` calls a provider has served before (any history,
any software versions), its answer for a model is the answer of a fresh provider, which is the cache-free
function `Spec.pureGet` of the model alone — provided Mako output does not depend on `hw.soft`
(`_rulebook_cache` and `_render_rul_cache` are keyed by `hw`, whose `__eq__` compares `hw.model` only). -/
theorem C18_deterministic_partial {μ σ ν κ τ β : Type} [DecidableEq μ] [DecidableEq κ]
    (E : Env μ σ ν κ τ β) (hs : SoftIndependent E) (hist : List (μ × σ)) (m : μ) (s s' : σ) :
    (getRulebook E (runHistory E Provider.fresh hist) m s).2 = (getRulebook E Provider.fresh m s').2 ∧
    (getRulebook E Provider.fresh m s').2 = Spec.pureGet E m s' := by
  have h1 := (getRulebook_spec hs (runHistory_coherent hs hist _ (coherent_fresh E)) m s).1
  have h2 := (getRulebook_spec hs (coherent_fresh E) m s').1
  exact ⟨by rw [h1, h2, pureGet_soft hs m s s'], h2⟩

/-- Without that proviso it is false: with a template that reads `hw.soft`, a provider that has served the
model under one software version keeps answering with that rulebook. -/
theorem C18_deterministic_false :
    ¬ ∀ (E : Env Nat Nat Nat Nat Nat Nat) (hist : List (Nat × Nat)) (m s : Nat),
      (getRulebook E (runHistory E Provider.fresh hist) m s).2.toOption =
      (getRulebook E Provider.fresh m s).2.toOption := by
  intro hall
  have := hall { vendorOf := fun _ => some 0, registered := fun _ => true, alias := id,
                 fileName := fun _ i => i, readEscaped := fun n => if n = 0 then some 0 else none,
                 render := fun _ _ s => some s, compile := fun _ t _ => some t, emptyText := 99 }
    [(0, 1)] 0 2
  exact absurd this (by decide +kernel)

/-- Table check: no shipped rule template reads `hw.soft` (the textual counterpart of `SoftIndependent`). -/
theorem C18_templates_ignore_soft : templateSoftRefs = [] := by decide +kernel

/-- **`_escape_mako`, first pass.**  For every rule text: in the escaped text every `%` in column 0 is doubled
or begins one of Mako's control words `if elif else endif for endfor`; no `%logic=…`/`%comment…` line is
handed to Mako as a control line. -/
theorem C18_escape_protects (text : List Char) : PercentSafe true (escapePercent true true text) :=
  escapePercent_safe text true true

/-- `%c` and `%l…` in column 0 are escaped, `%if` and the indented `%x` are not; the `#` line goes with its blank line -/
example : dropComments (.pending []) (escapePercent true true
      ['%', 'c', '\n', '%', 'i', 'f', '\n', ' ', '%', 'x', '\n', '\n', ' ', '#', 'k', '\n', '%', 'l'])
    = ['\n', '%', '%', 'c', '\n', '%', 'i', 'f', '\n', ' ', '%', 'x', '\n', '%', '%', 'l'] := by decide +kernel

example : (parseHw [(["Huawei"], "h"), (["Huawei", "CE"], "ce"), (["Huawei", "CE", "CE6800"], "ce68"),
      (["Huawei", "NE"], "ne")] (fun r => r ≠ "ne")).toOption.map (·.trueS)
    = some [["Huawei"], ["CE"], ["Huawei", "CE"], ["CE6800"], ["Huawei", "CE6800"],
            ["Huawei", "CE", "CE6800"], ["CE", "CE6800"]] := by decide +kernel

def exampleDb : List (List String × String) :=
  [(["Huawei"], "h"), (["Huawei", "CE"], "ce"), (["Huawei", "CE", "CE6800"], "ce68"), (["Huawei", "NE"], "ne")]

/-- the proviso of `C18_hierarchical_anydb_partial` can be met, and its conclusion is not empty -/
example : sibDistinctB exampleDb = true := by decide +kernel
example : ((parseHw exampleDb (fun r => r ≠ "ne")).toOption.map fun h =>
      [hwMatchPath h ["Huawei", "CE", "CE6800"], hwMatchPath h ["Huawei", "CE"], hwMatchPath h ["Huawei"],
       hwMatchPath h ["Huawei", "NE"], hwMatchPath h ["Huawei", "XX"], hwMatchPath h ["CE6800"]])
    = some [some true, some true, some true, some false, none, some true] := by decide +kernel

example : UniqueBest [("huawei", 0), ("optixtrans", 1), ("cisco", 0)] :=
  uniqueBest_of_B (by decide +kernel)

/-- the hypothesis `ChainTrue` of `C18_vendor_order_independent` can be met -/
example (e : List Nat × Nat) :
    ChainTrue devdb e.1 ⟨(seqSubs e.1).flatMap (allowed devdb),
      (allSequences devdb).filter fun v => decide (v ∉ (seqSubs e.1).flatMap (allowed devdb))⟩ :=
  ⟨fun p => by simp [List.mem_flatMap], fun p => by simp⟩

/-- somewhere in devdb two vendors compete (so `C18_unique_best` is not about singletons only) -/
example : devdb.any (fun e => decide ((chainMatched vendors e.1).length ≥ 2)) = true := by decide +kernel

def exampleEnv : Env Nat Nat Nat Nat Nat Nat :=
  { vendorOf := fun _ => some 0, registered := fun _ => true, alias := id, fileName := fun _ i => i,
    readEscaped := fun n => if n = 0 then some 7 else none, render := fun t m _ => some (t + m),
    compile := fun i t _ => some (10 * i + t), emptyText := 0 }

example : SoftIndependent exampleEnv := fun _ _ _ _ => rfl

/-- the provider really caches: third call, other software version, same answer -/
example : (getRulebook exampleEnv (runHistory exampleEnv Provider.fresh [(1, 5), (2, 6)]) 1 9).2.toOption
    = some (8, 10, 20) := by decide +kernel

/-- `Registry.match` prefers the expression with more dots and otherwise the first registered -/
example : registryMatch (ν := String) ⟨[["Huawei"], ["Huawei", "OptiXtrans"]], [["Cisco"]]⟩
    [("huawei", [(["Huawei"], 0)]), ("optixtrans", [(["Huawei", "OptiXtrans"], 1)]), ("cisco", [(["Cisco"], 0)])]
    = some (some "optixtrans") := by decide +kernel

/-- an expression that is not a devdb sequence makes `Registry.match` raise -/
example : registryMatch (ν := String) ⟨[["Huawei"]], []⟩ [("x", [(["Nope"], 0)])] = none := by decide +kernel

end Annet.Hw
