/-
C15 — Mesh sessions are mirrored on both ends; handler data merges without loss.

* merge laws of `basemodel.py`, for every merger table (`Merge`/`DictMerge` nested to any depth);
* order independence: holds for the pair dicts of `_execute_direct` / `_execute_indirect` and for the global options; FALSE
  for `execute_for` as a whole (`ifname` naming an interface another handler creates);
* mirrored sessions: under `KeyCompat` (both ends group the handler results alike); FALSE without it (pairs are keyed by the
  remote address/vrf only).
-/
import AnnetModel.Lemmas.MeshExec
import AnnetModel.Lemmas.MeshPeer
import AnnetModel.Lemmas.MeshExecExample

/-! OBLIGATIONS
Annet.Mesh.C15_unset_never_overrides
Annet.Mesh.C15_forbidchange_eq_or_conflict
Annet.Mesh.C15_unite_union
Annet.Mesh.C15_concat
Annet.Mesh.C15_merge_recursive
Annet.Mesh.C15_dictmerge_recursive
Annet.Mesh.C15_assoc
Annet.Mesh.C15_assoc_exact
Annet.Mesh.C15_comm_mod_concat
Annet.Mesh.C15_comm_full_false
Annet.Mesh.C15_merge_many_order_independent
Annet.Mesh.C15_pair_handler_symmetric
Annet.Mesh.C15_order_independent_direct
Annet.Mesh.C15_order_independent_indirect
Annet.Mesh.C15_execute_for_order_independent_false
Annet.Mesh.C15_mirrored_direct_partial
Annet.Mesh.C15_mirrored_indirect_partial
Annet.Mesh.C15_mirrored_false
Annet.Mesh.C15_mirrored_peer_fields
Annet.Mesh.C15_peer_respects_equiv
Annet.Mesh.C15_interface_choice
Annet.Mesh.C15_indirect_interface_state_partial
-/

namespace Annet.Mesh

/-- Unset fields never override set ones: `merger(name, x, NOT_SET) = x`, `merger(name, NOT_SET, y) = y`, field by
field in `_merge(a, b)`. -/
theorem C15_unset_never_overrides (t : Table) (hnd : (keys t).Nodup) (a b out : Fields)
    (h : mergeFields t a b = .ok out) (f : String) (m : Merger) (hm : (f, m) ∈ t) :
    (lookup f b = none → lookup f out = lookup f a) ∧ (lookup f a = none → lookup f out = lookup f b) := by
  have h1 := mergeFields_ok hnd h f m hm
  constructor
  · intro hb
    rw [hb, mergeOpt, mergeOptWith_eq_optOp, optOp_none_right] at h1
    exact (Except.ok.inj h1).symm
  · intro ha
    rw [ha, mergeOpt_none_left] at h1
    exact (Except.ok.inj h1).symm

/-- `ForbidChange` (the default merger) is defined exactly when the two values are equal (Python `==`: sets as sets)
and returns the old value; different values raise `MergeForbiddenError`. -/
theorem C15_forbidchange_eq_or_conflict (x y : Val) :
    (leafEq x y = some true → mergeVal .forbidChange x y = .ok x ∧ leafEqv x y) ∧
    (leafEq x y = some false → mergeVal .forbidChange x y = .error .forbidden) ∧
    (∀ r, mergeVal .forbidChange x y = .ok r → r = x ∧ leafEqv x y) := by
  refine ⟨fun h => ⟨forbidChange_ok_iff.mpr ⟨h, rfl⟩, leafEqv_of_leafEq h⟩, fun h => by simp [mergeVal, h], fun r h => ?_⟩
  obtain ⟨hq, rfl⟩ := forbidChange_ok_iff.mp h
  exact ⟨rfl, leafEqv_of_leafEq hq⟩

theorem C15_unite_union (a b : List String) :
    ∃ c, mergeVal .unite (.set a) (.set b) = .ok (.set c) ∧ ∀ s, s ∈ c ↔ s ∈ a ∨ s ∈ b :=
  ⟨setUnion a b, rfl, fun _ => mem_setUnion⟩

theorem C15_concat (a b : List String) : mergeVal .concat (.seq a) (.seq b) = .ok (.seq (a ++ b)) := rfl

/-- `Merge()` is recursive and field by field, whatever the nesting depth of the table: it succeeds exactly when every
field's own merger does, and each field of the result is that merger's result. -/
theorem C15_merge_recursive (t : Table) (hnd : (keys t).Nodup) (a b : Fields) :
    (∀ v, mergeVal (.merge t) (.model a) (.model b) = .ok v →
        ∃ out, v = .model out ∧ ∀ f m, (f, m) ∈ t → mergeOpt m (lookup f a) (lookup f b) = .ok (lookup f out)) ∧
    ((∃ e, mergeVal (.merge t) (.model a) (.model b) = .error e) ↔
        ∃ f m e, (f, m) ∈ t ∧ mergeOpt m (lookup f a) (lookup f b) = .error e) := by
  simp only [mergeVal]
  cases hm : mergeFields t a b with
  | error e => exact ⟨fun v h => (nomatch h), fun _ => mergeFields_error hm, fun _ => ⟨e, rfl⟩⟩
  | ok out =>
    refine ⟨fun v h => ⟨out, (Except.ok.inj h).symm, mergeFields_ok hnd hm⟩, fun ⟨e, h⟩ => (nomatch h), ?_⟩
    rintro ⟨f, m, e, hfm, he⟩
    rw [mergeFields_ok hnd hm f m hfm] at he
    cases he

/-- `DictMerge(vm)`, key by key (dicts have distinct keys): it succeeds exactly when `vm` does on the two values of every
common key; entries of one side only are kept. -/
theorem C15_dictmerge_recursive (vm : Merger) (a b : List (String × Val)) (ha : (keys a).Nodup) (hb : (keys b).Nodup) :
    (∀ v, mergeVal (.dictMerge vm) (.dict a) (.dict b) = .ok v →
        ∃ out, v = .dict out ∧ (keys out).Nodup ∧ ∀ k, mergeOpt vm (lookup k a) (lookup k b) = .ok (lookup k out)) ∧
    ((∃ e, mergeVal (.dictMerge vm) (.dict a) (.dict b) = .error e) ↔
        ∃ k e, mergeOpt vm (lookup k a) (lookup k b) = .error e) := by
  have K := dictKeywise (mergeVal vm) a b ha hb
  simp only [← mergeOptWith_eq_optOp] at K
  simp only [mergeVal]
  cases hm : dictMergeWith (mergeVal vm) a b with
  | error e => exact ⟨fun v h => (nomatch h), fun _ => K.err e hm, fun _ => ⟨e, rfl⟩⟩
  | ok out =>
    obtain ⟨h1, h2⟩ := K.ok out hm
    refine ⟨fun v h => ⟨out, (Except.ok.inj h).symm, h1, h2⟩, fun ⟨e, h⟩ => (nomatch h), ?_⟩
    rintro ⟨k, e, he⟩
    rw [mergeOpt, h2 k] at he
    cases he

/-- Associativity, for every well-formed table (also with `UseFirst`/`UseLast`): the two groupings both raise or give
values equal up to the enumeration of Python sets and dicts.  `Val.WFd`: the dicts involved have distinct keys. -/
theorem C15_assoc (m : Merger) (hwf : m.WF) (x y z : Val) (hx : Val.WFd m x) (hy : Val.WFd m y) (hz : Val.WFd m z) :
    RE (Equiv m) (mergeVal m x y >>= fun r => mergeVal m r z) (mergeVal m y z >>= fun r => mergeVal m x r) :=
  (mergeVal_laws m hwf).assoc x y z hx hy hz

/-- … and for tables without `DictMerge` literally the same value. -/
theorem C15_assoc_exact (m : Merger) (hwf : m.WF) (hdf : m.DictFree) (x y z : Val) :
    RE Eq (mergeVal m x y >>= fun r => mergeVal m r z) (mergeVal m y z >>= fun r => mergeVal m x r) :=
  mergeVal_assoc m hwf hdf x y z

/-- Commutativity up to `Equiv` (Python set/dict equality; element order of `Concat` fields), for tables without
`UseFirst`/`UseLast`. -/
theorem C15_comm_mod_concat (m : Merger) (hwf : m.WF) (hs : m.SymD) (x y : Val) (hx : Val.WFd m x) (hy : Val.WFd m y) :
    RE (Equiv m) (mergeVal m x y) (mergeVal m y x) :=
  (mergeVal_laws m hwf).comm hs x y hx hy

/-- The restriction is needed: `UseLast`/`UseFirst` are order dependent by definition, and `Concat` is commutative only
up to element order. -/
theorem C15_comm_full_false :
    (¬ ∀ (m : Merger) (x y : Val), RE (Equiv m) (mergeVal m x y) (mergeVal m y x)) ∧
    (¬ ∀ (x y : Val), mergeVal .concat x y = mergeVal .concat y x) := by
  constructor
  · intro h
    have := h .useLast (.atom "1") (.atom "2")
    simp [mergeVal, Equiv, leafEqv] at this
  · intro h
    have := h (.seq ["a"]) (.seq ["b"])
    simp [mergeVal] at this

/-- `merge(first, *others)` — and so `_execute_globals`, a left fold of `merge` over the matching device rules — does not
depend on the order of `others`, up to `Equiv`; `GlobalOptionsDTO` with its dicts included. -/
theorem C15_merge_many_order_independent (t : Table) (hwf : (Merger.merge t).WF) (hs : (Merger.merge t).SymD)
    (first : Fields) (hf : WFdFields t first) (l l' : List Fields) (hl : ∀ x ∈ l, WFdFields t x) (hp : l.Perm l') :
    RE (EquivFields t) (mergeMany t first l) (mergeMany t first l') := by
  rw [mergeMany_eq_foldlM, mergeMany_eq_foldlM]
  exact (mergeFields_laws_wf hwf).foldlM_perm hs hp hl first hf

/-- The handler is always called as `(left, right)`: one application evaluated by `_execute_direct_pair` at `a` and at
`b` gives `None` at both ends, raises at both, or gives the same two DTOs with `local` and `connected` exchanged. -/
theorem C15_pair_handler_symmetric (dto : Table) (a b : String) (rule : DirectRule) (o : Bool) (g all : PortPairs) :
    RE OptMirror (executeDirectPair dto a b rule o g all)
      (executeDirectPair dto b a rule (!o) (swapPorts g) (swapPorts all)) :=
  executeDirectPair_mirror dto a b rule o g all

/-- **Order independence of `_execute_direct`** (no `UseFirst`/`UseLast`/`DictMerge` in the DTO table): every permutation
of the registered rules gives, key by key `(fqdn, addr, vrf)`, equivalent pairs, or both orders raise; the keys are
distinct, so this is the same set of pairs. -/
theorem C15_order_independent_direct (dto : Table) (hwf : (Merger.merge dto).WF) (hs : (Merger.merge dto).Sym)
    (hd : (Merger.merge dto).DictFree) (st : Storage) (rules rules' : List DirectRule) (hp : rules.Perm rules')
    (device : String) :
    RE (StateEqv dto) (executeDirect dto st rules device) (executeDirect dto st rules' device) ∧
    (∀ s, executeDirect dto st rules device = .ok s → (keys s).Nodup) := by
  refine ⟨?_, fun _ => executeDirect_nodup⟩
  rw [executeDirect_eq, executeDirect_eq]
  refine foldlM_stepG_perm _ _ (PairEqv dto) (fun k p => p.device = k.1)
    (fun k => mergePair_laws dto hwf hs hd k.1) (fun i k v h => runDirectItem_device h) ?_
  exact List.perm_flatMap_left _ fun n _ => List.Perm.flatMap_right _ hp

/-- The same for `_execute_indirect`, over `lookup_indirect(device, resolve_all_fdnds())`. -/
theorem C15_order_independent_indirect (dto : Table) (hwf : (Merger.merge dto).WF) (hs : (Merger.merge dto).Sym)
    (hd : (Merger.merge dto).DictFree) (st : Storage) (rules rules' : List IndirectRule) (hp : rules.Perm rules')
    (device : String) :
    RE (StateEqv dto) (executeIndirect dto st rules device) (executeIndirect dto st rules' device) ∧
    (∀ s, executeIndirect dto st rules device = .ok s → (keys s).Nodup) := by
  refine ⟨?_, fun _ => executeIndirect_nodup⟩
  rw [executeIndirect_eq, executeIndirect_eq]
  refine foldlM_stepG_perm _ _ (PairEqv dto) (fun k p => p.device = k.1)
    (fun k => mergePair_laws dto hwf hs hd k.1) (fun i k v h => keyed_device h) ?_
  exact List.perm_flatMap_left _ fun n _ => List.Perm.flatMap_right _ hp

/-- FALSE for `execute_for` as a whole: interfaces are created while the pairs are converted, in dict order, and
`_apply_indirect_interface_changes` looks `ifname` up among the interfaces existing at that moment.  Witness: rule 1
creates `Vlan100` (svi), rule 2 names it; order (1,2) succeeds, (2,1) raises.  Replayed on the real code:
`corpus/C15/order-dep-ifname-created.json`. -/
theorem C15_execute_for_order_independent_false :
    ¬ ∀ (T : Tables) (st : Storage) (ipOf : String → Option String) (d : List DirectRule) (v : List VirtualRule)
        (i i' : List IndirectRule) (device : String), i.Perm i' →
        Witness.isOk (executeFor T st ipOf ⟨d, i, v⟩ device) = Witness.isOk (executeFor T st ipOf ⟨d, i', v⟩ device) := by
  intro h
  have := h Witness.tables Witness.st some [] [] [Witness.ruleSvi, Witness.ruleIfname]
    [Witness.ruleIfname, Witness.ruleSvi] "a" (List.Perm.swap _ _ _)
  rw [Witness.order_12_ok, Witness.order_21_raises] at this
  cases this

/-- … the part that holds: the only state dependence of the interface selection is the `find_interface(ifname)` lookup;
with `lag`, `subif`, `svi`, or no / empty `ifname` the interface of an indirect peer is the same whatever was created before. -/
theorem C15_indirect_interface_state_partial (st : Storage) (ifname : Option String) (ch : IfChanges)
    (ds ds' : DevState) (h : ch.subif.isSome ∨ ch.svi.isSome ∨ ifname = none ∨ ifname = some "" ∨ ch.lag.isSome) :
    (applyIndirectIface st ifname ch ds).map (·.1) = (applyIndirectIface st ifname ch ds').map (·.1) := by
  simp only [applyIndirectIface]
  obtain ⟨addr, lag, llm, svi, subif, vrf⟩ := ch
  cases lag <;> cases subif <;> cases svi <;> simp at h ⊢
  rcases h with rfl | rfl <;> simp

/-- **Mirrored direct sessions** (partial: hypothesis `KeyCompat`).  If `_execute_direct` succeeds at both ends, every pair
`a` holds for `b` has a counterpart at `b` whose `local` is `a`'s `connected` and vice versa (up to `Equiv`), whatever the
registration order. -/
theorem C15_mirrored_direct_partial (dto : Table) (hwf : (Merger.merge dto).WF) (hs : (Merger.merge dto).Sym)
    (hd : (Merger.merge dto).DictFree) (st : Storage) (rules : List DirectRule) (a b : String)
    (hc : st.conns b a = swapPorts (st.conns a b)) (hka : st.known a = true) (hkb : st.known b = true)
    (hnda : (st.neighbours a).Nodup) (hndb : (st.neighbours b).Nodup)
    (hba : b ∈ st.neighbours a) (hab : a ∈ st.neighbours b)
    (hcompat : KeyCompat dto st rules a b)
    (sA sB : PairState) (hA : executeDirect dto st rules a = .ok sA) (hB : executeDirect dto st rules b = .ok sB)
    (k : PeerKey) (p : Pair) (hp : lookup k sA = some p) (hk : k.1 = b) :
    ∃ k' q, lookup k' sB = some q ∧ k'.1 = a ∧
      EquivFields dto q.loc p.connected ∧ EquivFields dto q.connected p.loc := by
  rw [executeDirect_eq] at hA hB
  exact stepG_mirrored dto (mergePair_laws dto hwf hs hd "") hnda hba hndb hab (fun _ _ hi _ _ => runDirectItem_key hi)
    (fun _ _ hi _ _ => runDirectItem_key hi) (itemsFor_mirror st rules a b hc hka hkb)
    (fun _ hi _ _ => run_mirror dto st rules a b hi) hcompat hA hB k p hp hk

/-- **Mirrored indirect sessions** (partial: `KeyCompatI`): the devices come from `allFqdns`; no hypothesis on connections. -/
theorem C15_mirrored_indirect_partial (dto : Table) (hwf : (Merger.merge dto).WF) (hs : (Merger.merge dto).Sym)
    (hd : (Merger.merge dto).DictFree) (st : Storage) (rules : List IndirectRule) (a b : String)
    (hnd : st.allFqdns.Nodup) (ha : a ∈ st.allFqdns) (hb : b ∈ st.allFqdns)
    (hcompat : KeyCompatI dto rules a b)
    (sA sB : PairState) (hA : executeIndirect dto st rules a = .ok sA) (hB : executeIndirect dto st rules b = .ok sB)
    (k : PeerKey) (p : Pair) (hp : lookup k sA = some p) (hk : k.1 = b) :
    ∃ k' q, lookup k' sB = some q ∧ k'.1 = a ∧
      EquivFields dto q.loc p.connected ∧ EquivFields dto q.connected p.loc := by
  rw [executeIndirect_eq] at hA hB
  exact stepG_mirrored dto (mergePair_laws dto hwf hs hd "") hnd hb hnd ha (fun _ _ hi _ _ => runIndirect_key hi)
    (fun _ _ hi _ _ => runIndirect_key hi) (itemsForI_mirror rules a b)
    (fun _ hi _ _ => runI_mirror dto rules a b hi) hcompat hA hB k p hp hk

/-- FALSE without `KeyCompat`: pairs are keyed by `(remote fqdn, remote addr, remote vrf)` only.  Witness: two handlers give
`a` one address and `b` two; `a` computes two pairs, `b` files both under `a`'s single address and raises.  Replayed on
the real code: `corpus/C15/mirror-asym-peerkey.json`. -/
theorem C15_mirrored_false :
    ¬ ∀ (dto : Table) (st : Storage) (rules : List IndirectRule) (a b : String),
        (Merger.merge dto).WF → (Merger.merge dto).Sym → (Merger.merge dto).DictFree →
        st.allFqdns.Nodup → a ∈ st.allFqdns → b ∈ st.allFqdns →
        Witness.isOk (executeIndirect dto st rules a) = Witness.isOk (executeIndirect dto st rules b) := by
  intro h
  have := h Witness.dto Witness.st [Witness.rule "s10.0.0.2", Witness.rule "s10.0.0.3"] "a" "b"
    Witness.dto_ok.1 Witness.dto_ok.2.1 Witness.dto_ok.2.2 (by simp [Witness.st]) (by simp [Witness.st])
    (by simp [Witness.st])
  obtain ⟨s, hx, -⟩ := Except.ok_of_toOption_map Witness.a_two_pairs
  rw [Witness.b_raises, hx] at this
  cases this

/-- `to_bgp_peer` at the two ends of a mirrored pair: the address `a`'s peer points at is the address `b` puts on its own
interface, `a`'s `remote_as` is `b`'s `options.local_as` (`None` reads as AS 0, like `ASN(None)`), and vice versa. -/
theorem C15_mirrored_peer_fields (dto : Table) (haddr : ("addr", Merger.forbidChange) ∈ dto)
    (hasn : ("asnum", Merger.forbidChange) ∈ dto)
    (optFields : List String) (ipOf : String → Option String) (p q : Pair)
    (h1 : EquivFields dto q.loc p.connected) (h2 : EquivFields dto q.connected p.loc)
    (hostA hostB : String) (ifA ifB : Option String) (PA PB : PeerOut)
    (hA : toBgpPeer optFields ipOf p.loc p.connected hostB ifA = .ok PA)
    (hB : toBgpPeer optFields ipOf q.loc q.connected hostA ifB = .ok PB) :
    (∃ a cs, PB.localAddr = some (.atom a) ∧ a.toList = 's' :: cs ∧ ipOf (String.ofList cs) = some PA.addr) ∧
    (∃ a cs, PA.localAddr = some (.atom a) ∧ a.toList = 's' :: cs ∧ ipOf (String.ofList cs) = some PB.addr) ∧
    PB.localAs.getD 0 = PA.remoteAs ∧ PA.localAs.getD 0 = PB.remoteAs :=
  have ⟨k1, k2⟩ := toBgpPeer_mirror haddr hasn h1 hA hB
  have ⟨k3, k4⟩ := toBgpPeer_mirror haddr hasn h2.symm hB hA
  ⟨k1, k3, k2, k4⟩

/-- `to_bgp_peer` reads equivalent DTOs alike, so order independence and mirroring of the pair dicts carry over to the
`Peer` objects. -/
theorem C15_peer_respects_equiv (dto : Table) (haddr : ("addr", Merger.forbidChange) ∈ dto)
    (hasn : ("asnum", Merger.forbidChange) ∈ dto) (hfam : ("families", Merger.unite) ∈ dto)
    (optFields : List String) (ipOf : String → Option String) (loc loc' conn conn' : Fields)
    (hl : EquivFields dto loc loc') (hc : EquivFields dto conn conn') (host : String) (iface : Option String) :
    RE (fun P P' => P.addr = P'.addr ∧ P.remoteAs = P'.remoteAs ∧ P.localAs = P'.localAs ∧
        P.interface = P'.interface ∧ P.hostname = P'.hostname ∧ OptRel leafEqv P.families P'.families)
      (toBgpPeer optFields ipOf loc conn host iface) (toBgpPeer optFields ipOf loc' conn' host iface) := by
  simp only [toBgpPeer]
  rw [peerLocalAs_congr (lookup_fc_rel hl hasn), peerAddr_congr ipOf (lookup_fc_rel hc haddr),
    peerRemoteAs_congr (lookup_fc_rel hc hasn)]
  cases peerLocalAs loc' <;> cases peerAddr ipOf conn' <;> cases peerRemoteAs conn' <;>
    simp [pure, Except.pure, bind, Except.bind]
  exact (EquivFields_iff dto conn conn').mp hc "families" _ hfam

/-- `_apply_direct_interface_changes` as a decision table over `(lag, subif, svi, first processed port)`; several ports
without LAG/SVI raise.  The choice does not depend on the interfaces created before, and the local address (with its vrf)
is always put on the selected interface. -/
theorem C15_interface_choice (st : Storage) (device neighbor : String) (ports : List String) (ch : IfChanges)
    (ds : DevState) :
    let pp := (st.conns device neighbor).filter fun p => ports.contains p.1
    match directIfaceTable st pp ch with
    | none => ∃ e, applyDirectIface st device neighbor ports ch ds = .error e
    | some name => ∃ ds', applyDirectIface st device neighbor ports ch ds = .ok (name, ds') ∧
        ds'.calls.getLast? = some (.addAddr name ch.addr ch.vrf) := by
  intro pp
  simp only [pp, directIfaceTable, applyDirectIface]
  generalize (st.conns device neighbor).filter (fun p => ports.contains p.1) = l
  obtain ⟨addr, lag, llm, svi, subif, vrf⟩ := ch
  rcases l with _ | ⟨p, _ | ⟨q, r⟩⟩ <;> cases lag <;> cases subif <;> cases svi <;>
    simp [List.getLast?_append]

example : mergeVal (.merge [("families", .unite), ("addr", .forbidChange)])
    (.model [("families", .set ["v4"]), ("addr", .atom "s1")]) (.model [("families", .set ["v6"])])
    = .ok (.model [("families", .set ["v4", "v6"]), ("addr", .atom "s1")]) := by
  simp [mergeVal, mergeFields, mergeOptWith, lookup, setUnion]; rfl
example : mergeVal (.merge [("addr", .forbidChange)]) (.model [("addr", .atom "s1")]) (.model [("addr", .atom "s2")])
    = .error .forbidden := by
  simp [mergeVal, mergeFields, mergeOptWith, lookup, leafEq]
example : (Merger.merge [("families", .unite), ("inner", .merge [("routes", .concat)])]).WF ∧
    (Merger.merge [("families", .unite), ("inner", .merge [("routes", .concat)])]).Sym ∧
    (Merger.merge [("families", .unite), ("inner", .merge [("routes", .concat)])]).DictFree := by
  simp [Merger.WF, Table.WF, Merger.Sym, Table.Sym, Merger.DictFree, Table.DictFree, keys]

example : mergeVal (.dictMerge (.merge [("rt", .concat)]))
    (.dict [("v1", .model [("rt", .seq ["1:1"])])]) (.dict [("v2", .model []), ("v1", .model [("rt", .seq ["1:2"])])])
    = .ok (.dict [("v1", .model [("rt", .seq ["1:1", "1:2"])]), ("v2", .model [])]) := by
  simp [mergeVal, dictMergeWith, upsertWith, mergeFields, mergeOptWith, lookup]; rfl
example : Val.WFd (.dictMerge (.merge [("rt", .concat)])) (.dict [("v2", .model []), ("v1", .model [("rt", .seq ["1:2"])])]) ∧
    (Merger.dictMerge (.merge [("rt", .concat)])).WF ∧ (Merger.dictMerge (.merge [("rt", .concat)])).SymD := by
  refine ⟨?_, by simp [Merger.WF, Table.WF, keys], by simp [Merger.SymD, Table.SymD]⟩
  simp only [Val.WFd]
  refine ⟨by decide, ?_⟩
  intro k v h
  cases v <;> simp [Val.WFd, WFdFields]

/-- a DTO table with the shape of `DirectPeerDTO` (everything `ForbidChange`, `families` `Unite`), and `KeyCompatI` for one
rule -/
example : (Merger.merge Witness.dto).WF ∧ (Merger.merge Witness.dto).Sym ∧ (Merger.merge Witness.dto).DictFree :=
  Witness.dto_ok
example : KeyCompatI Witness.dto [Witness.rule "s10.0.0.2"] "a" "b" := by
  intro p1 h1 p2 h2 k1 k2 k1' k2' e1 e2 e3 e4
  have hl : (indirectPairs Witness.dto [Witness.rule "s10.0.0.2"] "a" "b").length = 1 := by decide +kernel
  obtain ⟨x, hx⟩ := List.length_eq_one_iff.mp hl
  rw [hx] at h1 h2
  simp only [List.mem_singleton] at h1 h2
  subst h1; subst h2
  rw [e1] at e2; rw [e3] at e4
  cases e2; cases e4
  exact ⟨fun _ => rfl, fun _ => rfl⟩
example : directIfaceTable Witness.st [("e1", "e7"), ("e2", "e8")] ⟨"s10.0.0.1/31", some "i1", none, none, some "i10", none⟩
    = some "Trunki1.i10" := by decide +kernel

end Annet.Mesh
