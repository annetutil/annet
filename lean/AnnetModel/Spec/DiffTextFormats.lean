/-
The two formatter shapes C03's statement about the shipped formatters names: formatters without marks (Huawei, Cisco,
Arista, …: an indent of two blanks) and the Junos-like one (`{ }` blocks, `;` after a statement, four blanks).
-/
import AnnetModel.Model.DiffText

namespace Annet.DiffText

def junosFmt : Fmt := ⟨"    ".toList, " {".toList, "}".toList, ";".toList⟩

def plainFmt : Fmt := ⟨"  ".toList, [], [], []⟩

end Annet.DiffText
