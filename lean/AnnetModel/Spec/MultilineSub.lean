/-
The word of C03's `%multiline` statements for the old skip rule of `multiline_diff`: the subtree of a row, empty when the
row is absent.
-/
import AnnetModel.Model.Multiline

namespace Annet.Multiline
open Annet

/-- `d.get(row, {})` -/
def sub (l : Level) (row : String) : Cfg := (Cfg.lookup l row).getD Cfg.empty

end Annet.Multiline
