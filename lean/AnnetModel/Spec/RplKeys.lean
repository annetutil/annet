/-
Words of the C14 statements about united community lists (Arista, Cumulus): the lists of names a program stores as keys
of `used_communities` (community.py:56-91), and the two hypotheses on them.
-/
import AnnetModel.Spec.Rpl

namespace Annet.Rpl.Lemmas
open Annet.Rpl.Spec

/-- the name lists a condition / an action assigns as keys of `used_communities` (community.py:56-91) -/
def condKeys (c : Cond) : List (List Str) :=
  match c.val with
  | .names ns => if c.op == .hasAny && ns.length > 1 then [ns] else ns.map ([·])
  | _ => []

def actKeys (a : Action) : List (List Str) :=
  match a.val with
  | .comm c => (CommAct.names c).map ([·])
  | _ => []

def keyLists (inp : Input) : List (List Str) :=
  (inp.policies.flatMap (·.stmts)).flatMap fun st => (commConds st).flatMap condKeys ++ (commActs st).flatMap actKeys

/-- distinct key lists of the program have distinct mangled names -/
def MangleInj (inp : Input) : Prop :=
  ∀ ns ∈ keyLists inp, ∀ ns' ∈ keyLists inp, mangle ns = mangle ns' → ns = ns'

/-- every community-like condition names at least one list (the API's `has(...)` / `has_any(...)` with arguments) -/
def CondsNamed (inp : Input) : Prop :=
  ∀ p ∈ inp.policies, ∀ st ∈ p.stmts, ∀ c ∈ st.conds, ∀ l, c.val = .names l → l ≠ []

end Annet.Rpl.Lemmas
