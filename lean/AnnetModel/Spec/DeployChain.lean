/-
Deployments one after another (C01 along chains of targets): one run of annet's pipeline in device mode against the
running configuration, its patch executed by the nested device; then the next target against what the device holds.
-/
import AnnetModel.Spec.ConvergeNested

namespace Annet.ConvergeNested.Lemmas

open Annet Annet.Rules Annet.Device Annet.Device.Abs Annet.Converge Annet.ConvergeNested
open Annet.Diff Annet.Patch

/-- one deployment; `none` when the pipeline refuses the pair -/
def deployStep (v : Vendor) (env : Env) (rules : PRules) (ordering : List ORule) (dev target : Cfg) : Option Cfg :=
  match Api.deviceMode Patch.runLogic v rules ordering true dev target with
  | .ok r => some (.mk (applyTree env rules r.patch dev.kids))
  | .error _ => none

def deployChain (v : Vendor) (env : Env) (rules : PRules) (ordering : List ORule) : Cfg → List Cfg → Option Cfg
  | dev, [] => some dev
  | dev, t :: ts =>
    match deployStep v env rules ordering dev t with
    | some dev' => deployChain v env rules ordering dev' ts
    | none => none

end Annet.ConvergeNested.Lemmas
