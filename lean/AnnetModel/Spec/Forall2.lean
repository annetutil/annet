/-
`Forall2 R as bs`: the two lists have the same length and are related by `R` position by position.  A word of the C09
deploy statements (each command path with the command sent for it), of the closed forms of `base_diff` and of
`make_patch` (each yield of a logic function with the item made of it); the namespace is that of its first use.
-/

namespace Annet.Deploy.Lemmas

inductive Forall2 {α β : Type} (R : α → β → Prop) : List α → List β → Prop
  | nil : Forall2 R [] []
  | cons {a : α} {b : β} {as : List α} {bs : List β} : R a b → Forall2 R as bs → Forall2 R (a :: as) (b :: bs)

end Annet.Deploy.Lemmas
