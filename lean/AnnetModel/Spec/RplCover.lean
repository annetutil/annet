/-
Words of the C14 statements about the text a generator produces: the compiled ACL of a generator and what it means for a
row to be covered by it (`apply_acl` lets its path pass), and the block structure of the text `PartialGenerator.__call__`
returns (header rows, their rows behind the block indent) with the rows the offside parser can take back.
-/
import AnnetModel.Model.RplRun
import AnnetModel.Spec.Acl

namespace Annet.Rpl.Lemmas
open Annet Annet.Acl Annet.Acl.Spec Annet.Offside

/-- the compiled ACL of a generator (`compile_acl_text(gen.acl(device))`) -/
def rulesFor (v : Vend) (k : GenKind) : Rules :=
  match genAcl v k with
  | some a => compileAcl [a]
  | none => ⟨[], []⟩

/-- "every generated line is covered, path-wise, by the generator's own ACL" -/
def Covered (v : Vend) (k : GenKind) (l : Line) : Prop :=
  (walk (aclVendor v) (rulesFor v k) ((l.path ++ [l.text]).map String.ofList)).isSome = true

/-- `[h]`, then `[h, c]` for every row `c` of the block -/
def blockPaths : List (String × List String) → List (List String)
  | [] => []
  | (h, cs) :: bs => [h] :: (cs.map ([h, ·]) ++ blockPaths bs)

/-- a row body as the generators produce it: starts and ends with a non-blank character, does not start with a
comment mark -/
structure CleanBody (body : List Char) : Prop where
  ne : body ≠ []
  first : ∀ c rest, body = c :: rest → pyIsSpace c = false ∧ c ≠ '!' ∧ c ≠ '#'
  last : ∀ c, body.getLast? = some c → pyIsSpace c = false

/-- the lines of the text `PartialGenerator.__call__` returns for a stream of blocks (block indent: two blanks) -/
def renderBlocks : List (Str × List Str) → List String
  | [] => []
  | (h, cs) :: bs => String.ofList h :: (cs.map (fun c => String.ofList (List.replicate 2 ' ' ++ c)) ++ renderBlocks bs)

def blocksAsStrings (bs : List (Str × List Str)) : List (String × List String) :=
  bs.map fun b => (String.ofList b.1, b.2.map String.ofList)

end Annet.Rpl.Lemmas
