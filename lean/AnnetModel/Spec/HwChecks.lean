/-
The words of C18's statements that are neither in the model nor in `Spec/Hw`: what a rule text, an environment, a list
of matched vendors and a hardware view have to satisfy, and the Boolean checkers that the table theorems evaluate over
`Gen/DevDb` (a statement `checker table = true` says what the checker computes).
-/
import AnnetModel.Model.Hw

namespace Annet.Hw.Lemmas
open Annet.Hw

/-- every `%` that starts a line is followed by a second `%` or by a Mako control word -/
def PercentSafe : Bool → List Char → Prop
  | _, [] => True
  | lineStart, c :: cs =>
    (lineStart = true → c = '%' → (cs.head? = some '%' ∨ makoKeyword cs = true)) ∧
    PercentSafe (decide (c = '\n')) cs

section
variable {μ σ ν κ τ β : Type}

/-- Mako output does not depend on the software version (no shipped template reads `hw.soft`). -/
def SoftIndependent (E : Env μ σ ν κ τ β) : Prop :=
  ∀ t m s s', E.render t m s = E.render t m s'

end

section
variable {α : Type} [DecidableEq α] {ν : Type}

/-- the maximal dot count among the matched items is reached by the items of one vendor only -/
def UniqueBest (ms : List (ν × Nat)) : Prop :=
  ∀ a b, a ∈ ms → b ∈ ms → (∀ c ∈ ms, c.2 ≤ a.2) → (∀ c ∈ ms, c.2 ≤ b.2) → a.1 = b.1

end

section
variable {α : Type} [DecidableEq α] {ρ : Type}

def distinctB {β : Type} [DecidableEq β] : List β → Bool
  | [] => true
  | x :: xs => !xs.contains x && distinctB xs

variable [DecidableEq ρ] in
/-- no two entries have the same parent sequence and the same regexp (siblings have distinct regexps) -/
def sibDistinctB (P : List (List α × ρ)) : Bool := distinctB (P.map fun e => (e.1.dropLast, e.2))

/-- The hardware view of a model string that matches exactly the chain of `s`: true are the allowed variants of the
non-empty prefixes of `s`, false the other known sequences. -/
def ChainTrue (P : List (List α × ρ)) (s : List α) (h : HwSets α) : Prop :=
  (∀ p, p ∈ h.trueS ↔ ∃ s₁ ∈ seqSubs s, p ∈ allowed P s₁) ∧
  (∀ p, p ∈ h.falseS ↔ p ∈ allSequences P ∧ p ∉ h.trueS)

def trueOnChain (s e : List α) : Bool := (seqSubs s).any fun s₁ => decide (e ∈ variants s₁)

/-- `v ∈ variants s`, looking at the last components first: most entries fail there, which is what makes the table
checks cheap to evaluate -/
def memVariantsFast (v s : List α) : Bool :=
  decide (v.getLast? = s.getLast?) && decide (v ∈ variants s)

def variantCountFast (P : List (List α × ρ)) (v : List α) : Nat :=
  (P.filter fun e => memVariantsFast v e.1).length

def knownPathFastB (P : List (List α × ρ)) (e : List α) : Bool :=
  !e.isEmpty && (seqSubs e).all fun q => variantCountFast P q == 1

section
variable {ν : Type}

/-- the `matched` list of `Registry.match` on the chain of `s`, computed without building the sets -/
def chainMatched (vs : List (ν × List (List α × Nat))) (s : List α) : List (ν × Nat) :=
  (vendorItems vs).filterMap fun it => if trueOnChain s it.2.1 then some (it.1, it.2.2) else none

/-- every `match()` expression of every vendor can be evaluated on every hardware view -/
def vendorsKnownFastB (P : List (List α × ρ)) (vs : List (ν × List (List α × Nat))) : Bool :=
  (vendorItems vs).all fun it => knownPathFastB P it.2.1

variable [DecidableEq ν]

def maxDots (ms : List (ν × Nat)) : Nat := ms.foldl (fun acc a => max acc a.2) 0

def uniqueBestB (ms : List (ν × Nat)) : Bool :=
  ms.all fun a => ms.all fun b => a.2 != maxDots ms || b.2 != maxDots ms || a.1 == b.1

end

end

end Annet.Hw.Lemmas
