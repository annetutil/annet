/-
Which abstract command (`Cmd` of `Spec/DeviceAbs`) a leaf command line stands for at a level: the word the refinement
statement of C01 (list of lines against slot map) is written with.  A block-exit word is a no-op, a line whose
vendor-reversed form holds a slot is the removal of that row, any other line holding a slot is a put of itself.
-/
import AnnetModel.Spec.DeviceAbs

namespace Annet.Device
open Annet Annet.Rules Annet.Device.Abs

def Denotes (env : Env) (rules : PRules) (c : String) : Cmd → Prop
  | .nop => env.exits.contains c = true
  | .del r' => ¬ env.exits.contains c = true ∧ stripReverse env c = some r' ∧ (slotOf rules r').isSome
  | .put r => ¬ env.exits.contains c = true ∧ r = c ∧ (slotOf rules c).isSome ∧
      ((stripReverse env c).bind fun r' => slotOf rules r') = none

end Annet.Device
