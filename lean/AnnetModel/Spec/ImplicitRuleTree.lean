/-
The hypotheses of `C17_idempotent` that speak of the whole tree of implicit rules: a Boolean test holds of a rule list and
of the children of every rule in it (`Deep`), for sibling rows being distinct and for every row being a line of its own
language.  Decidable, so that a concrete rule set is checked by evaluation.
-/
import AnnetModel.Spec.Implicit

namespace Annet.Implicit.Lemmas
open Annet Annet.Implicit Annet.Implicit.Spec Annet.Pattern

mutual
  def deepL (P : List IRule → Bool) : List IRule → Bool
    | [] => true
    | r :: rest => deepR P r && deepL P rest
  def deepR (P : List IRule → Bool) : IRule → Bool
    | .mk _ _ ch => P ch && deepL P ch
end

/-- `P` holds of the rule list and, recursively, of the children of every rule in it (decidable) -/
def Deep (P : List IRule → Bool) (rules : List IRule) : Prop := (P rules && deepL P rules) = true

instance (P : List IRule → Bool) (rules : List IRule) : Decidable (Deep P rules) := by
  unfold Deep; infer_instance

instance (rules : List IRule) : Decidable (RowsDistinct rules) := by
  unfold RowsDistinct; infer_instance

/-- sibling rule rows are pairwise distinct at every level of the rule tree
(`RowsDistinct` only speaks about the top level) -/
def DeepDistinct (rules : List IRule) : Prop := Deep (fun rs => decide (RowsDistinct rs)) rules

/-- every rule row is a line of its own language, at every level of the rule tree: the default line a rule
adds is recognised by that rule on the next run.  Holds for every grammar row without the `(?i)` flag. -/
def SelfMatch (rules : List IRule) : Prop := Deep (fun rs => rs.all fun r => rowMatches r r.row == some true) rules

instance (rules : List IRule) : Decidable (DeepDistinct rules) := by unfold DeepDistinct; infer_instance
instance (rules : List IRule) : Decidable (SelfMatch rules) := by unfold SelfMatch; infer_instance

end Annet.Implicit.Lemmas
