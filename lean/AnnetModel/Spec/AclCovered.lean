/-
What C02 clause (a) says of a diff that `apply_acl_diff` has filtered: `Covered`, the ACL matches the row of every entry at
the rules reached along its path; `aclCovers`, the same test for one row at one level.  Specification only.
-/
import AnnetModel.Model.AclDiff

namespace Annet.AclDiff.Lemmas
open Annet Annet.Diff Annet.AclDiff

/-- every entry of an ACL-filtered diff has its row matched by the ACL at the rules reached along its path and, if the
entry is REMOVED, the selected match is not cant_delete-only -/
inductive Covered (v : Acl.Vendor) : Acl.Rules → List DItem → Prop
  | nil (rules : Acl.Rules) : Covered v rules []
  | cons {rules cr : Acl.Rules} {am : Acl.Match} {i : DItem} {rest : List DItem} :
      Acl.matchRowToAcl v i.row rules false = .ok (some (am, cr)) → Covered v cr i.children →
      (i.op = .removed → am.rule.cantDelete.all id = false) →
      Covered v rules rest → Covered v rules (i :: rest)

end Annet.AclDiff.Lemmas

namespace Annet.AclDiff.OutsideFlat
open Annet

/-- `match_row_to_acl(row, acl)` returns a match at this level -/
def aclCovers (av : Acl.Vendor) (acl : Acl.Rules) (row : String) : Bool :=
  match Acl.matchRowToAcl av row acl false with
  | .ok (some _) => true
  | _ => false

end Annet.AclDiff.OutsideFlat
