/-
Words of the C09 deploy statements: the list relation that pairs each command path with the command sent for it,
`(cmd, level)` of a command path, and the test that the `%apply_logic` table holds no commit command where committing is
disabled.
-/
import AnnetModel.Model.Deploy
import AnnetModel.Spec.Forall2

namespace Annet.Deploy.Lemmas
open Annet.Deploy
open Annet.Format (Ctx)

/-- `(cmd, level)` of a command path: `Format.depthLast` with the components swapped -/
def pathCmd (p : List String × Ctx) : String × Nat := (p.1.getLast?.getD "", p.1.length - 1)

/-- no table entry with `do_commit = false` holds a commit command -/
def tabNoCommit (tab : ApplyTab) : Bool :=
  tab.all fun e => e.doCommit || match e.result with
    | none => true
    | some (b, a) => (b ++ a).all fun c => !isCommitCmd c.cmd

end Annet.Deploy.Lemmas
