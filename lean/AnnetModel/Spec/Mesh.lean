/-
The words of the C15 merge-law statements (`annet/mesh/basemodel.py`): when two results of a merge count as the same
(`RE`; `Equiv`: Python equality of sets and dicts, `Concat` fields up to order), and which merger tables and values the
laws are about (`WF`, `Sym`, `SymD`, `DictFree`; `Val.WFd`: dicts have distinct keys).
-/
import AnnetModel.Model.Mesh

namespace Annet.Mesh

/-- Both fail, or both succeed with related values (which error is raised is not compared:
every `MergeForbiddenError` becomes the same `ValueError` in the executor). -/
def RE {ε α : Type} (R : α → α → Prop) : Except ε α → Except ε α → Prop
  | .ok a, .ok b => R a b
  | .error _, .error _ => True
  | _, _ => False

def OptRel {α : Type} (R : α → α → Prop) : Option α → Option α → Prop
  | none, none => True
  | some a, some b => R a b
  | _, _ => False

/-! ### Equivalence of values "up to what a merger cannot distinguish"

`Equiv m x y`: equal, except that Python sets are compared as sets, and a `Concat` field is
compared up to the order of its elements (recursively through `Merge()` fields), and
`DictMerge` dicts as Python dicts: same keys, equivalent values, insertion order ignored. -/

def leafEqv : Val → Val → Prop
  | .set a, .set b => ∀ s, s ∈ a ↔ s ∈ b
  | x, y => x = y

def seqPermEqv : Val → Val → Prop
  | .seq a, .seq b => a.Perm b
  | x, y => x = y

def modelEqv (R : Fields → Fields → Prop) : Val → Val → Prop
  | .model a, .model b => R a b
  | x, y => x = y

def dictEqv (R : Val → Val → Prop) : Val → Val → Prop
  | .dict a, .dict b => ∀ k : String, OptRel R (lookup k a) (lookup k b)
  | x, y => x = y

mutual
  def Equiv : Merger → Val → Val → Prop
    | .concat, x, y => seqPermEqv x y
    | .merge t, x, y => modelEqv (EquivFields t) x y
    | .dictMerge vm, x, y => dictEqv (Equiv vm) x y
    | .forbidChange, x, y => leafEqv x y
    | .useFirst, x, y => leafEqv x y
    | .useLast, x, y => leafEqv x y
    | .forbid, x, y => leafEqv x y
    | .unite, x, y => leafEqv x y
  def EquivFields : Table → Fields → Fields → Prop
    | [], _, _ => True
    | (f, m) :: t, a, b => OptRel (Equiv m) (lookup f a) (lookup f b) ∧ EquivFields t a b
end

def keys {κ α : Type} (l : List (κ × α)) : List κ := l.map (·.1)

mutual
  /-- every `_field_mergers` dict has distinct keys (it is a Python dict) -/
  def Merger.WF : Merger → Prop
    | .merge t => (keys t).Nodup ∧ Table.WF t
    | .dictMerge vm => vm.WF
    | _ => True
  def Table.WF : Table → Prop
    | [] => True
    | (_, m) :: t => m.WF ∧ Table.WF t
end

mutual
  /-- no `UseFirst`/`UseLast` (order-dependent by definition) and no `DictMerge` anywhere (so `Sym` implies
  `DictFree`, and `SymD`) -/
  def Merger.Sym : Merger → Prop
    | .useFirst => False
    | .useLast => False
    | .dictMerge _ => False
    | .merge t => Table.Sym t
    | _ => True
  def Table.Sym : Table → Prop
    | [] => True
    | (_, m) :: t => m.Sym ∧ Table.Sym t
end

mutual
  /-- no `DictMerge` anywhere: every value is then in the domain `Val.WFd` (`WFd_of_dictFree`) -/
  def Merger.DictFree : Merger → Prop
    | .dictMerge _ => False
    | .merge t => Table.DictFree t
    | _ => True
  def Table.DictFree : Table → Prop
    | [] => True
    | (_, m) :: t => m.DictFree ∧ Table.DictFree t
end

mutual
  /-- every dict found at a `DictMerge` position has distinct keys -/
  def Val.WFd : Merger → Val → Prop
    | .dictMerge vm, .dict kvs => (keys kvs).Nodup ∧ ∀ (k : String) (v : Val), lookup k kvs = some v → Val.WFd vm v
    | .merge t, .model fs => WFdFields t fs
    | _, _ => True
  def WFdFields : Table → Fields → Prop
    | [], _ => True
    | (f, m) :: t, fs => (∀ v, lookup f fs = some v → Val.WFd m v) ∧ WFdFields t fs
end

mutual
  /-- no `UseFirst`/`UseLast` anywhere (`DictMerge` allowed) -/
  def Merger.SymD : Merger → Prop
    | .useFirst => False
    | .useLast => False
    | .dictMerge vm => vm.SymD
    | .merge t => Table.SymD t
    | _ => True
  def Table.SymD : Table → Prop
    | [] => True
    | (_, m) :: t => m.SymD ∧ Table.SymD t
end

end Annet.Mesh
