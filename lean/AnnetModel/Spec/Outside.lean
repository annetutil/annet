/-
The words of C02 clause (b), "an uncovered line is untouched": which slot a command addresses, the rulebook hypotheses of a
level, the commands a patch sends at its top level, the lines of a slot (and the subtree) below a block path of the
device, and when a diff stays outside such a slot.  Specification only.
-/
import AnnetModel.Spec.ConvergeNested
import AnnetModel.Spec.AclCovered

namespace Annet.AclDiff.OutsideFlat
open Annet Annet.Rules Annet.Diff Annet.Device Annet.Device.Abs

/-- the row `c`, sent as a command, addresses slot `s`: it is a line of the slot, or the device reads it as the removal
of the line of the slot.  (The second case is needed: with the negation word `no`, the configuration line `no shutdown`
of a rule `no shutdown` is read by the device as the removal of the slot of `shutdown`.) -/
def addresses (env : Env) (rules : PRules) (c : String) (s : Slot) : Bool :=
  slotOf rules c == some s || (stripReverse env c).bind (slotOf rules) == some s

/-- the device reads the removal command of a (rule, key) as the removal of that slot (C07's round trip at the level of
a whole rulebook; follows from `Converge.CmdsOK`) -/
def ReverseInSlot (pv : Vendor) (env : Env) (rules : PRules) : Prop :=
  ∀ row m cr, classify rules row = some (m, cr) → ∀ c, Patch.reverseCmd pv m.attrs m.key = some c →
    ∃ r', stripReverse env c = some r' ∧ slotOf rules r' = some (m.rawRule, m.key)

/-- the raw rule text determines the rule row (rulebooks are dicts keyed by the raw text; `make_pre` takes the parameters
of the first entry of a raw rule) -/
def RawDetRow (rules : PRules) : Prop :=
  ∀ r ∈ rules.loc ++ rules.glob, ∀ r' ∈ rules.loc ++ rules.glob, r.rawRule = r'.rawRule → r.attrs.row = r'.attrs.row

/-- no `%force_commit` rule at this level: the `commit` pseudo command is never sent -/
def NoForceCommit (rules : PRules) : Prop := ∀ r ∈ rules.loc ++ rules.glob, r.attrs.forceCommit = false

instance (rules : PRules) : Decidable (RawDetRow rules) := by unfold RawDetRow; infer_instance
instance (rules : PRules) : Decidable (NoForceCommit rules) := by unfold NoForceCommit; infer_instance

def leafCmds (p : Patch.PTree) : List String :=
  p.items.filterMap fun it =>
    match it.2.1 with
    | none => some it.1
    | some _ => none

def topCmds (p : Patch.PTree) : List String := p.items.map (·.1)

/-- the ACL is closed on slot `s`: no top-level line of the two configurations that the ACL matches addresses `s`
(a hypothesis on the INPUT only) -/
def AclSlotClosed (av : Acl.Vendor) (acl : Acl.Rules) (env : Env) (rules : PRules) (old new : Cfg) (s : Slot) : Prop :=
  ∀ e ∈ old.kids ++ new.kids, aclCovers av acl e.1 = true → addresses env rules e.1 s = false

instance (av : Acl.Vendor) (acl : Acl.Rules) (env : Env) (rules : PRules) (old new : Cfg) (s : Slot) :
    Decidable (AclSlotClosed av acl env rules old new s) := by unfold AclSlotClosed; infer_instance

/-- no `%rewrite` rule at this level (the device drops the lines such rules own when it first sees one of their
commands, whatever their slot) -/
def NoRewrite (rules : PRules) : Prop := ∀ r ∈ rules.loc ++ rules.glob, r.attrs.logic ≠ "common.rewrite"

instance (rules : PRules) : Decidable (NoRewrite rules) := by unfold NoRewrite; infer_instance

end Annet.AclDiff.OutsideFlat

namespace Annet.AclDiff.OutsideNested
open Annet Annet.Rules Annet.Diff Annet.Device Annet.Device.Abs
open Annet.AclDiff.OutsideFlat

/-- the lines of slot `s` below the block path `p` of a device level (at each level: the first line with that text) -/
def slotLinesAt : PRules → List (String × Cfg) → List String → Slot → Option (List (String × Cfg))
  | rules, kids, [], s => some (kids.filter fun e => slotOf rules e.1 == some s)
  | rules, kids, r :: p, s =>
    match classify rules r, kids.find? (fun e => e.1 == r) with
    | some (_, cr), some e => slotLinesAt cr e.2.kids p s
    | _, _ => none

/-- the subtree below the row path `p` of a device level (at each level: the first line with that text) -/
def subtreeAt : List (String × Cfg) → List String → Option Cfg
  | kids, [] => some (.mk kids)
  | kids, r :: p =>
    match kids.find? (fun e => e.1 == r) with
    | some e => subtreeAt e.2.kids p
    | none => none

/-- the diff `d` (entries of one level, with their children) stays outside slot `s` below the block path `p`:
at the last level no entry addresses `s`; above, the entries addressing the slot of the block `r` are entries of the
line `r` itself that do not remove it, whose children stay outside below -/
def Outside (env : Env) : PRules → List DItem → List String → Slot → Prop
  | rules, d, [], s => ∀ e ∈ d, addresses env rules e.row s = false
  | rules, d, r :: p, s =>
    match classify rules r with
    | none => False
    | some (m, cr) =>
      ∀ e ∈ d, addresses env rules e.row (m.rawRule, m.key) = true →
        e.row = r ∧ e.op ≠ .removed ∧ e.op ≠ .moved ∧
        (stripReverse env r).bind (slotOf rules) ≠ some (m.rawRule, m.key) ∧
        Outside env cr e.children p s

instance decOutside (env : Env) : ∀ (p : List String) (rules : PRules) (d : List DItem) (s : Slot),
    Decidable (Outside env rules d p s)
  | [], rules, d, s => by unfold Outside; infer_instance
  | r :: p, rules, d, s => by
    unfold Outside
    have := fun cr d => decOutside env p cr d s
    split <;> infer_instance

/-- the rulebook hypotheses of one level (`ReverseInSlot`, `RawDetRow`, `NoForceCommit` or `commit` harmless for the slot
in question) at every rule set reached along `p` -/
def PathOK (pv : Vendor) (env : Env) : PRules → List String → Slot → Prop
  | rules, [], s =>
    ReverseInSlot pv env rules ∧ RawDetRow rules ∧ (NoForceCommit rules ∨ addresses env rules "commit" s = false)
  | rules, r :: p, s =>
    match classify rules r with
    | none => False
    | some (m, cr) =>
      ReverseInSlot pv env rules ∧ RawDetRow rules ∧
      (NoForceCommit rules ∨ addresses env rules "commit" (m.rawRule, m.key) = false) ∧
      PathOK pv env cr p s

/-- the rules reached along the block path `p` -/
def rulesAt : PRules → List String → Option PRules
  | rules, [] => some rules
  | rules, r :: p =>
    match classify rules r with
    | some (_, cr) => rulesAt cr p
    | none => none

end Annet.AclDiff.OutsideNested
