/-
The one word of C20's statements that is not in the model: how the results of the items of a job follow one another
(`C20_items_independent`).
-/
import AnnetModel.Model.Effects

namespace Annet.Effects
open Annet Annet.Rules Annet.Diff

/-- results of independent calls, put one after the other the way an exception cuts a loop short -/
def seqOut : List (List Emit × Option Err) → List Emit × Option Err
  | [] => ([], none)
  | (es, some e) :: _ => (es, some e)
  | (es, none) :: rest => (es ++ (seqOut rest).1, (seqOut rest).2)

end Annet.Effects
