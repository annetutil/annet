/-
The words of the C15 executor statements (`annet/mesh/executor.py`, `registry.py`): when two pairs or pair dicts count as
the same, what one handler application gives at the two ends of a session, the handler applications between two devices
and the pairs they produce, the hypothesis `KeyCompat` under which sessions are mirrored, and the interface decision table.
-/
import AnnetModel.Spec.Mesh
import AnnetModel.Model.MeshExec

namespace Annet.Mesh

def PairEqv (dto : Table) (p q : Pair) : Prop :=
  EquivFields dto p.loc q.loc ∧ EquivFields dto p.connected q.connected ∧ p.device = q.device ∧ p.ports = q.ports

/-- two pair dicts agree key by key up to `PairEqv` (the order of the keys = order of the peers list
is not compared) -/
def StateEqv (dto : Table) (a b : PairState) : Prop := ∀ k, OptRel (PairEqv dto) (lookup k a) (lookup k b)

/-- what the two ends compute from one handler application: `none` on both, or the same two DTOs
with `local`/`connected` exchanged -/
def OptMirror : Option Pair → Option Pair → Prop
  | none, none => True
  | some p, some q => q.loc = p.connected ∧ q.connected = p.loc
  | _, _ => False

/-- the matches of one rule for `(device, n)`: the body of the loops of `lookup_direct` -/
def orient (device n : String) (r : DirectRule) : List MatchedDirect :=
  (if r.isMatch device n then [⟨r, true, device, n⟩] else []) ++
  (if r.isMatch n device then [⟨r, false, n, device⟩] else [])

/-- all handler applications of `device` towards the neighbour `n` -/
def itemsFor (st : Storage) (rules : List DirectRule) (device n : String) : List DirectItem :=
  rules.flatMap fun r => (orient device n r).flatMap (directItems st device)

/-- the pairs the handler applications between `a` and `b` produce at `a` (before grouping by key) -/
def directPairs (dto : Table) (st : Storage) (rules : List DirectRule) (a b : String) : List Pair :=
  (itemsFor st rules a b).filterMap fun item => match item with
    | .app r o nb g all => (match executeDirectPair dto a nb r o g all with
        | .ok (some p) => some p
        | _ => none)
    | .missing => none

/-- Both ends file the handler results of the pair under their keys in the same way: two results get
the same key at `a` (remote address and vrf) iff they get the same key at `b` (`a`'s address and vrf).
It holds, e.g., when every application gives each side one address per vrf. -/
def KeyCompat (dto : Table) (st : Storage) (rules : List DirectRule) (a b : String) : Prop :=
  ∀ p1 ∈ directPairs dto st rules a b, ∀ p2 ∈ directPairs dto st rules a b, ∀ k1 k2 k1' k2',
    peerKey b p1.connected = .ok k1 → peerKey b p2.connected = .ok k2 →
    peerKey a p1.loc = .ok k1' → peerKey a p2.loc = .ok k2' → (k1 = k2 ↔ k1' = k2')

def orientI (device n : String) (r : IndirectRule) : List MatchedIndirect :=
  (if r.isMatch device n then [⟨r, true, device, n⟩] else []) ++
  (if r.isMatch n device then [⟨r, false, n, device⟩] else [])

def itemsForI (rules : List IndirectRule) (device n : String) : List MatchedIndirect :=
  rules.flatMap (orientI device n)

def indirectPairs (dto : Table) (rules : List IndirectRule) (a b : String) : List Pair :=
  (itemsForI rules a b).filterMap fun mp =>
    match executeIndirectPair dto a b mp.rule mp.directOrder with
    | .ok (some p) => some p
    | _ => none

def KeyCompatI (dto : Table) (rules : List IndirectRule) (a b : String) : Prop :=
  ∀ p1 ∈ indirectPairs dto rules a b, ∀ p2 ∈ indirectPairs dto rules a b, ∀ k1 k2 k1' k2',
    peerKey b p1.connected = .ok k1 → peerKey b p2.connected = .ok k2 →
    peerKey a p1.loc = .ok k1' → peerKey a p2.loc = .ok k2' → (k1 = k2 ↔ k1' = k2')

/-- the interface `_apply_direct_interface_changes` selects, as a decision table over `(lag, subif, svi, first processed
port)`; `none` = it raises -/
def directIfaceTable (st : Storage) (portPairs : PortPairs) (ch : IfChanges) : Option String :=
  if portPairs.length > 1 ∧ ch.lag = none ∧ ch.svi = none then none
  else match ch.lag, ch.subif, ch.svi, portPairs with
    | some lag, some sub, _, _ => some (st.subifName (st.lagName lag) sub)
    | some lag, none, _, _ => some (st.lagName lag)
    | none, some sub, _, p :: _ => some (st.subifName p.1 sub)
    | none, some _, _, [] => none
    | none, none, some svi, _ => some (st.sviName svi)
    | none, none, none, p :: _ => some p.1
    | none, none, none, [] => none

end Annet.Mesh
