/-
What C12's statements observe of a state of the pool, beyond the model's own fields: which slots are live or have exited,
the results each part of the world answers for (`Worker.flight`, `PC.gotL`, `inflight`), the ids and STOPs still queued,
and the entries `Parallel.run` files for a result.
-/
import AnnetModel.Model.Pool

namespace Annet.Pool

def W.holding : W → List Id
  | .busy _ id => [id]
  | _ => []

/-- The slot's current process has not consumed a STOP (and, if it retired with code 9,
has not been replaced yet). -/
def W.live : W → Bool
  | .idle _ => true
  | .busy _ _ => true
  | .retiring => true
  | .exited .nine => true
  | _ => false

def W.isExited : W → Bool
  | .exited _ => true
  | _ => false

/-- The results a slot answers for: buffered, or being computed. -/
def Worker.flight (c : Cfg) (w : Worker) : List Res := w.buf ++ w.st.holding.map c.res

def taskIds : List Task → List Id
  | [] => []
  | .invoke id :: q => id :: taskIds q
  | .stop :: q => taskIds q

def stops : List Task → Nat
  | [] => 0
  | .invoke _ :: q => stops q
  | .stop :: q => stops q + 1

/-- The result the parent has taken from the pipe and not yet yielded (or raised). -/
def PC.gotL : PC → List Res
  | .check (some r) _ _ => [r]
  | .post (some r) _ => [r]
  | .aborted r => [r]
  | _ => []

/-- Everything that is neither delivered nor dropped. -/
def inflight (c : Cfg) (s : State) : List Res :=
  s.pc.gotL ++ s.doneQ ++ s.ws.flatMap (Worker.flight c) ++ (taskIds s.taskQ).map c.res

/-- A task whose failure aborts a single-process run. -/
def Cfg.fatal (c : Cfg) (id : Id) : Bool := (c.out id).isExc && !c.tolerate

/-- The entry `Parallel.run` files in `success` (`okOf`) or `fail` (`excOf`) for a result. -/
def okOf (r : Res) : Option (Id × Int) := match r.out with | .ok v => some (r.id, v) | .exc _ _ => none
def excOf (r : Res) : Option (Id × Nat) := match r.out with | .ok _ => none | .exc e _ => some (r.id, e)

end Annet.Pool
