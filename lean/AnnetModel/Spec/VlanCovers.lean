/-
A list of ranges covering an id: the one word of C11's statements that is neither in the model nor in `Spec/VlanDev`.
-/

namespace Annet.Vlan.Lemmas

/-- some range of `rs` contains `x` -/
def Covers (rs : List (Nat × Nat)) (x : Nat) : Prop := ∃ r ∈ rs, r.1 ≤ x ∧ x ≤ r.2

end Annet.Vlan.Lemmas
