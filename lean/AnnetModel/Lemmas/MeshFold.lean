/-
Insertion-ordered dicts filled by "merge into the entry of this key"
(`upsertWith`), as used by `DictMerge._merge` and by the `peers[peer_key]` dicts of the executor.

`upsertWith` computes the new entry from the old one and then sets it like `Assoc.upsert` (`upsertWith_eq`); the
loop is therefore key-wise (`groupFold_keywise`).  Everything here is generic in the key type, the value type
and the (partial) merge operation.
-/
import AnnetModel.Lemmas.Mesh

namespace Annet.Mesh

section Generic
variable {κ α ε : Type} [DecidableEq κ]

/-- the history of one key: `merge(merge(v1, v2), v3) …` starting from the current entry -/
def foldKey (f : α → α → Except ε α) (o : Option α) (vs : List α) : Except ε (Option α) :=
  (vs.map some).foldlM (optOp f) o

/-- `for k, v in items: d[k] = merge(d[k], v) if k in d else v` -/
def groupFold (f : α → α → Except ε α) (s : List (κ × α)) (items : List (κ × α)) : Except ε (List (κ × α)) :=
  items.foldlM (fun acc kv => upsertWith f kv.1 kv.2 acc) s

def valuesOf (k : κ) (items : List (κ × α)) : List α := items.filterMap fun kv => if kv.1 = k then some kv.2 else none

theorem upsertWith_eq (f : α → α → Except ε α) (k : κ) (v : α) (s : List (κ × α)) :
    upsertWith f k v s = (optOp f (lookup k s) (some v)).map fun o => Assoc.upsert k (o.getD v) s := by
  induction s with
  | nil => rfl
  | cons p s ih =>
    obtain ⟨k', w⟩ := p
    by_cases h : k' = k
    · subst h
      simp only [upsertWith, lookup, Assoc.upsert, if_true, optOp]
      cases f w v <;> rfl
    · simp only [upsertWith, lookup, Assoc.upsert, if_neg h, ih]
      cases optOp f (lookup k s) (some v) <;> rfl

theorem upsertWith_ok {f : α → α → Except ε α} {k : κ} {v : α} {s s' : List (κ × α)}
    (h : upsertWith f k v s = .ok s') : ∃ r, optOp f (lookup k s) (some v) = .ok (some r) ∧ s' = Assoc.upsert k r s := by
  rw [upsertWith_eq] at h
  obtain ⟨o, ho, rfl⟩ := map_ok_iff.mp h
  cases hl : lookup k s with
  | none => rw [hl] at ho; cases ho; exact ⟨v, rfl, rfl⟩
  | some w =>
    rw [hl] at ho
    obtain ⟨r, _, rfl⟩ := map_ok_iff.mp ho
    exact ⟨r, ho, rfl⟩

theorem upsertWith_keys (f : α → α → Except ε α) (k : κ) (v : α) {s s' : List (κ × α)}
    (h : upsertWith f k v s = .ok s') : keys s' = if k ∈ keys s then keys s else keys s ++ [k] := by
  obtain ⟨r, _, rfl⟩ := upsertWith_ok h
  exact Assoc.keys_upsert k r s

theorem upsertWith_nodup (f : α → α → Except ε α) (k : κ) (v : α) {s s' : List (κ × α)}
    (h : upsertWith f k v s = .ok s') (hnd : (keys s).Nodup) : (keys s').Nodup := by
  obtain ⟨r, _, rfl⟩ := upsertWith_ok h
  exact Assoc.nodup_upsert k r hnd

theorem upsertWith_keywise (f : α → α → Except ε α) (k : κ) (v : α) {s : List (κ × α)} (hs : (keys s).Nodup) :
    Keywise (fun k' s => lookup k' s) (fun s => (keys s).Nodup) (upsertWith f k v s)
      (fun k' => if k = k' then optOp f (lookup k' s) (some v) else .ok (lookup k' s)) where
  ok := fun s' h => by
    refine ⟨upsertWith_nodup f k v h hs, fun k' => ?_⟩
    obtain ⟨r, hr, rfl⟩ := upsertWith_ok h
    rw [lookup_eq k' (Assoc.upsert k r s), Assoc.lookup_upsert, ← lookup_eq]
    split
    · next e => rw [← e, hr]
    · rfl
  err := fun e h => by
    rw [upsertWith_eq] at h
    cases ho : optOp f (lookup k s) (some v) with
    | error e' => exact ⟨k, e', by rw [if_pos rfl, ho]⟩
    | ok o => rw [ho] at h; cases h

theorem foldKey_cons (f : α → α → Except ε α) (o : Option α) (v : α) (vs : List α) :
    foldKey f o (v :: vs) = optOp f o (some v) >>= fun o' => foldKey f o' vs := by
  simp only [foldKey, List.map_cons, List.foldlM_cons]

theorem groupFold_cons (f : α → α → Except ε α) (s : List (κ × α)) (kv : κ × α) (items : List (κ × α)) :
    groupFold f s (kv :: items) = upsertWith f kv.1 kv.2 s >>= fun s1 => groupFold f s1 items := by
  simp [groupFold, List.foldlM_cons]

theorem valuesOf_cons_self (k : κ) (v : α) (items : List (κ × α)) :
    valuesOf k ((k, v) :: items) = v :: valuesOf k items := by
  simp [valuesOf]

theorem valuesOf_cons_ne {k k' : κ} (h : k' ≠ k) (v : α) (items : List (κ × α)) :
    valuesOf k ((k', v) :: items) = valuesOf k items := by
  simp [valuesOf, h]

/-- under every key, the left fold of the merge over the values filed under that key, in order; the loop raises exactly
when one of these folds does; the keys stay distinct -/
theorem groupFold_keywise (f : α → α → Except ε α) (s : List (κ × α)) (hs : (keys s).Nodup) (items : List (κ × α)) :
    Keywise (fun k s => lookup k s) (fun s => (keys s).Nodup) (groupFold f s items)
      (fun k => foldKey f (lookup k s) (valuesOf k items)) := by
  induction items generalizing s with
  | nil => exact ⟨fun r h => by cases h; exact ⟨hs, fun _ => rfl⟩, fun e h => nomatch h⟩
  | cons kv items ih =>
    obtain ⟨k0, v0⟩ := kv
    rw [groupFold_cons]
    have K := (upsertWith_keywise f k0 v0 hs).bind (G := fun k o => foldKey f o (valuesOf k items)) fun r hr => ih r hr
    have e : (fun k => (if k0 = k then optOp f (lookup k s) (some v0) else .ok (lookup k s)) >>= fun o =>
        foldKey f o (valuesOf k items)) = fun k => foldKey f (lookup k s) (valuesOf k ((k0, v0) :: items)) :=
      funext fun k => by
        by_cases hk : k0 = k
        · rw [if_pos hk, hk, valuesOf_cons_self, foldKey_cons]
        · rw [if_neg hk, valuesOf_cons_ne hk, ok_bind]
    exact e ▸ K

end Generic

theorem foldKey_hom_ok {α β ε : Type} {f : α → α → Except ε α} {g : β → β → Except ε β} (h : α → β)
    (hh : ∀ a b r, f a b = .ok r → g (h a) (h b) = .ok (h r)) :
    ∀ (l : List α) (o o' : Option α), foldKey f o l = .ok o' → foldKey g (o.map h) (l.map h) = .ok (o'.map h) := by
  intro l
  induction l with
  | nil => intro o o' hf; cases hf; rfl
  | cons v vs ih =>
    intro o o' hf
    obtain ⟨o1, h1, h2⟩ := Except.bind_eq_ok.mp hf
    refine Except.bind_eq_ok.mpr ⟨o1.map h, ?_, ih o1 o' h2⟩
    cases o with
    | none => cases h1; rfl
    | some a =>
      obtain ⟨r, hfa, rfl⟩ := map_ok_iff.mp h1
      exact map_ok_iff.mpr ⟨h r, hh a v r hfa, rfl⟩

end Annet.Mesh
