/-
`PatchTree.sort` (`sortTree`): one level is `sortItem` on every item, then the stable sort by key (`sortItems_eq_map`).
Sorting permutes the command paths at every depth (`sortTree_paths_perm`) and is idempotent (`sortTree_idempotent`: the items
of a sorted level are items that `sortItem` leaves alone).
-/
import AnnetModel.Lemmas.Sort

namespace Annet.Patch.Lemmas
open Annet Annet.Patch Annet.Patch.Spec

/-- the comparison `PatchTree.sort` uses -/
abbrev itemLt (a b : String × Option PTree × SortKey) : Bool := a.2.2.lt b.2.2

theorem itemLt_strictWeak : StrictWeak itemLt :=
  strictWeak_comap (fun a : String × Option PTree × SortKey => a.2.2) sortKey_strictWeak

def sortItem : String × Option PTree × SortKey → String × Option PTree × SortKey
  | (row, none, k) => (row, none, k)
  | (row, some c, k) => (row, some (sortTree c), k)

theorem sortItems_eq_map (l : List (String × Option PTree × SortKey)) : sortItems l = l.map sortItem := by
  induction l with
  | nil => simp [sortItems]
  | cons a rest ih =>
    obtain ⟨row, c, k⟩ := a
    cases c <;> simp [sortItems, sortItem, ih]

theorem sortItem_sortKey (t : String × Option PTree × SortKey) : (sortItem t).2.2 = t.2.2 := by
  obtain ⟨r, c, k⟩ := t
  cases c <;> rfl

def itemPaths : String × Option PTree × SortKey → List (List String)
  | (row, none, _) => [[row]]
  | (row, some c, _) => [row] :: (ptPaths c).map (row :: ·)

theorem ptPathsL_eq_flatMap (l : List (String × Option PTree × SortKey)) : ptPathsL l = l.flatMap itemPaths := by
  induction l with
  | nil => simp [ptPathsL]
  | cons a rest ih =>
    obtain ⟨row, c, k⟩ := a
    cases c <;> simp [ptPathsL, itemPaths, ih]

mutual
  theorem sortTree_paths_perm : (t : PTree) → (ptPaths (sortTree t)).Perm (ptPaths t)
    | .mk items => by
      simp only [sortTree, ptPaths]
      refine List.Perm.trans ?_ (sortItems_paths_perm items)
      rw [ptPathsL_eq_flatMap, ptPathsL_eq_flatMap]
      exact (sort_perm _ _).flatMap_right _
  theorem sortItems_paths_perm : (l : List (String × Option PTree × SortKey)) →
      (ptPathsL (sortItems l)).Perm (ptPathsL l)
    | [] => by simp [sortItems]
    | (row, none, k) :: rest => by
      simp only [sortItems, ptPathsL]
      exact (sortItems_paths_perm rest).cons _
    | (row, some c, k) :: rest => by
      simp only [sortItems, ptPathsL]
      exact List.Perm.append (((sortTree_paths_perm c).map _).cons _) (sortItems_paths_perm rest)
end

mutual
  theorem sortTree_idempotent : (t : PTree) → sortTree (sortTree t) = sortTree t
    | .mk items => by
      simp only [sortTree]
      -- every item of the sorted list is an item of `sortItems items`, which `sortItem` leaves alone
      have fix : ∀ a ∈ stableSort itemLt (sortItems items), sortItem a = id a := fun a ha =>
        List.map_inj_left.mp (((sortItems_eq_map _).symm.trans (sortItems_idempotent items)).trans (List.map_id _).symm) a
          ((sort_perm _ _).mem_iff.mp ha)
      show PTree.mk (stableSort itemLt (sortItems (stableSort itemLt (sortItems items)))) = _
      rw [sortItems_eq_map (stableSort _ _), List.map_inj_left.mpr fix, List.map_id, sort_idempotent itemLt itemLt_strictWeak]
  theorem sortItems_idempotent : (l : List (String × Option PTree × SortKey)) →
      sortItems (sortItems l) = sortItems l
    | [] => by simp [sortItems]
    | (row, none, k) :: rest => by
      simp only [sortItems]
      rw [sortItems_idempotent rest]
    | (row, some c, k) :: rest => by
      simp only [sortItems]
      rw [sortItems_idempotent rest, sortTree_idempotent c]
end

theorem sortTree_nil : sortTree (.mk []) = .mk [] := by
  rw [sortTree, sortItems]; rfl

end Annet.Patch.Lemmas
