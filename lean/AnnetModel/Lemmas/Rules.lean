/-
Which rule of a patching rulebook a row instantiates: `matchRow` (annet's `_find_rules_matches` with `_select_match`)
and the device's reading of it, `classify`.

`matchRow.go` collects `hits`, every rule whose row pattern matches, with the key (`go_some`; `go_total`: it does not fail
on a level of parsable rules without `ignore`); the first hit is the match, so a classified row instantiates a rule of
the level with that rule's attributes (`classify_match`, `classify_rule`) and has a slot (`slotOf_isSome`).  The rules
that hit are a filter of the level (`ruleMatches`, `hits_map`); a local rule that matches makes the row known
(`classify_isSome_of_match`).  `matchOf` is the match of a row that has a slot, `crOf` the rules for its
children.
-/
import AnnetModel.Spec.DeviceAbs

namespace Annet.Device.Lemmas
open Annet Annet.Rules Annet.Device Annet.Device.Abs

theorem classify_eq_some {rules : PRules} {row : String} {m : PMatch} {cr : PRules} :
    classify rules row = some (m, cr) ↔ matchRow row rules = .found m cr := by
  unfold classify
  split <;> simp_all

/-- the matches `_find_rules_matches` collects when it neither fails nor meets a matching ignore rule: every rule whose
row matches, with the key -/
def hits (row : String) (l : List (PRule × Bool)) : List (PRule × Bool × List String) :=
  l.filterMap fun p => ((Pattern.parseRow false p.1.attrs.row.toList).bind (·.match? row.toList)).map
    fun key => (p.1, !p.2, key.map String.ofList)

theorem hits_cons (row : String) (p : PRule × Bool) (l : List (PRule × Bool)) :
    hits row (p :: l) = (((Pattern.parseRow false p.1.attrs.row.toList).bind (·.match? row.toList)).map
      fun key => (p.1, !p.2, key.map String.ofList)).toList ++ hits row l := by
  unfold hits
  rw [List.filterMap_cons]
  split <;> simp_all

theorem go_some (row : String) : ∀ (l : List (PRule × Bool)) (acc res : List (PRule × Bool × List String)),
    matchRow.go row l acc = some (some res) → res = acc.reverse ++ hits row l
  | [], acc, res, h => by
    simp only [matchRow.go, Option.some.injEq] at h
    simp [h, hits]
  | (r, isG) :: rest, acc, res, h => by
    simp only [matchRow.go] at h
    rw [hits_cons]
    split at h
    · cases h
    · rename_i pat hpat
      split at h
      · rename_i hm
        simp [go_some row rest acc res h, hpat, hm]
      · rename_i key hm
        split at h
        · cases h
        · simp [go_some row rest _ res h, hpat, hm]

theorem go_total (row : String) : ∀ (l : List (PRule × Bool)) (acc : List (PRule × Bool × List String)),
    (∀ p ∈ l, (Pattern.parseRow false p.1.attrs.row.toList).isSome ∧ p.1.ignore = false) →
    matchRow.go row l acc = some (some (acc.reverse ++ hits row l))
  | [], acc, _ => by simp [matchRow.go, hits]
  | (r, isG) :: rest, acc, h => by
    obtain ⟨hp, hi⟩ := h (r, isG) List.mem_cons_self
    obtain ⟨pat, hpat⟩ := Option.isSome_iff_exists.1 hp
    have ih := fun acc => go_total row rest acc fun p hp => h p (List.mem_cons_of_mem _ hp)
    simp only at hpat hi
    simp only [matchRow.go, hpat, hits_cons, Option.bind_some]
    cases hm : pat.match? row.toList with
    | none => simp [ih]
    | some key => simp [hi, ih]

theorem mem_hits {row : String} {l : List (PRule × Bool)} {x : PRule × Bool × List String} (h : x ∈ hits row l) :
    ∃ p ∈ l, x.1 = p.1 ∧ x.2.1 = !p.2 ∧ ∃ pat k, Pattern.parseRow false p.1.attrs.row.toList = some pat ∧
      pat.match? row.toList = some k ∧ x.2.2 = k.map String.ofList := by
  obtain ⟨p, hp, hx⟩ := List.mem_filterMap.1 h
  obtain ⟨k, hk, rfl⟩ := Option.map_eq_some_iff.1 hx
  obtain ⟨pat, hpat, hk⟩ := Option.bind_eq_some_iff.1 hk
  exact ⟨p, hp, rfl, rfl, pat, k, hpat, hk, rfl⟩

theorem classify_match {rules : PRules} {row : String} {m : PMatch} {cr : PRules}
    (h : classify rules row = some (m, cr)) :
    ∃ f, (f ∈ rules.loc ∨ f ∈ rules.glob) ∧ m.rawRule = f.rawRule ∧ m.attrs = f.attrs ∧
      ∃ pat k, Pattern.parseRow false f.attrs.row.toList = some pat ∧ pat.match? row.toList = some k ∧
        m.key = k.map String.ofList := by
  unfold classify at h
  split at h
  · rename_i m' cr' hm
    cases h
    unfold matchRow at hm
    simp only at hm
    split at hm
    · cases hm
    · cases hm
    · cases hm
    · rename_i f fcr fkey more hgo
      obtain ⟨p, hp, h2, -, pat, k, h3, h4, h5⟩ := mem_hits (x := (f, fcr, fkey))
        (by rw [← List.nil_append (hits _ _), ← List.reverse_nil, ← go_some _ _ _ _ hgo]; exact List.mem_cons_self)
      cases hm
      simp only at h2 h5
      subst h2
      refine ⟨p.1, ?_, rfl, rfl, pat, k, h3, h4, h5⟩
      rcases List.mem_append.1 hp with hp | hp
      · obtain ⟨q, hq, rfl⟩ := List.mem_map.1 hp
        exact Or.inl hq
      · obtain ⟨q, hq, rfl⟩ := List.mem_map.1 hp
        exact Or.inr hq
  · cases h

theorem classify_rule {rules : PRules} {row : String} {m : PMatch} {cr : PRules}
    (h : classify rules row = some (m, cr)) :
    ∃ f, (f ∈ rules.loc ∨ f ∈ rules.glob) ∧ m.rawRule = f.rawRule ∧ m.attrs = f.attrs := by
  obtain ⟨f, hf, h1, h2, -⟩ := classify_match h
  exact ⟨f, hf, h1, h2⟩

theorem slotOf_of_classify {rules : PRules} {c : String} {m : PMatch} {cr : PRules}
    (hcl : classify rules c = some (m, cr)) : slotOf rules c = some (m.rawRule, m.key) := by
  simp [slotOf, hcl]

theorem slotOf_isSome {rules : PRules} {c : String} :
    (slotOf rules c).isSome ↔ ∃ m cr, classify rules c = some (m, cr) := by
  unfold slotOf
  cases classify rules c with
  | none => simp
  | some mc => exact ⟨fun _ => ⟨mc.1, mc.2, rfl⟩, fun _ => rfl⟩

end Annet.Device.Lemmas

namespace Annet.ConvergeNested.Lemmas
open Annet Annet.Rules Annet.Device Annet.Device.Lemmas

variable {rules : PRules}

def crOf (rules : PRules) (row : String) : PRules := ((classify rules row).map (·.2)).getD default

theorem crOf_eq {row : String} {m : PMatch} {cr : PRules}
    (h : classify rules row = some (m, cr)) : crOf rules row = cr := by
  simp [crOf, h]

def ruleMatches (row : String) (r : PRule) : Bool :=
  (Pattern.parseRow false r.attrs.row.toList).any fun p => (p.match? row.toList).isSome

theorem hits_map (row : String) : ∀ l : List (PRule × Bool),
    (hits row l).map (fun x => (x.1, x.2.1)) = (l.filter fun p => ruleMatches row p.1).map fun p => (p.1, !p.2)
  | [] => rfl
  | p :: l => by
    rw [hits_cons, List.map_append, hits_map row l, List.filter_cons]
    unfold ruleMatches
    cases Pattern.parseRow false p.1.attrs.row.toList with
    | none => simp
    | some pat => cases hm : pat.match? row.toList <;> simp [hm]

end Annet.ConvergeNested.Lemmas

namespace Annet.ConvergeNested.Example
open Annet Annet.Rules Annet.Device Annet.Pattern
open Annet.Device.Lemmas (hits go_total)
open Annet.ConvergeNested.Lemmas (ruleMatches hits_map)

theorem classify_isSome_of_match {rules : PRules} {row : String} (hg : rules.glob = [])
    (hall : ∀ r ∈ rules.loc, (parseRow false r.attrs.row.toList).isSome ∧ r.ignore = false)
    {f : PRule} (hf : f ∈ rules.loc) (hm : ruleMatches row f = true) : (classify rules row).isSome := by
  have hres := go_total row (rules.loc.map (·, false) ++ rules.glob.map (·, true)) [] (by
    intro p hp
    rw [hg] at hp
    simp only [List.map_nil, List.append_nil, List.mem_map] at hp
    obtain ⟨q, hq, rfl⟩ := hp
    exact hall q hq)
  have hne : hits row (rules.loc.map (·, false) ++ rules.glob.map (·, true)) ≠ [] := by
    intro hnil
    have hs := congrArg (List.map fun x => (x.1, x.2.1)) hnil
    rw [hits_map, hg] at hs
    simp only [List.map_nil, List.append_nil, List.filter_map, List.map_map, List.map_eq_nil_iff] at hs
    have hmem : f ∈ rules.loc.filter ((fun p : PRule × Bool => ruleMatches row p.1) ∘ fun x => (x, false)) := by
      rw [List.mem_filter]; exact ⟨hf, hm⟩
    rw [hs] at hmem
    cases hmem
  unfold classify matchRow
  simp only [hres, List.reverse_nil, List.nil_append]
  cases hh : hits row (rules.loc.map (·, false) ++ rules.glob.map (·, true)) with
  | nil => exact (hne hh).elim
  | cons x xs => obtain ⟨a, b, c⟩ := x; rfl

end Annet.ConvergeNested.Example

namespace Annet.Converge.Lemmas
open Annet Annet.Rules Annet.Device Annet.Device.Abs

def matchOf (rules : PRules) (row : String) : PMatch := ((classify rules row).map (·.1)).getD default

theorem classify_matchOf {rules : PRules} {row : String} (h : (slotOf rules row).isSome) :
    ∃ cr, classify rules row = some (matchOf rules row, cr) := by
  obtain ⟨m, cr, hcl⟩ := Device.Lemmas.slotOf_isSome.1 h
  exact ⟨cr, by rw [matchOf, hcl]; rfl⟩

theorem matchOf_eq {rules : PRules} {row : String} {m : PMatch} {cr : PRules}
    (h : classify rules row = some (m, cr)) : matchOf rules row = m := by
  simp [matchOf, h]

theorem slotOf_matchOf {rules : PRules} {row : String} (h : (slotOf rules row).isSome) :
    slotOf rules row = some ((matchOf rules row).rawRule, (matchOf rules row).key) := by
  obtain ⟨cr, hcl⟩ := classify_matchOf h
  exact Device.Lemmas.slotOf_of_classify hcl

end Annet.Converge.Lemmas
