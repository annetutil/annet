/-
Equations and inversions of the C10 vocabulary (`Spec/Gen.lean`): `OwnOk` on a first item, `WFL` and `layoutL` on `++` and on
a block, what a successful `blockLayout` consists of.  Nothing here runs a generator or the parser.
-/
import AnnetModel.Spec.Gen

namespace Annet.Gen.Lemmas
open Annet Annet.Offside Annet.Gen.Spec

theorem ownOk_cons_blank (rest : List Item) : OwnOk (.blank :: rest) = OwnOk rest := rfl

theorem ownOk_cons_sectionEnd (rest : List Item) : OwnOk (.sectionEnd :: rest) = false := rfl

theorem ownOk_cons_text (k : Nat) (s : String) (rest : List Item) :
    OwnOk (.text k s :: rest) = (k == 0 && rest.all (· != .sectionEnd)) := rfl

theorem ownOk_noSE : (items : List Item) → OwnOk items = true → ∀ i ∈ items, i ≠ .sectionEnd
  | [], _ => nofun
  | .blank :: rest, h => List.forall_mem_cons.2 ⟨nofun, ownOk_noSE rest h⟩
  | .sectionEnd :: _, h => nomatch h
  | .text k s :: rest, h => by
    rw [ownOk_cons_text, Bool.and_eq_true, List.all_eq_true] at h
    simp only [bne_iff_ne] at h
    exact List.forall_mem_cons.2 ⟨nofun, h.2⟩

theorem layoutL_append (B : Nat) (a b : List LOp) : layoutL B (a ++ b) = layoutL B a ++ layoutL B b := by
  induction a with
  | nil => simp [layoutL]
  | cons x xs ih => simp [layoutL, ih, List.append_assoc]

theorem wfl_append (a b : List LOp) : WFL (a ++ b) = (WFL a && WFL b) := by
  induction a with
  | nil => simp [WFL]
  | cons x xs ih => simp [WFL, ih, Bool.and_assoc]

theorem wfl_block {hb : String} {w : Nat} {b : List LOp} (h : WFL [.block hb w b] = true) : 0 < w ∧ WFL b = true := by
  simpa [WFL, WF] using h

theorem headerOf_some {h hb : String} (hh : headerOf h = some hb) : ownItems h = [.text 0 hb] := by
  unfold headerOf at hh
  split at hh
  · rename_i body heq
    simp only [Option.some.injEq] at hh
    subst hh; exact heq
  · cases hh

theorem blockLayout_eq (toks : List Val) (ind : String) (body : Option (List LOp)) :
    blockLayout toks ind body =
      (joinToks toks).bind fun h => body.bind fun b => (headerOf h).bind fun hb =>
        if IndentOk ind then some [.block hb ind.length b] else none := by
  unfold blockLayout
  cases joinToks toks with
  | none => rfl
  | some h =>
    cases body with
    | none => rfl
    | some b =>
      simp only [Option.bind_some]
      cases headerOf h <;> rfl

theorem blockLayout_inv {toks : List Val} {ind : String} {body : Option (List LOp)} {lops : List LOp}
    (hl : blockLayout toks ind body = some lops) :
    ∃ h, joinToks toks = some h ∧ ∃ b, body = some b ∧ ∃ hb, headerOf h = some hb ∧ IndentOk ind = true ∧
      [.block hb ind.length b] = lops := by
  simpa only [blockLayout_eq, Option.bind_eq_some_iff, Option.ite_none_right_eq_some, Option.some.injEq] using hl

end Annet.Gen.Lemmas
