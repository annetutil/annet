/-
Worker pool (C12): absence of deadlock, the two potentials `mu` and `nu` behind termination of weakly fair runs,
and the fair run that follows a complete schedule.
-/
import AnnetModel.Lemmas.PoolInv

namespace Annet.Pool

theorem terminal_false_iff {s : State} : s.terminal = false ↔ s.pc ≠ .done ∧ s.pc.isAborted = false := by
  simp [State.terminal]

theorem parent_enabled {c : Cfg} {s : State} (hnt : s.terminal = false) : Enabled c s .parent := by
  obtain ⟨h1, h2⟩ := terminal_false_iff.mp hnt
  refine ⟨.parent, rfl, ?_⟩
  simp only [step, stepParent]
  cases hpc : s.pc with
  | get => cases s.doneQ <;> simp
  | check got todo ret =>
    cases todo with
    | nil => simp
    | cons i todo =>
      simp only
      split <;> simp
  | post got ret =>
    simp only
    split <;> simp
  | restart todo => cases todo <;> simp
  | done => exact absurd hpc h1
  | aborted r => simp [hpc, PC.isAborted] at h2

theorem taskQ_ne_nil_of_live {c : Cfg} {s : State} (hi : Inv c s) {i : Nat} {w : Worker}
    (hw : s.ws[i]? = some w) (hl : w.st.live = true) : s.taskQ ≠ [] := by
  intro hq
  have h1 := hi.stopsLive
  rw [hq] at h1
  simp only [stops] at h1
  have : 0 < s.ws.countP (fun w => w.st.live) :=
    List.countP_pos_iff.mpr ⟨w, List.mem_of_getElem? hw, hl⟩
  omega

theorem worker_enabled {c : Cfg} {s : State} (hi : Inv c s) (hnt : s.terminal = false)
    {i : Nat} {w : Worker} (hw : s.ws[i]? = some w) (hne : w.st.isExited = false) :
    Enabled c s (.worker i) := by
  obtain ⟨_, hab⟩ := terminal_false_iff.mp hnt
  obtain ⟨st, buf⟩ := w
  cases st with
  | idle d =>
    refine ⟨.take i, rfl, ?_⟩
    have hq := taskQ_ne_nil_of_live hi hw rfl
    simp only [step, hab, Bool.false_eq_true, if_false, stepWorker, hw]
    cases htq : s.taskQ with
    | nil => exact absurd htq hq
    | cons t q => cases t <;> simp
  | busy d id =>
    refine ⟨.finish i, rfl, ?_⟩
    simp [step, hab, stepWorker, hw]
  | retiring | stopping =>
    cases buf with
    | nil => refine ⟨.exit i, rfl, ?_⟩; simp [step, hab, stepWorker, hw]
    | cons r b =>
      refine ⟨.flush i, rfl, ?_⟩
      simp only [step, hab, Bool.false_eq_true, if_false, stepWorker, hw]
      split <;> simp
  | exited k => simp at hne

/-! The potential `mu`: every worker event and every restart lowers it (`mu_wstep`, `mu_restart`), no parent step raises
it.  The weights make each link lose at least 1: a queued task 6 → busy 5 → a buffered result 2 and at most a retiring
slot 2 → in the pipe 1 → taken 0; a queued STOP 2 → stopping 1 → exit code 0 at 0; retiring 2 → exit code 9 at 1 →
restarted 0. -/

def W.weight : W → Nat
  | .idle _ => 0
  | .busy _ _ => 5
  | .retiring => 2
  | .stopping => 1
  | .exited .nine => 1
  | .exited .zero => 0

def Task.weight : Task → Nat
  | .invoke _ => 6
  | .stop => 2

def Worker.weight (w : Worker) : Nat := w.st.weight + 2 * w.buf.length

def mu (s : State) : Nat :=
  (s.taskQ.map Task.weight).sum + (s.ws.map Worker.weight).sum + s.doneQ.length

@[simp] theorem W.weight_idle (d : Nat) : (W.idle d).weight = 0 := rfl
@[simp] theorem W.weight_busy (d : Nat) (id : Id) : (W.busy d id).weight = 5 := rfl
@[simp] theorem W.weight_retiring : W.retiring.weight = 2 := rfl
@[simp] theorem W.weight_stopping : W.stopping.weight = 1 := rfl
@[simp] theorem W.weight_nine : (W.exited .nine).weight = 1 := rfl
@[simp] theorem W.weight_zero : (W.exited .zero).weight = 0 := rfl
@[simp] theorem Task.weight_invoke (id : Id) : (Task.invoke id).weight = 6 := rfl
@[simp] theorem Task.weight_stop : Task.stop.weight = 2 := rfl

theorem W.weight_ite (p : Prop) [Decidable p] (d : Nat) :
    (if p then W.retiring else W.idle d).weight ≤ 2 := by split <;> simp

theorem mu_lt {s s' : State} {i : Nat} {w w' : Worker} (hws : s'.ws = s.ws.set i w') (hw : s.ws[i]? = some w)
    (h : (s'.taskQ.map Task.weight).sum + w'.weight + s'.doneQ.length
      < (s.taskQ.map Task.weight).sum + w.weight + s.doneQ.length) : mu s' < mu s := by
  have := sum_map_set w' Worker.weight hw
  simp only [mu, hws]
  omega

theorem WMove.weight {c : Cfg} {i : Nat} {e : Ev} {t : Option Task} {w w' : Worker} {out dr : List Res}
    (h : WMove c i e t w w' out dr) :
    w'.weight + out.length < w.weight + (t.toList.map Task.weight).sum := by
  cases h with
  | finish d =>
    have := W.weight_ite (c.quotaReached (d + 1) = true) (d + 1)
    simp only [Worker.weight, W.weight_busy, List.length_append, List.length_singleton, List.length_nil, Option.toList,
      List.map_nil, List.sum_nil]
    omega
  | _ => simp [Worker.weight]; try omega  -- the chain of weights above, one link each

theorem mu_wstep {c : Cfg} {s s' : State} {e : Ev} (hs : WStep c s e s') : mu s' < mu s := by
  obtain @⟨i, w, w', out, dr, t, q, hab, hw, hq, hm⟩ := hs
  refine mu_lt rfl hw ?_
  have := hm.weight
  simp only [hq, List.map_append, List.sum_append, List.length_append]
  omega

theorem mu_restart {c : Cfg} {s : State} {i : Nat} {todo : List Nat} (hi : Inv c s)
    (hpc : s.pc = .restart (i :: todo)) : mu { s.setW i ⟨.idle 0, []⟩ with pc := .restart todo } < mu s := by
  refine mu_lt rfl (hi.retired i (by rw [hpc]; exact List.mem_cons_self)) ?_
  simp only [State.setW, Worker.weight, W.weight_idle, W.weight_nine]
  omega

/-- Every step lowers `mu`, except the steps of the parent other than a successful `get` and a restart: those keep it and
leave the slots alone. -/
theorem mu_step {c : Cfg} {s s' : State} {e : Ev} (hi : Inv c s) (hs : Step c s e s') :
    mu s' < mu s ∨ (mu s' = mu s ∧ e = .parent ∧ s'.ws = s.ws ∧ PStep c s s') := by
  cases hs with
  | worker hs => exact .inl (mu_wstep hs)
  | parent hs =>
    have hp := hs
    cases hs with
    | getSome r q hpc hq => exact .inl (by simp [mu, hq])
    | restart i todo hpc => exact .inl (mu_restart hi hpc)
    | _ => exact .inr ⟨rfl, rfl, rfl, hp⟩

def PC.todoL : PC → List Nat
  | .check _ todo _ => todo
  | _ => []

/-- The slots still to be read in a scan are in the pool, so that `readZero` shortens the pool (`nu_step`). -/
def ScanSub (s : State) : Prop := ∀ j ∈ s.pc.todoL, j ∈ s.pool

theorem scanSub_step {c : Cfg} {s s' : State} {e : Ev} (hi : Inv c s) (h : ScanSub s) (hs : Step c s e s') :
    ScanSub s' := by
  cases hs with
  | worker hs =>
    obtain ⟨h1, _, _, h4, _, _⟩ := wstep_frame hs
    intro j hj
    rw [h1] at hj; rw [h4]; exact h j hj
  | parent hs =>
    cases hs with
    | readZero got i todo ret b hpc hw =>
      intro j (hj : j ∈ todo)
      -- `i` is not scanned twice, so erasing it from the pool leaves the rest of `todo` in
      have hnd : (ret ++ i :: todo).Nodup := by have := hi.scanNodup; rwa [hpc] at this
      have hji : j ≠ i := fun e => (List.nodup_cons.mp (List.nodup_append.mp hnd).2.1).1 (e ▸ hj)
      exact (List.mem_erase_of_ne hji).mpr (h j (by rw [hpc]; exact List.mem_cons_of_mem i hj))
    | readNine got i todo ret b hpc hw | readNone got i todo ret hpc hw =>
      intro j (hj : j ∈ todo)
      exact h j (by rw [hpc]; exact List.mem_cons_of_mem i hj)
    | _ => simp [ScanSub, PC.todoL]

theorem scanSub_reach {c : Cfg} {ok : State → Ev → Prop} {s : State} (h : ReachP c ok s) : ScanSub s := by
  induction h with
  | init => simp [ScanSub, init, PC.todoL]
  | step e hr _ hs ih => exact scanSub_step (inv_reach hr) ih (step_sound hs)

/-- What is left at the loop-exit test with an empty pool after a timed-out `get`: the one step that leaves when `drained`
is set; otherwise one more iteration that finds it set (restart, `get`, end of scan, test: `1 + tGet 0 true = 4 < 5`). -/
def xd (d : Bool) : Nat := if d then 1 else 5
/-- Budget at `get` with `p` slots in the pool: the `get`, the scan of the `p` slots and its end (`p + 2`), then the test. -/
def tGet (p : Nat) (d : Bool) : Nat := p + 2 + xd d
/-- Budget at the loop-exit test: `xd d` when it may leave; otherwise another iteration follows, and `p + 9` exceeds
`1 + tGet p d'` for either `d'` (`1 + 2 + 5 = 8`). -/
def tPost (p : Nat) (d : Bool) (got : Option Res) : Nat := if p = 0 ∧ got = none then xd d else p + 9

theorem xd_pos (d : Bool) : 1 ≤ xd d := by cases d <;> simp [xd]
theorem xd_le (d : Bool) : xd d ≤ 5 := by cases d <;> simp [xd]
theorem tPost_pos (p : Nat) (d : Bool) (got : Option Res) : 1 ≤ tPost p d got := by
  simp only [tPost]; split
  · exact xd_pos d
  · omega

/-- The parent's budget by program counter: once all workers have exited, every parent step that keeps `mu` lowers it
(`nu_step`).  With a retired slot noted (`ret ≠ []`) a restart follows, which lowers `mu`: the budget only has to
reach it. -/
def nu (s : State) : Nat :=
  match s.pc with
  | .get => tGet s.pool.length s.drained
  | .check got todo ret =>
    if ret = [] then todo.length + 1 + tPost (s.pool.length - todo.length) s.drained got else todo.length + 2
  | .post got ret => if ret = [] then tPost s.pool.length s.drained got else 1
  | .restart [] => 1 + tGet s.pool.length s.drained
  | .restart (_ :: _) => 0
  | .done => 0
  | .aborted _ => 0

theorem nu_step {c : Cfg} {s s' : State} (hi : Inv c s) (hsub : ScanSub s)
    (hq : ∀ w ∈ s.ws, w.st.isExited = true) (hs : PStep c s s') (hmu : mu s' = mu s) :
    nu s' < nu s := by
  cases hs with
  | getSome r q hpc hdq => simp [mu, hdq] at hmu
  | getNone hpc hdq =>
    simp only [nu, hpc, tGet, tPost]
    simp
  | readNine got i todo ret b hpc hw =>
    simp only [nu, hpc]
    have := tPost_pos (s.pool.length - (todo.length + 1)) s.drained got
    simp
    split <;> omega
  | readZero got i todo ret b hpc hw =>
    have hip : i ∈ s.pool := hsub i (by rw [hpc]; simp [PC.todoL])
    have hlen := List.length_erase_of_mem hip
    have hpos : 0 < s.pool.length := List.length_pos_of_mem hip
    simp only [nu, hpc, hlen]
    have he : s.pool.length - 1 - todo.length = s.pool.length - (todo.length + 1) := by omega
    simp only [List.length_cons]
    rw [he]
    split <;> omega
  | readNone got i todo ret hpc hw =>
    -- slot `i` is in the pool, so it exists, and like every slot it has exited
    have hlt := hi.poolBound i (hsub i (by rw [hpc]; exact List.mem_cons_self))
    match hwi : s.ws[i], hq _ (List.getElem_mem hlt) with
    | ⟨.exited k, b⟩, _ => exact absurd (hwi ▸ List.getElem?_eq_getElem hlt) (hw k b)
  | scanned got ret hpc =>
    simp only [nu, hpc]
    simp
    split <;> omega
  | abort r ret hpc htf hexc =>
    simp only [nu, hpc]
    have := tPost_pos s.pool.length s.drained (some r)
    split <;> omega
  | leave got ret hpc =>
    have hpos := tPost_pos s.pool.length s.drained got
    simp only [nu, hpc]
    split <;> omega
  | again got ret hpc hab hb =>
    have hpos := tPost_pos s.pool.length s.drained got
    cases ret with
    | cons i t => simp [nu, hpc]
    | nil =>
      simp only [nu, hpc, if_true]
      by_cases hcase : s.pool.length = 0 ∧ got = none
      · obtain ⟨hp0, hg⟩ := hcase
        have hpe : s.pool = [] := List.eq_nil_of_length_eq_zero hp0
        subst hg
        simp only [breakNow, hpe, List.isEmpty_nil, Option.isNone_none, Bool.true_and, Bool.true_or,
          Option.toList_none, List.length_nil, Nat.add_zero] at hb
        cases hr : c.rule <;> simp [hr] at hb
        simp [tGet, tPost, hpe, hb.2, xd]
      · have h1 : tPost s.pool.length s.drained got = s.pool.length + 9 := by
          simp only [tPost]; rw [if_neg hcase]
        have := xd_le (s.drained || s.pool.isEmpty)
        simp only [h1, tGet]
        omega
  | restart i todo hpc => exact absurd hmu (Nat.ne_of_lt (mu_restart hi hpc))
  | loop hpc =>
    simp only [nu, hpc]
    omega

theorem nonincr_le (f : Nat → Nat) (h : ∀ n, f (n + 1) ≤ f n) (n k : Nat) : f (n + k) ≤ f n := by
  induction k with
  | zero => exact Nat.le_refl _
  | succ k ih => exact Nat.le_trans (h (n + k)) ih

theorem nonincr_stabilises (f : Nat → Nat) (h : ∀ n, f (n + 1) ≤ f n) :
    ∃ N, ∀ m, N ≤ m → f m = f N := by
  -- by strong induction on the value `f n`: either it never changes after `n`, or it drops
  suffices key : ∀ k n, f n = k → ∃ N, ∀ m, N ≤ m → f m = f N from key _ 0 rfl
  intro k
  induction k using Nat.strongRecOn with
  | _ k ih =>
    intro n hn
    by_cases hall : ∀ m, n ≤ m → f m = f n
    · exact ⟨n, hall⟩
    · obtain ⟨m, hm⟩ := Classical.not_forall.mp hall
      obtain ⟨hnm, hfm⟩ := Classical.not_imp.mp hm
      obtain ⟨d, rfl⟩ := Nat.exists_eq_add_of_le hnm
      have := nonincr_le f h n d
      exact ih (f (n + d)) (by omega) (n + d) rfl

theorem runSched_append (c : Cfg) (s : State) (a b : List Ev) :
    runSched c s (a ++ b) = (runSched c s a).bind fun s' => runSched c s' b := by
  induction a generalizing s with
  | nil => simp [runSched]
  | cons e a ih =>
    simp only [List.cons_append, runSched]
    cases step c s e with
    | none => simp
    | some s1 => simp [ih]

def schedState (c : Cfg) (es : List Ev) (n : Nat) : State :=
  (runSched c (init c) (es.take n)).getD (init c)

theorem schedState_some {c : Cfg} {es : List Ev} {sT : State} (h : runSched c (init c) es = some sT) (n : Nat) :
    runSched c (init c) (es.take n) = some (schedState c es n) := by
  have := runSched_append c (init c) (es.take n) (es.drop n)
  rw [List.take_append_drop, h] at this
  cases hp : runSched c (init c) (es.take n) with
  | none => simp [hp] at this
  | some s => simp [schedState, hp]

/-- The infinite run that follows a complete schedule `es` and then stutters. -/
def runOfSched (c : Cfg) (es : List Ev) (sT : State) (h : runSched c (init c) es = some sT)
    (ht : sT.terminal = true) : Run c where
  st := schedState c es
  ev := fun n => es.getD n .parent
  start := by simp [schedState, runSched]
  next := by
    intro n
    by_cases hn : n < es.length
    · left
      have h1 := schedState_some h n
      have h2 := schedState_some h (n + 1)
      rw [List.take_add_one, runSched_append, h1] at h2
      simp only [List.getElem?_eq_getElem hn, Option.toList_some, Option.bind_some, runSched] at h2
      have hev : es.getD n .parent = es[n] := by simp [List.getD, List.getElem?_eq_getElem hn]
      rw [hev]
      cases hs : step c (schedState c es n) es[n] with
      | none => simp [hs] at h2
      | some s1 => simp [hs] at h2; rw [h2]
    · right
      have hle : es.length ≤ n := Nat.le_of_not_lt hn
      have e1 : schedState c es n = sT := by
        simp [schedState, List.take_of_length_le hle, h]
      have e2 : schedState c es (n + 1) = sT := by
        simp [schedState, List.take_of_length_le (Nat.le_succ_of_le hle), h]
      rw [e1, e2]; exact ⟨ht, rfl⟩

theorem runOfSched_fair {c : Cfg} {es : List Ev} {sT : State} (h : runSched c (init c) es = some sT)
    (ht : sT.terminal = true) (hquiet : ∀ e, step c sT e = none) : (runOfSched c es sT h ht).WeaklyFair := by
  intro a n
  refine ⟨max n es.length, Nat.le_max_left _ _, Or.inl ?_⟩
  have e1 : (runOfSched c es sT h ht).st (max n es.length) = sT := by
    simp [runOfSched, schedState, List.take_of_length_le (Nat.le_max_right n es.length), h]
  rw [e1]
  rintro ⟨e, _, he⟩
  simp [hquiet e] at he

end Annet.Pool
