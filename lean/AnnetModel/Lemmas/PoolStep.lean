/-
Worker pool (C12): a relation `Step` that every `step` satisfies (`step_sound`; the converse is not needed).  A worker
event is a local move of one slot (`WMove`) set into the state (`WStep`); a step of the parent is one branch of
`stepParent` (`PStep`).
-/
import AnnetModel.Spec.Pool

namespace Annet.Pool

/-- Overwriting slot `i`, as a multiset: whatever is summed over the slots changes by the one slot's contribution. -/
theorem set_perm {α} {l : List α} {i : Nat} {x : α} (y : α) (h : l[i]? = some x) :
    (x :: l.set i y).Perm (y :: l) := by
  induction l generalizing i with
  | nil => cases h
  | cons a t ih =>
    cases i with
    | zero => cases h; exact .swap _ _ _
    | succ n => exact (List.Perm.swap a x _).trans (((ih h).cons a).trans (.swap y a _))

theorem countP_set {α} {l : List α} {i : Nat} {x : α} (y : α) (p : α → Bool) (h : l[i]? = some x) :
    (l.set i y).countP p + (if p x then 1 else 0) = l.countP p + (if p y then 1 else 0) := by
  have := (set_perm y h).countP_eq p
  simp only [List.countP_cons] at this
  omega

theorem sum_map_set {α} {l : List α} {i : Nat} {x : α} (y : α) (g : α → Nat) (h : l[i]? = some x) :
    ((l.set i y).map g).sum + g x = (l.map g).sum + g y := by
  have := ((set_perm y h).map g).sum_nat
  simp only [List.map_cons, List.sum_cons] at this
  omega

/-- What a worker event does, seen from the slot alone: `WMove c i e t w w' out dr` - event `e` of slot `i` turns the
slot's record `w` into `w'`, takes `t` from the head of the task queue, writes `out` to the pipe and loses `dr`. -/
inductive WMove (c : Cfg) (i : Nat) : Ev → Option Task → Worker → Worker → List Res → List Res → Prop
  | takeStop (d b) : WMove c i (.take i) (some .stop) ⟨.idle d, b⟩ ⟨.stopping, b⟩ [] []
  | takeTask (d b id) : WMove c i (.take i) (some (.invoke id)) ⟨.idle d, b⟩ ⟨.busy d id, b⟩ [] []
  | finish (d id b) : WMove c i (.finish i) none ⟨.busy d id, b⟩
      ⟨if c.quotaReached (d + 1) then .retiring else .idle (d + 1), b ++ [c.res id]⟩ [] []
  | flushSend (st r b) : r.out.sendable = true → WMove c i (.flush i) none ⟨st, r :: b⟩ ⟨st, b⟩ [r] []
  | flushDrop (st r b) : r.out.sendable = false → WMove c i (.flush i) none ⟨st, r :: b⟩ ⟨st, b⟩ [] [r]
  | feederDie (st r b) : r.out.sendable = false → st.exiting = true →
      WMove c i (.feederDie i) none ⟨st, r :: b⟩ ⟨st, []⟩ [] (r :: b)
  | exitNine : WMove c i (.exit i) none ⟨.retiring, []⟩ ⟨.exited .nine, []⟩ [] []
  | exitZero : WMove c i (.exit i) none ⟨.stopping, []⟩ ⟨.exited .zero, []⟩ [] []

inductive WStep (c : Cfg) (s : State) (e : Ev) : State → Prop
  | mk {i w w' out dr} (t q) : s.pc.isAborted = false → s.ws[i]? = some w → s.taskQ = t.toList ++ q →
      WMove c i e t w w' out dr →
      WStep c s e { s with ws := s.ws.set i w', taskQ := q, doneQ := s.doneQ ++ out, dropped := s.dropped ++ dr }

theorem WMove.pipe {c : Cfg} {i : Nat} {e : Ev} {t : Option Task} {w w' : Worker} {out dr : List Res}
    (h : WMove c i e t w w' out dr) : out = [] ∨ e = .flush i := by
  cases h <;> simp

theorem wstep_frame {c : Cfg} {s s' : State} {e : Ev} (hs : WStep c s e s') :
    s'.pc = s.pc ∧ s'.delivered = s.delivered ∧ s'.drained = s.drained ∧ s'.pool = s.pool ∧
    s'.tasksDone = s.tasksDone ∧ ((∀ w, e ≠ .flush w) → s'.doneQ = s.doneQ) := by
  obtain @⟨i, w, w', out, dr, t, q, hab, hw, hq, hm⟩ := hs
  refine ⟨rfl, rfl, rfl, rfl, rfl, fun hnf => ?_⟩
  rcases hm.pipe with rfl | he
  · exact List.append_nil _
  · exact absurd he (hnf i)

inductive PStep (c : Cfg) (s : State) : State → Prop
  | getSome (r q) : s.pc = .get → s.doneQ = r :: q →
      PStep c s { s with doneQ := q, pc := .check (some r) s.pool [] }
  | getNone : s.pc = .get → s.doneQ = [] →
      PStep c s { s with pc := .check none s.pool [] }
  | readNine (got i todo ret b) : s.pc = .check got (i :: todo) ret → s.ws[i]? = some ⟨.exited .nine, b⟩ →
      PStep c s { s with pc := .check got todo (ret ++ [i]) }
  | readZero (got i todo ret b) : s.pc = .check got (i :: todo) ret → s.ws[i]? = some ⟨.exited .zero, b⟩ →
      PStep c s { s with pool := s.pool.erase i, pc := .check got todo ret }
  | readNone (got i todo ret) : s.pc = .check got (i :: todo) ret → (∀ code b, s.ws[i]? ≠ some ⟨.exited code, b⟩) →
      PStep c s { s with pc := .check got todo ret }
  | scanned (got ret) : s.pc = .check got [] ret →
      PStep c s { s with pc := .post got ret }
  | abort (r ret) : s.pc = .post (some r) ret → c.tolerate = false → r.out.isExc = true →
      PStep c s { s with pc := .aborted r }
  | leave (got ret) : s.pc = .post got ret → abortsOn c got = none →
      breakNow c s.pool.isEmpty got.isNone (s.tasksDone + got.toList.length) s.drained = true →
      PStep c s { s with delivered := s.delivered ++ got.toList, tasksDone := s.tasksDone + got.toList.length, pc := .done }
  | again (got ret) : s.pc = .post got ret → abortsOn c got = none →
      breakNow c s.pool.isEmpty got.isNone (s.tasksDone + got.toList.length) s.drained = false →
      PStep c s { s with delivered := s.delivered ++ got.toList, tasksDone := s.tasksDone + got.toList.length,
                         drained := s.drained || s.pool.isEmpty, pc := .restart ret }
  | restart (i todo) : s.pc = .restart (i :: todo) →
      PStep c s { s.setW i ⟨.idle 0, []⟩ with pc := .restart todo }
  | loop : s.pc = .restart [] →
      PStep c s { s with pc := .get }

inductive Step (c : Cfg) (s : State) : Ev → State → Prop
  | parent {s'} : PStep c s s' → Step c s .parent s'
  | worker {e s'} : WStep c s e s' → Step c s e s'

theorem step_worker {c : Cfg} {s s' : State} {e : Ev} (h : step c s e = some s') (he : e ≠ .parent) :
    s.pc.isAborted = false ∧ stepWorker c s e = some s' := by
  have : step c s e = if s.pc.isAborted then none else stepWorker c s e := by
    cases e <;> first | rfl | exact absurd rfl he
  rw [this] at h
  split at h
  · cases h
  · exact ⟨Bool.eq_false_iff.mpr ‹_›, h⟩

theorem wstep_sound {c : Cfg} {s s' : State} {e : Ev} (h : step c s e = some s') (he : e ≠ .parent) :
    WStep c s e s' := by
  obtain ⟨hab, h⟩ := step_worker h he
  cases e with
  | parent => exact absurd rfl he
  | take i =>
    simp only [stepWorker] at h
    split at h <;> simp at h <;> subst h
    · rename_i b q hw hq
      simpa [State.setW] using WStep.mk (some .stop) q hab hw hq (.takeStop _ b)
    · rename_i d b id q hw hq
      simpa [State.setW] using WStep.mk (some (.invoke id)) q hab hw hq (.takeTask d b id)
  | finish i =>
    simp only [stepWorker] at h
    split at h <;> simp at h <;> subst h
    rename_i d id b hw
    simpa [State.setW] using WStep.mk none s.taskQ hab hw rfl (.finish d id b)
  | flush i =>
    simp only [stepWorker] at h
    split at h
    · rename_i st r b hw
      split at h <;> simp at h <;> subst h
      · simpa [State.setW] using WStep.mk none s.taskQ hab hw rfl (.flushSend st r b ‹_›)
      · simpa [State.setW] using
          WStep.mk none s.taskQ hab hw rfl (.flushDrop st r b (by simpa using ‹¬ _ = true›))
    · simp at h
  | feederDie i =>
    simp only [stepWorker] at h
    split at h
    · rename_i st r b hw
      split at h <;> simp at h
      subst h
      rename_i hc
      simp only [Bool.and_eq_true, Bool.not_eq_true'] at hc
      simpa [State.setW] using WStep.mk none s.taskQ hab hw rfl (.feederDie st r b hc.1 hc.2)
    · simp at h
  | exit i =>
    simp only [stepWorker] at h
    split at h <;> simp at h <;> subst h
    · simpa [State.setW] using WStep.mk none s.taskQ hab ‹_› rfl .exitNine
    · simpa [State.setW] using WStep.mk none s.taskQ hab ‹_› rfl .exitZero

theorem step_sound {c : Cfg} {s s' : State} {e : Ev} (h : step c s e = some s') : Step c s e s' := by
  by_cases he : e = .parent
  · subst he
    refine .parent ?_
    simp only [step, stepParent] at h
    split at h
    · split at h <;> simp at h <;> subst h
      · exact .getSome _ _ (by assumption) (by assumption)
      · exact .getNone (by assumption) (by assumption)
    · split at h <;> simp at h <;> subst h
      · exact .readNine _ _ _ _ _ (by assumption) (by assumption)
      · exact .readZero _ _ _ _ _ (by assumption) (by assumption)
      · refine .readNone _ _ _ _ (by assumption) ?_
        intro code b hb
        cases code <;> simp_all
    · simp at h; subst h; exact .scanned _ _ (by assumption)
    · rename_i got ret hpc
      cases hab : abortsOn c got with
      | some r =>
        simp [hab] at h; subst h
        cases got with
        | none => simp [abortsOn] at hab
        | some r' =>
          simp [abortsOn] at hab
          obtain ⟨⟨h1, h2⟩, h3⟩ := hab
          subst h3
          exact .abort _ _ hpc h1 h2
      | none =>
        simp only [hab, postStep, Option.some.injEq] at h
        split at h <;> subst h
        · exact .leave _ _ hpc hab ‹_›
        · exact .again _ _ hpc hab (Bool.eq_false_iff.mpr ‹_›)
    · simp at h; subst h; exact .restart _ _ (by assumption)
    · simp at h; subst h; exact .loop (by assumption)
    · simp at h
    · simp at h
  exact .worker (wstep_sound h he)

end Annet.Pool
