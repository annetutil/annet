/-
The laws of `_merge` — congruence, commutativity, associativity — for every well-formed
merger table.  `DictMerge` fields (`GlobalOptionsDTO.vrf/groups/l2vpn`) are what makes a domain necessary:
Python dicts have distinct keys, the predicate `Val.WFd` (it looks at the dict-valued positions only).

All laws are one statement, `mergeVal_laws`, and one induction over the merger: `Merge()` and `DictMerge` are
key-wise operations (`Keywise`) on values of one shape, so their cases are the laws of the field / value mergers
carried through `Laws.opt`, `Laws.keywise` and `Laws.shape`.  Exact associativity (tables without `DictMerge`) is a
second, small induction: `Laws` for `=` and extensionality of what `_merge` returns.
-/
import AnnetModel.Lemmas.MeshFold
import AnnetModel.Lemmas.MeshLaws

namespace Annet.Mesh

theorem Table.SymD_mem {t : Table} (h : Table.SymD t) {f : String} {m : Merger} (hm : (f, m) ∈ t) : m.SymD :=
  (Table.forall_iff trivial (fun _ _ _ => Iff.rfl) t).mp h f m hm

theorem Merger.SymD_of_Sym (m : Merger) : m.Sym → m.SymD := by
  induction m using Merger.ind with
  | merge t ih =>
    exact fun h => (Table.forall_iff trivial (fun _ _ _ => Iff.rfl) t).mpr fun f m hm => ih f m hm (Table.Sym_mem h hm)
  | dictMerge vm _ => exact False.elim
  | _ => exact id

theorem WFdFields_iff (t : Table) (fs : Fields) :
    WFdFields t fs ↔ ∀ f m, (f, m) ∈ t → ∀ v, lookup f fs = some v → Val.WFd m v :=
  Table.forall_iff (T := fun t => WFdFields t fs) trivial (fun _ _ _ => Iff.rfl) t

def OptWFd (m : Merger) : Option Val → Prop
  | none => True
  | some v => Val.WFd m v

theorem dictMergeWith_eq_groupFold (f : Val → Val → Except MergeErr Val) (x items : List (String × Val)) :
    dictMergeWith f x items = groupFold f x items := by
  induction items generalizing x with
  | nil => rfl
  | cons kv items ih =>
    simp only [dictMergeWith, ih, groupFold_cons]

theorem valuesOf_nodup {α : Type} (k : String) (b : List (String × α)) (hnd : (keys b).Nodup) :
    valuesOf k b = (lookup k b).toList := by
  induction b with
  | nil => rfl
  | cons p b ih =>
    obtain ⟨k', v⟩ := p
    rw [keys_cons, List.nodup_cons] at hnd
    by_cases h : k' = k
    · subst h
      rw [valuesOf_cons_self, ih hnd.2, lookup_eq_none_iff.mpr hnd.1, lookup_cons_self]
      rfl
    · rw [valuesOf_cons_ne h, ih hnd.2, lookup_cons_ne h]

theorem foldKey_toList {α ε : Type} (f : α → α → Except ε α) (o p : Option α) :
    foldKey f o p.toList = optOp f o p := by
  cases o <;> cases p <;> try rfl
  rename_i x y
  show ((f x y).map some >>= fun o' => .ok o') = (f x y).map some
  cases f x y <;> rfl

theorem dictKeywise (f : Val → Val → Except MergeErr Val) (a b : List (String × Val)) (va : (keys a).Nodup)
    (vb : (keys b).Nodup) :
    Keywise (J := String) (fun k s => lookup k s) (fun s : List (String × Val) => (keys s).Nodup)
      (dictMergeWith f a b) (fun k => optOp f (lookup k a) (lookup k b)) := by
  have hF : (fun k => foldKey f (lookup k a) (valuesOf k b)) = fun k => optOp f (lookup k a) (lookup k b) :=
    funext fun k => by rw [valuesOf_nodup k b vb, foldKey_toList]
  rw [dictMergeWith_eq_groupFold]
  exact hF ▸ groupFold_keywise f a va b

theorem OptI_iff {α : Type} {I : α → Prop} {o : Option α} : OptI I o ↔ ∀ v, o = some v → I v := by
  cases o
  · exact ⟨fun _ _ h => (nomatch h), fun _ => trivial⟩
  · exact ⟨fun h _ e => Option.some.inj e ▸ h, fun h => h _ rfl⟩

/-- `_merge` has the laws its field mergers have -/
theorem mergeFields_laws_of {t : Table} (hnd : (keys t).Nodup) {R : Merger → Val → Val → Prop} {I : Merger → Val → Prop}
    {c : Merger → Prop} (h : ∀ f m, (f, m) ∈ t → Laws (mergeVal m) (R m) (I m) (c m)) :
    Laws (mergeFields t) (fun a b => ∀ f m, (f, m) ∈ t → OptRel (R m) (lookup f a) (lookup f b))
      (fun a => ∀ f m, (f, m) ∈ t → ∀ v, lookup f a = some v → I m v) (∀ f m, (f, m) ∈ t → c m) :=
  (Laws.keywise (fun a b _ _ => fieldsKeywise t hnd a b) fun j => (h _ _ j.2).opt).congr
    (fun _ _ => ⟨fun h j => h _ _ j.2, fun h f m hm => h ⟨(f, m), hm⟩⟩)
    (fun _ => ⟨fun h => ⟨trivial, fun j => OptI_iff.mpr (h _ _ j.2)⟩, fun h f m hm => OptI_iff.mp (h.2 ⟨(f, m), hm⟩)⟩)
    (fun hs j => hs _ _ j.2)

/-- exactly associative, since a result of `_merge` lists the fields in table order -/
theorem mergeFields_assoc_eq_of {t : Table} (hnd : (keys t).Nodup) (a b c : Fields)
    (h : ∀ f m, (f, m) ∈ t → ∀ x y z,
      RE Eq (mergeVal m x y >>= fun r => mergeVal m r z) (mergeVal m y z >>= fun r => mergeVal m x r)) :
    RE Eq (mergeFields t a b >>= fun r => mergeFields t r c) (mergeFields t b c >>= fun r => mergeFields t a r) := by
  have := (mergeFields_laws_of hnd fun f m hm => Laws.of_assoc_eq (h f m hm)).assoc a b c
    (fun _ _ _ _ _ => trivial) (fun _ _ _ _ _ => trivial) (fun _ _ _ _ _ => trivial)
  refine RE.mono' (fun o1 o2 h1 h2 ho => ?_) this
  obtain ⟨_, _, h1⟩ := Except.bind_eq_ok.mp h1
  obtain ⟨_, _, h2⟩ := Except.bind_eq_ok.mp h2
  refine mergeFields_ext h1 h2 (fun f hf => ?_) hnd
  obtain ⟨⟨f', m⟩, hm, rfl⟩ := List.mem_map.mp hf
  exact (ho f' m hm).eq

theorem mergeVal_assoc (m : Merger) : m.WF → m.DictFree → ∀ x y z,
    RE Eq (mergeVal m x y >>= fun r => mergeVal m r z) (mergeVal m y z >>= fun r => mergeVal m x r) := by
  induction m using Merger.ind with
  | forbidChange =>
    intro _ _ x y z
    refine RE.of_ok_iff fun r => ?_
    simp only [Except.bind_eq_ok, forbidChange_ok_iff]
    constructor
    · rintro ⟨_, ⟨hxy, rfl⟩, hxz, rfl⟩
      exact ⟨y, ⟨leafEq_congr_left (leafEqv_of_leafEq hxy) z ▸ hxz, rfl⟩, hxy, rfl⟩
    · rintro ⟨_, ⟨hyz, rfl⟩, hxy, rfl⟩
      exact ⟨_, ⟨hxy, rfl⟩, (leafEq_congr_left (leafEqv_of_leafEq hxy) z).trans hyz, rfl⟩
  | useFirst => intro _ _ x y z; exact (rfl : x = x)
  | useLast => intro _ _ x y z; exact (rfl : z = z)
  | forbid => intro _ _ x y z; trivial
  | unite =>
    intro _ _ x y z
    rw [mergeVal_unite]
    exact shapeOp.assoc (R := Eq) (fun _ _ => congrArg Val.set) fun a b c _ _ _ => setUnion_assoc a b c
  | concat =>
    intro _ _ x y z
    rw [mergeVal_concat]
    exact shapeOp.assoc (R := Eq) (fun _ _ => congrArg Val.seq) fun a b c _ _ _ => List.append_assoc a b c
  | dictMerge vm _ => intro _ hd; exact False.elim hd
  | merge t ih =>
    intro hwf hd x y z
    rw [mergeVal_merge]
    exact shapeOp.assoc (R := Eq) (fun _ _ => congrArg Val.model) fun a b c _ _ _ =>
      mergeFields_assoc_eq_of hwf.1 a b c fun f m hm => ih f m hm (Table.WF_mem hwf.2 hm) (Table.DictFree_mem hd hm)

theorem WFd_of_dictFree (m : Merger) : m.DictFree → ∀ x, Val.WFd m x := by
  induction m using Merger.ind with
  | merge t ih =>
    intro hd x
    cases x <;> try trivial
    exact (WFdFields_iff t _).mpr fun f m hm v _ => ih f m hm (Table.DictFree_mem hd hm) v
  | dictMerge vm _ => intro hd; exact False.elim hd
  | _ => intro _ x; cases x <;> trivial

theorem mergeFields_laws {t : Table} (hnd : (keys t).Nodup)
    (h : ∀ f m, (f, m) ∈ t → Laws (mergeVal m) (Equiv m) (Val.WFd m) m.SymD) :
    Laws (mergeFields t) (EquivFields t) (WFdFields t) (Table.SymD t) :=
  (mergeFields_laws_of hnd h).congr (EquivFields_iff t) (WFdFields_iff t) fun hs _ _ => Table.SymD_mem hs

/-- without `DictMerge` every value is in the domain and associativity is exact: congruence and commutativity are
what is left to show -/
theorem mergeVal_laws_dictFree {m : Merger} {c : Prop} (hwf : m.WF) (hd : m.DictFree)
    (cong : ∀ x x' y y', Equiv m x x' → Equiv m y y' → RE (Equiv m) (mergeVal m x y) (mergeVal m x' y'))
    (comm : c → ∀ x y, RE (Equiv m) (mergeVal m x y) (mergeVal m y x)) :
    Laws (mergeVal m) (Equiv m) (Val.WFd m) c where
  eqv := Equiv.equivalence m
  closed := fun _ _ r _ _ _ => WFd_of_dictFree m hd r
  cong := fun x x' y y' _ _ _ _ => cong x x' y y'
  assoc := fun x y z _ _ _ => RE.mono (R := Eq) (fun a _ e => e ▸ Equiv.refl m a) (mergeVal_assoc m hwf hd x y z)
  comm := fun hc x y _ _ => comm hc x y

theorem WFd_merge_iff (t : Table) (x : Val) :
    Val.WFd (.merge t) x ↔ ∀ a, Shape.model.view x = some a → WFdFields t a := by
  cases x
  case model fs => exact ⟨fun h a e => Option.some.inj e ▸ h, fun h => h fs rfl⟩
  all_goals exact ⟨fun _ _ e => (nomatch e), fun _ => trivial⟩

theorem WFd_dictMerge_iff (vm : Merger) (x : Val) :
    Val.WFd (.dictMerge vm) x ↔
      ∀ a, Shape.dict.view x = some a → (keys a).Nodup ∧ ∀ k, OptI (Val.WFd vm) (lookup k a) := by
  cases x
  case dict kvs =>
    exact ⟨fun h a e => Option.some.inj e ▸ ⟨h.1, fun k => OptI_iff.mpr (h.2 k)⟩,
      fun h => ⟨(h kvs rfl).1, fun k => OptI_iff.mp ((h kvs rfl).2 k)⟩⟩
  all_goals exact ⟨fun _ _ e => (nomatch e), fun _ => trivial⟩

/-- `_merge` under a well-formed merger is a partial semigroup on the values whose dicts have distinct keys, up to
`Equiv`, and commutative unless `UseFirst`/`UseLast` occurs. -/
theorem mergeVal_laws (m : Merger) : m.WF → Laws (mergeVal m) (Equiv m) (Val.WFd m) m.SymD := by
  induction m using Merger.ind with
  | merge t ih =>
    intro hwf
    rw [mergeVal_merge, Equiv_merge]
    exact ((mergeFields_laws hwf.1 fun f m hm => ih f m hm (Table.WF_mem hwf.2 hm)).shape .model).congr
      (fun _ _ => Iff.rfl) (WFd_merge_iff t) id
  | dictMerge vm ih =>
    intro hwf
    rw [mergeVal_dictMerge, Equiv_dictMerge]
    exact ((Laws.keywise (fun a b va vb => dictKeywise (mergeVal vm) a b va vb)
      fun _ : String => (ih hwf).opt).shape .dict).congr (fun _ _ => Iff.rfl) (WFd_dictMerge_iff vm) fun hs _ => hs
  | forbidChange =>
    exact fun _ => mergeVal_laws_dictFree trivial trivial
      (fun _ _ _ _ hx hy => forbidChange_rel (leafEq_of_eqv hx hy) fun _ => hx)
      fun _ x y => forbidChange_rel (leafEq_comm x y) leafEqv_of_leafEq
  | useFirst =>
    exact fun _ => mergeVal_laws_dictFree trivial trivial (fun _ _ _ _ hx _ => hx) False.elim
  | useLast =>
    exact fun _ => mergeVal_laws_dictFree trivial trivial (fun _ _ _ _ _ hy => hy) False.elim
  | forbid =>
    exact fun _ => mergeVal_laws_dictFree trivial trivial (fun _ _ _ _ _ _ => trivial) fun _ _ _ => trivial
  | unite =>
    intro _
    refine mergeVal_laws_dictFree trivial trivial (fun x x' y y' hx hy => ?_) fun _ x y => ?_
    · rw [mergeVal_unite]
      rw [show Equiv .unite = leafEqv from rfl, leafEqv_eq] at hx hy ⊢
      exact shapeOp.cong hx hy fun a a' b b' _ _ _ _ ra rb s => by
        rw [mem_setUnion, mem_setUnion, ra s, rb s]
    · rw [mergeVal_unite, show Equiv .unite = leafEqv from rfl, leafEqv_eq]
      exact shapeOp.comm fun a b _ _ s => by rw [mem_setUnion, mem_setUnion, Or.comm]
  | concat =>
    intro _
    refine mergeVal_laws_dictFree trivial trivial (fun x x' y y' hx hy => ?_) fun _ x y => ?_
    · rw [mergeVal_concat]
      rw [Equiv_concat] at hx hy ⊢
      exact shapeOp.cong hx hy fun a a' b b' _ _ _ _ ra rb => List.Perm.append ra rb
    · rw [mergeVal_concat, Equiv_concat]
      exact shapeOp.comm fun a b _ _ => List.perm_append_comm

theorem mergeFields_laws_wf {t : Table} (hwf : (Merger.merge t).WF) :
    Laws (mergeFields t) (EquivFields t) (WFdFields t) (Table.SymD t) :=
  mergeFields_laws hwf.1 fun _ m hm => mergeVal_laws m (Table.WF_mem hwf.2 hm)

theorem mergeMany_eq_foldlM (t : Table) (first : Fields) (l : List Fields) :
    mergeMany t first l = l.foldlM (mergeFields t) first := by
  induction l generalizing first with
  | nil => rfl
  | cons x xs ih => simp only [mergeMany, List.foldlM_cons, ih]

end Annet.Mesh
