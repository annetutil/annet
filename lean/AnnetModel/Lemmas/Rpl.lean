/-
C14: when the lookups of the condition and action generators succeed and when they do not, the stream of a statement in
terms of its elements, and the dictionaries behind the list generators.
-/
import AnnetModel.Lemmas.RplOut
import AnnetModel.Lemmas.Basic

namespace Annet.Rpl.Lemmas
open Annet.Rpl Annet.Rpl.Spec

theorem membersOf_known (cl : List CommList) (ns : List Str) (h : ns.all (known cl) = true) :
    ∃ ms, membersOf cl ns = .ok ms := by
  induction ns with
  | nil => exact ⟨[], rfl⟩
  | cons n ns ih =>
    simp only [List.all_cons, Bool.and_eq_true] at h
    obtain ⟨ms, hms⟩ := ih h.2
    unfold known at h
    cases hg : getComm cl n with
    | none => simp [hg] at h
    | some c => exact ⟨c.members ++ ms, by simp [membersOf, hg, hms]⟩

theorem names_known_split {cl : List CommList} {c : CommAct} (hk : (CommAct.names c).all (known cl) = true) :
    (c.replaced.getD []).all (known cl) = true ∧ c.added.all (known cl) = true ∧ c.removed.all (known cl) = true := by
  simpa only [CommAct.names, List.all_append, Bool.and_eq_true, and_assoc] using hk

theorem mem_names_replaced {c : CommAct} {r : List Str} {n : Str} (hr : c.replaced = some r) (h : n ∈ r) :
    n ∈ CommAct.names c := List.mem_append_left _ (List.mem_append_left _ (by rw [hr]; exact h))

theorem mem_names_added {c : CommAct} {n : Str} (h : n ∈ c.added) : n ∈ CommAct.names c :=
  List.mem_append_left _ (List.mem_append_right _ h)

theorem mem_names_removed {c : CommAct} {n : Str} (h : n ∈ c.removed) : n ∈ CommAct.names c :=
  List.mem_append_right _ h

abbrev Unknown (cl : List CommList) (c : CommAct) : Prop := ¬ (CommAct.names c).all (known cl) = true

theorem unknown_added {cl : List CommList} {c : CommAct} {e : Err} (h : membersOf cl c.added = .error e) : Unknown cl c :=
  fun hk => by
    obtain ⟨ms, hms⟩ := membersOf_known cl _ (names_known_split hk).2.1
    rw [hms] at h; cases h

theorem unknown_removed {cl : List CommList} {c : CommAct} {e : Err} (h : membersOf cl c.removed = .error e) :
    Unknown cl c := fun hk => by
  obtain ⟨ms, hms⟩ := membersOf_known cl _ (names_known_split hk).2.2
  rw [hms] at h; cases h

theorem groupAdd_keys (acc : List (CType × List Str)) (t : CType) (ms : List Str) (g : CType × List Str)
    (hg : g ∈ groupAdd acc t ms) : g.1 = t ∨ ∃ g' ∈ acc, g'.1 = g.1 := by
  -- `groupAdd acc t ms` is `Keyed.upsert Prod.fst t (fun e => (e.1, e.2 ++ ms)) (t, ms) acc`
  rcases Keyed.mem_upsert (key := Prod.fst) (f := fun e => (e.1, e.2 ++ ms)) hg with ⟨h, -⟩ | ⟨x, hx, -, rfl⟩ | ⟨-, rfl⟩
  · exact .inr ⟨g, h, rfl⟩
  · exact .inr ⟨x, hx, rfl⟩
  · exact .inl rfl

theorem typesIn_mem {cl : List CommList} {ts : List CType} {l : List Str} (h : typesIn cl ts l = true) {n : Str}
    (hn : n ∈ l) : ∃ c, getComm cl n = some c ∧ c.type ∈ ts := by
  have := List.all_eq_true.mp h n hn
  cases hg : getComm cl n with
  | none => simp [hg] at this
  | some c => exact ⟨c, rfl, by simpa [hg] using this⟩

theorem typesIn_cons {cl : List CommList} {ts : List CType} {n : Str} {ns : List Str}
    (h : typesIn cl ts (n :: ns) = true) : (∃ c, getComm cl n = some c ∧ c.type ∈ ts) ∧ typesIn cl ts ns = true :=
  ⟨typesIn_mem h List.mem_cons_self, by simp only [typesIn, List.all_cons, Bool.and_eq_true] at h ⊢; exact h.2⟩

theorem groupMembers_types (cl : List CommList) (ts : List CType) (ns : List Str) :
    ∀ acc : List (CType × List Str), (∀ g ∈ acc, g.1 ∈ ts) → typesIn cl ts ns = true →
      ∃ gs, groupMembers cl ns acc = .ok gs ∧ ∀ g ∈ gs, g.1 ∈ ts := by
  induction ns with
  | nil => intro acc hacc _; exact ⟨acc, rfl, hacc⟩
  | cons n ns ih =>
    intro acc hacc ht
    obtain ⟨⟨c, hg, hc⟩, h2⟩ := typesIn_cons ht
    have hacc' : ∀ g ∈ groupAdd acc c.type c.members, g.1 ∈ ts := by
      intro g hgm
      rcases groupAdd_keys acc c.type c.members g hgm with h | ⟨g', hg', he⟩
      · rw [h]; exact hc
      · rw [← he]; exact hacc g' hg'
    obtain ⟨gs, hgs, hall⟩ := ih (groupAdd acc c.type c.members) hacc' h2
    exact ⟨gs, by simp [groupMembers, hg, hgs], hall⟩

theorem actNamesKnown_comm {cl : List CommList} {a : Action} {c : CommAct} (hv : a.val = .comm c)
    (hk : actNamesKnown cl a = true) : (CommAct.names c).all (known cl) = true := by
  unfold actNamesKnown at hk
  rw [hv] at hk
  exact hk

theorem getPrefix_known (pls : List PrefixList) (n : Str) (a b : Option Str) (h : (getPl pls n).isSome = true) :
    ∃ pl, getPrefix pls n a b = .ok pl := by
  unfold getPrefix
  cases hg : getPl pls n with
  | none => simp [hg] at h
  | some orig => simp only; split <;> exact ⟨_, rfl⟩

theorem pfx_unknown {inp : Input} {c : Cond} {names : List Str} {a b : Option Str}
    (hf : c.field = .ipPrefix ∨ c.field = .ipv6Prefix) (hv : c.val = .pfx names a b) {nm : Str} (hnm : nm ∈ names)
    {e : Err} (he : getPrefix inp.plists nm a b = .error e) : ¬ condNamesKnown inp c = true := by
  intro hk
  unfold condNamesKnown at hk
  have hall : names.all (fun n => (getPl inp.plists n).isSome) = true := by
    rcases hf with hf | hf <;> rw [hf, hv] at hk <;> exact hk
  obtain ⟨pl, hpl⟩ := getPrefix_known inp.plists nm a b (List.all_eq_true.mp hall nm hnm)
  rw [hpl] at he; cases he

theorem statementH_eq (inp : Input) (p : Policy) (st : Stmt) (num res : Str) (hn : st.number = some num)
    (hr : resultWord st.result = some res) :
    statementH inp p st = inBlock [s "route-policy", p.name, res, s "node", num] (seqAll (stmtElemsH inp st)) := by
  unfold statementH stmtElemsH
  simp only [hn, hr]
  rw [seqAll_append, seqAll_append, seqAll_singleton, seq_assoc]

theorem statementA_eq (inp : Input) (p : Policy) (st : Stmt) (num res : Str) (hn : st.number = some num)
    (hr : resultWord st.result = some res) :
    statementA inp p st = inBlock [s "route-map", p.name, res, num] (seqAll (stmtElemsA inp st)) := by
  unfold statementA stmtElemsA
  simp only [hn, hr]
  rw [seqAll_append, seqAll_append, seqAll_singleton, seq_assoc]

theorem inBlock_eq (header : List Str) (body : Out (List Str)) :
    inBlock header body = (Line.mk [] header :: body.1.map (Line.mk [joinSp header]), body.2) := by
  unfold inBlock
  simp [Out.mapRows]

theorem ebl_trailer (b : Bool) (row : List Str) : ErrorBeforeLines (if b then emit [row] else emit []) :=
  (Gen.ite (P := fun _ => True) (L := False) (.emit_one trivial) .emit_nil).ebl id

theorem cumStatement_clean (inp : Input) (p : Policy) (st : Stmt) (num res : Str)
    (hr : resultWord st.result = some res) (h : ∀ o ∈ stmtElemsC inp st, ErrorBeforeLines o) :
    cumStatement inp p st num =
      ([s "route-map", p.name, res, num] :: (completedRows (stmtElemsC inp st)).map indentRow ++
         (match firstErr (stmtElemsC inp st) with
          | none => (if st.result == .next then [indentRow [s "on-match next"]] else []) ++ [[s "!"]]
          | some _ => []),
       firstErr (stmtElemsC inp st)) := by
  unfold cumStatement
  simp only [hr]
  rw [← seq_assoc ((seqAll (st.conds.map (cumMatch inp))).mapRows indentRow), ← mapRows_seq, ← seqAll_append]
  have hel : st.conds.map (cumMatch inp) ++ st.acts.map (cumThen inp.clists) = stmtElemsC inp st := rfl
  rw [hel, seqAll_clean _ h]
  cases hfe : firstErr (stmtElemsC inp st) with
  | some e => simp [Out.seq, Out.mapRows]
  | none =>
    by_cases hn : (st.result == Result.next) = true <;> simp [Out.seq, Out.mapRows, hn]

theorem findLast_eq {α : Type} (p : α → Bool) (l : List α) : findLast p l = l.reverse.find? p := by
  rw [← List.findRev?_eq_find?_reverse]
  induction l with
  | nil => rfl
  | cons x xs ih => rw [findLast, List.findRev?, ih]; cases List.findRev? p xs <;> rfl

theorem findLast_some {α : Type} (p : α → Bool) (l : List α) (x : α) (h : findLast p l = some x) :
    x ∈ l ∧ p x = true := by
  rw [findLast_eq] at h
  exact ⟨List.mem_reverse.mp (List.mem_of_find?_eq_some h), List.find?_some h⟩

theorem getComm_mem (cl : List CommList) (n : Str) (c : CommList) (h : getComm cl n = some c) : c ∈ cl :=
  (findLast_some _ _ _ h).1

theorem getComm_name (cl : List CommList) (n : Str) (c : CommList) (h : getComm cl n = some c) : c.name = n := by
  simpa using (findLast_some _ _ _ h).2

theorem mem_insertSorted (x y : Str) (l : List Str) : y ∈ insertSorted x l ↔ y = x ∨ y ∈ l := by
  induction l with
  | nil => simp [insertSorted]
  | cons z zs ih =>
    unfold insertSorted
    split
    next h => simp [show x = z by simpa using h]
    · split
      · simp
      · simp only [List.mem_cons, ih, or_left_comm]

theorem mem_foldl_insert {α : Type} {ins : α → List α → List α} (hins : ∀ x y l, y ∈ ins x l ↔ y = x ∨ y ∈ l) (y : α) :
    ∀ l acc : List α, y ∈ l.foldl (fun acc x => ins x acc) acc ↔ y ∈ acc ∨ y ∈ l := by
  intro l
  induction l with
  | nil => simp
  | cons z zs ih => intro acc; rw [List.foldl_cons, ih, hins, List.mem_cons, or_assoc, or_left_comm]

theorem mem_sortedSet (l : List Str) (y : Str) : y ∈ sortedSet l ↔ y ∈ l := by
  simpa [sortedSet] using mem_foldl_insert mem_insertSorted y l []

theorem mem_insertByKey {α : Type} (x u : Str × α) (l : List (Str × α)) : u ∈ insertByKey x l ↔ u = x ∨ u ∈ l := by
  induction l with
  | nil => simp [insertByKey]
  | cons y ys ih =>
    unfold insertByKey
    split
    · simp
    · simp only [List.mem_cons, ih]
      constructor
      · rintro (h | h | h) <;> simp [h]
      · rintro (h | h | h) <;> simp [h]

theorem prefixNames_rows {P : Line → Prop} {pls : List PrefixList} {rows : PrefixList → List Line}
    (h : ∀ pl, ∀ l ∈ rows pl, P l) (a b : Option Str) :
    ∀ (ns seen : List Str), AllRows P (prefixNames pls rows a b ns seen).1
  | [], _ => .emit_nil
  | n :: ns, seen => by
    unfold prefixNames
    split
    · exact .fail
    · split
      · exact prefixNames_rows h a b ns _
      · exact .seq (.emit (h _)) (prefixNames_rows h a b ns _)

theorem prefixConds_rows {P : Line → Prop} {pls : List PrefixList} {rows : PrefixList → List Line}
    (h : ∀ pl, ∀ l ∈ rows pl, P l) (f : MField) :
    ∀ (cs : List Cond) (seen : List Str), AllRows P (prefixConds pls rows f cs seen).1
  | [], _ => .emit_nil
  | c :: cs, seen => by
    unfold prefixConds
    split
    · split
      · simp only []
        split
        · exact prefixNames_rows h _ _ _ _
        · exact .seq (prefixNames_rows h _ _ _ _) (prefixConds_rows h f cs _)
      · exact .fail
    · exact prefixConds_rows h f cs _

theorem prefixStmts_rows {P : Line → Prop} {pls : List PrefixList} {rows4 rows6 : PrefixList → List Line}
    (h4 : ∀ pl, ∀ l ∈ rows4 pl, P l) (h6 : ∀ pl, ∀ l ∈ rows6 pl, P l) :
    ∀ (sts : List Stmt) (seen : List Str), AllRows P (prefixStmts pls rows4 rows6 sts seen).1
  | [], _ => .emit_nil
  | st :: sts, seen => by
    unfold prefixStmts
    simp only []
    split
    · exact prefixConds_rows h4 _ _ _
    · split
      · exact .seq (prefixConds_rows h4 _ _ _) (prefixConds_rows h6 _ _ _)
      · exact .seq (.seq (prefixConds_rows h4 _ _ _) (prefixConds_rows h6 _ _ _)) (prefixStmts_rows h4 h6 sts _)

end Annet.Rpl.Lemmas
