/-
The executor (`Model/MeshExec.lean`).  Merging pairs of one neighbour has the `Laws` (`mergePair_laws`); both loops are
the generic loop of `Lemmas/MeshLoop.lean` (`executeDirect_eq`, `executeIndirect_eq`).  Mirroring: one application seen
from both ends (`KeyedMirror`), two runs of the loop (`stepG_mirrored`), the items of the two ends.
-/
import AnnetModel.Lemmas.MeshDict
import AnnetModel.Lemmas.MeshLoop
import AnnetModel.Spec.MeshExec

namespace Annet.Mesh

theorem mergeFields_laws_df {t : Table} (hwf : (Merger.merge t).WF) (hd : (Merger.merge t).DictFree) :
    Laws (mergeFields t) (EquivFields t) (fun _ => True) (Merger.merge t).Sym :=
  (mergeFields_laws_wf hwf).congr (fun _ _ => Iff.rfl)
    (fun a => ⟨fun _ => WFd_of_dictFree _ hd (.model a), fun _ => trivial⟩) (Merger.SymD_of_Sym _)

theorem mergeFields_assoc {t : Table} (hwf : (Merger.merge t).WF) (hd : (Merger.merge t).DictFree) (a b c : Fields) :
    RE Eq (mergeFields t a b >>= fun r => mergeFields t r c) (mergeFields t b c >>= fun r => mergeFields t a r) :=
  mergeFields_assoc_eq_of hwf.1 a b c fun _ m hm =>
    mergeVal_assoc m (Table.WF_mem hwf.2 hm) (Table.DictFree_mem hd hm)

theorem mergePair_ok_iff (dto : Table) (p q r : Pair) :
    mergePair dto p q = .ok r ↔
      mergeFields dto p.loc q.loc = .ok r.loc ∧ mergeFields dto p.connected q.connected = .ok r.connected ∧
      mergePorts p.ports q.ports = .ok r.ports ∧ r.device = q.device := by
  simp only [mergePair, Except.bind_eq_ok]
  constructor
  · rintro ⟨l, hl, c, hc, ps, hp, h⟩
    cases h
    exact ⟨hl, hc, hp, rfl⟩
  · rintro ⟨hl, hc, hp, hd⟩
    refine ⟨_, hl, _, hc, _, hp, ?_⟩
    cases r
    simp at hd
    subst hd
    rfl

theorem mergePorts_comm (x y : Option (List String)) : mergePorts x y = mergePorts y x := by
  cases x <;> cases y <;> simp only [mergePorts] <;> grind

theorem mergePorts_assoc (x y z : Option (List String)) :
    (mergePorts x y >>= fun r => mergePorts r z) = (mergePorts y z >>= fun r => mergePorts x r) := by
  cases x <;> cases y <;> cases z <;> simp only [mergePorts, ok_bind] <;> grind [mergePorts, ok_bind, error_bind]

theorem PairEqv.refl (dto : Table) (p : Pair) : PairEqv dto p p :=
  ⟨EquivFields.refl _ _, EquivFields.refl _ _, rfl, rfl⟩

theorem PairEqv.symm {dto : Table} {p q : Pair} (h : PairEqv dto p q) : PairEqv dto q p :=
  ⟨h.1.symm, h.2.1.symm, h.2.2.1.symm, h.2.2.2.symm⟩

theorem PairEqv.trans {dto : Table} {p q r : Pair} (h1 : PairEqv dto p q) (h2 : PairEqv dto q r) : PairEqv dto p r :=
  ⟨h1.1.trans h2.1, h1.2.1.trans h2.2.1, h1.2.2.1.trans h2.2.2.1, h1.2.2.2.trans h2.2.2.2⟩

/-- Merging pairs that belong to the same neighbour `d` is a partial commutative semigroup up to
`PairEqv` (the `device` field uses `UseLast`, harmless among pairs of one neighbour).  `hd` follows from `hs`
(`Merger.Sym` is false on `DictMerge`); the property theorems state both. -/
theorem mergePair_laws (dto : Table) (hwf : (Merger.merge dto).WF) (hs : (Merger.merge dto).Sym)
    (hd : (Merger.merge dto).DictFree) (d : String) :
    Laws (mergePair dto) (PairEqv dto) (fun p => p.device = d) True where
  eqv := ⟨PairEqv.refl dto, fun h => h.symm, fun h1 h2 => h1.trans h2⟩
  closed := fun a b r _ hb h => ((mergePair_ok_iff dto a b r).mp h).2.2.2.trans hb
  cong := fun a a' b b' _ _ _ _ haa hbb => by
    unfold mergePair
    have L := mergeFields_laws_df hwf hd
    refine RE.bind (L.cong _ _ _ _ trivial trivial trivial trivial haa.1 hbb.1) fun l l' hl => ?_
    refine RE.bind (L.cong _ _ _ _ trivial trivial trivial trivial haa.2.1 hbb.2.1) fun c c' hc => ?_
    refine RE.bind (R := Eq) (RE.of_eq (fun _ => rfl) (by rw [haa.2.2.2, hbb.2.2.2])) fun ps ps' hps => ?_
    exact ⟨hl, hc, hbb.2.2.1, hps⟩
  comm := fun _ a b ha hb => by
    unfold mergePair
    have L := mergeFields_laws_df hwf hd
    refine RE.bind (L.comm hs _ _ trivial trivial) fun l l' hl => ?_
    refine RE.bind (L.comm hs _ _ trivial trivial) fun c c' hc => ?_
    refine RE.bind (R := Eq) (RE.of_eq (fun _ => rfl) (mergePorts_comm _ _)) fun ps ps' hps => ?_
    exact ⟨hl, hc, hb.trans ha.symm, hps⟩
  assoc := fun a b c _ _ _ => by
    refine RE.mono (R := Eq) (fun x y (h : x = y) => h ▸ PairEqv.refl dto x) ?_
    apply RE.of_ok_iff
    intro r
    have hL := (mergeFields_assoc hwf hd a.loc b.loc c.loc).ok_iff r.loc
    have hC := (mergeFields_assoc hwf hd a.connected b.connected c.connected).ok_iff r.connected
    have hP := mergePorts_assoc a.ports b.ports c.ports
    simp only [Except.bind_eq_ok] at hL hC
    simp only [Except.bind_eq_ok, mergePair_ok_iff]
    constructor
    · rintro ⟨r1, ⟨h1, h2, h3, h4⟩, ⟨h5, h6, h7, h8⟩⟩
      obtain ⟨l2, hl2, hl2'⟩ := hL.mp ⟨_, h1, h5⟩
      obtain ⟨c2, hc2, hc2'⟩ := hC.mp ⟨_, h2, h6⟩
      have hp : (mergePorts a.ports b.ports >>= fun r => mergePorts r c.ports) = .ok r.ports := by
        rw [h3]; exact h7
      rw [hP, Except.bind_eq_ok] at hp
      obtain ⟨p2, hp2, hp2'⟩ := hp
      exact ⟨⟨l2, c2, c.device, p2⟩, ⟨hl2, hc2, hp2, rfl⟩, ⟨hl2', hc2', hp2', h8⟩⟩
    · rintro ⟨r1, ⟨h1, h2, h3, h4⟩, ⟨h5, h6, h7, h8⟩⟩
      obtain ⟨l2, hl2, hl2'⟩ := hL.mpr ⟨_, h1, h5⟩
      obtain ⟨c2, hc2, hc2'⟩ := hC.mpr ⟨_, h2, h6⟩
      have hp : (mergePorts b.ports c.ports >>= fun r => mergePorts a.ports r) = .ok r.ports := by
        rw [h3]; exact h7
      rw [← hP, Except.bind_eq_ok] at hp
      obtain ⟨p2, hp2, hp2'⟩ := hp
      refine ⟨⟨l2, c2, b.device, p2⟩, ⟨hl2, hc2, hp2, rfl⟩, ⟨hl2', hc2', hp2', ?_⟩⟩
      rw [h8, h4]

def keyed (o : Option Pair) : Except ExecErr (Option (PeerKey × Pair)) :=
  match o with
  | none => .ok none
  | some pair => (peerKey pair.device pair.connected).map fun k => some (k, pair)

theorem peerKey_fst {fqdn : String} {c : Fields} {k : PeerKey} (h : peerKey fqdn c = .ok k) : k.1 = fqdn := by
  -- every `.ok` branch of `peerKey` returns `(fqdn, _, _)`
  simp only [peerKey] at h
  split at h <;> try (simp at h; done)
  split at h <;> try (simp at h; done)
  split at h <;> simp at h <;> subst h <;> rfl

theorem keyed_bind_ok {X : Except ExecErr (Option Pair)} {k : PeerKey} {p : Pair}
    (h : (X >>= keyed) = .ok (some (k, p))) : X = .ok (some p) ∧ peerKey p.device p.connected = .ok k := by
  obtain ⟨o, rfl, ho⟩ := Except.bind_eq_ok.mp h
  cases o with
  | none => cases ho
  | some q =>
    obtain ⟨k', hk, e⟩ := map_ok_iff.mp ho
    cases e
    exact ⟨rfl, hk⟩

theorem keyed_device {X : Except ExecErr (Option Pair)} {k : PeerKey} {p : Pair}
    (h : (X >>= keyed) = .ok (some (k, p))) : p.device = k.1 :=
  (peerKey_fst (keyed_bind_ok h).2).symm

/-- The common tail of `_execute_direct_pair` and of the loop body of `_execute_indirect`: the two DTOs
built from what the handler assigned. -/
def pairOf (dto : Table) (a : Assign) (directOrder : Bool) (neighbor : String) (ports : Option (List String)) :
    Except ExecErr (Option Pair) :=
  let peerDevice := if directOrder then a.left else a.right
  let peerNeighbor := if directOrder then a.right else a.left
  if peerNeighbor.isEmpty && peerDevice.isEmpty && a.session.isEmpty then .ok none
  else do
    let neighborDto ← liftMerge (mkDto dto peerNeighbor a.session)
    let deviceDto ← liftMerge (mkDto dto peerDevice a.session)
    pure (some ⟨deviceDto, neighborDto, neighbor, ports⟩)

theorem executeDirectPair_eq (dto : Table) (device neighbor : String) (rule : DirectRule) (o : Bool)
    (ports allPorts : PortPairs) :
    executeDirectPair dto device neighbor rule o ports allPorts =
      pairOf dto (callDirect device neighbor rule o ports allPorts) o neighbor (some (ports.map (·.1))) := rfl

theorem executeIndirectPair_eq (dto : Table) (device connected : String) (rule : IndirectRule) (o : Bool) :
    executeIndirectPair dto device connected rule o =
      pairOf dto (if o then rule.handler device connected else rule.handler connected device) o connected none := rfl

theorem pairOf_device {dto : Table} {a : Assign} {o : Bool} {n : String} {ps : Option (List String)} {p : Pair}
    (h : pairOf dto a o n ps = .ok (some p)) : p.device = n := by
  simp only [pairOf] at h
  generalize (if o = true then a.left else a.right) = dev at h
  generalize (if o = true then a.right else a.left) = nb at h
  split at h
  · cases h
  · simp only [Except.bind_eq_ok] at h
    obtain ⟨_, _, _, _, h⟩ := h
    cases h
    rfl

theorem executeDirectPair_device {dto : Table} {device neighbor : String} {rule : DirectRule} {o : Bool}
    {ports allPorts : PortPairs} {p : Pair}
    (h : executeDirectPair dto device neighbor rule o ports allPorts = .ok (some p)) : p.device = neighbor :=
  pairOf_device (executeDirectPair_eq .. ▸ h)

theorem executeIndirectPair_device {dto : Table} {device connected : String} {rule : IndirectRule} {o : Bool} {p : Pair}
    (h : executeIndirectPair dto device connected rule o = .ok (some p)) : p.device = connected :=
  pairOf_device (executeIndirectPair_eq .. ▸ h)

def runDirectItem (dto : Table) (device : String) : DirectItem → Except ExecErr (Option (PeerKey × Pair))
  | .missing => .error .valueError
  | .app rule directOrder neighbor ports allPorts =>
    executeDirectPair dto device neighbor rule directOrder ports allPorts >>= keyed

theorem addPair_eq (dto : Table) (acc : PairState) (pair : Pair) :
    addPair dto acc pair = (peerKey pair.device pair.connected >>= fun k =>
      liftMerge (upsertWith (mergePair dto) k pair acc)) := rfl

/-- `match ← X with | none => pure acc | some pair => addPair dto acc pair`, the body of both loops, is
the generic step after `X >>= keyed` -/
theorem bind_keyed (dto : Table) (acc : PairState) (X : Except ExecErr (Option Pair))
    (F : Option Pair → Except ExecErr PairState) (hn : F none = pure acc)
    (hs : ∀ pair, F (some pair) = addPair dto acc pair) :
    (X >>= F) = ((X >>= keyed) >>= fileUnder (mergePair dto) acc) := by
  cases X with
  | error e => rfl
  | ok o =>
    cases o with
    | none => exact hn
    | some pair =>
      simp only [ok_bind, hs, keyed, addPair_eq]
      cases peerKey pair.device pair.connected <;> rfl

theorem directStep_eq (dto : Table) (device : String) :
    directStep dto device = stepG (runDirectItem dto device) (mergePair dto) := by
  funext acc item
  cases item with
  | missing => rfl
  | app => exact bind_keyed dto acc _ _ rfl fun _ => rfl

theorem lookupDirect_eq (rules : List DirectRule) (device : String) (ns : List String) :
    lookupDirect rules device ns = ns.flatMap fun n => rules.flatMap (orient device n) := rfl

theorem executeDirect_eq (dto : Table) (st : Storage) (rules : List DirectRule) (device : String) :
    executeDirect dto st rules device =
      ((st.neighbours device).flatMap (itemsFor st rules device)).foldlM
        (stepG (runDirectItem dto device) (mergePair dto)) [] := by
  simp only [executeDirect, lookupDirect_eq, itemsFor, foldlM_flatMap, directStep_eq]

theorem executeDirect_nodup {dto : Table} {st : Storage} {rules : List DirectRule} {device : String} {s : PairState}
    (h : executeDirect dto st rules device = .ok s) : (keys s).Nodup :=
  (foldlM_stepG_lookup (executeDirect_eq .. ▸ h)).1

theorem runDirectItem_device {dto : Table} {device : String} {item : DirectItem} {k : PeerKey} {p : Pair}
    (h : runDirectItem dto device item = .ok (some (k, p))) : p.device = k.1 := by
  cases item with
  | missing => cases h
  | app rule o neighbor ports allPorts => exact keyed_device h

def runIndirect (dto : Table) (device : String) (mp : MatchedIndirect) : Except ExecErr (Option (PeerKey × Pair)) :=
  executeIndirectPair dto device (if mp.directOrder then mp.nameRight else mp.nameLeft) mp.rule mp.directOrder >>= keyed

theorem indirectStep_eq (dto : Table) (device : String) :
    indirectStep dto device = stepG (runIndirect dto device) (mergePair dto) :=
  funext fun acc => funext fun _ => bind_keyed dto acc _ _ rfl fun _ => rfl

theorem lookupIndirect_eq (rules : List IndirectRule) (device : String) (devs : List String) :
    lookupIndirect rules device devs = devs.flatMap (itemsForI rules device) := rfl

theorem executeIndirect_eq (dto : Table) (st : Storage) (rules : List IndirectRule) (device : String) :
    executeIndirect dto st rules device =
      (st.allFqdns.flatMap (itemsForI rules device)).foldlM (stepG (runIndirect dto device) (mergePair dto)) [] := by
  rw [executeIndirect, indirectStep_eq, lookupIndirect_eq]

theorem executeIndirect_nodup {dto : Table} {st : Storage} {rules : List IndirectRule} {device : String} {s : PairState}
    (h : executeIndirect dto st rules device = .ok s) : (keys s).Nodup :=
  (foldlM_stepG_lookup (executeIndirect_eq .. ▸ h)).1

/-- forget which neighbour and which ports a pair belongs to -/
def strip (p : Pair) : Pair := ⟨p.loc, p.connected, "", none⟩
/-- the same session seen from the other end -/
def swapLC (p : Pair) : Pair := ⟨p.connected, p.loc, "", none⟩

theorem mergePair_strip {dto : Table} {p q r : Pair} (h : mergePair dto p q = .ok r) :
    mergePair dto (strip p) (strip q) = .ok (strip r) := by
  rw [mergePair_ok_iff] at h ⊢
  exact ⟨h.1, h.2.1, rfl, rfl⟩

theorem mergePair_swapLC {dto : Table} {p q r : Pair} (h : mergePair dto p q = .ok r) :
    mergePair dto (swapLC p) (swapLC q) = .ok (swapLC r) := by
  rw [mergePair_ok_iff] at h ⊢
  exact ⟨h.2.1, h.1, rfl, rfl⟩

theorem swapPorts_swapPorts (ps : PortPairs) : swapPorts (swapPorts ps) = ps := by
  simp [swapPorts, List.map_map, Function.comp_def]

theorem portGroups_swap (sep : Bool) (ps : PortPairs) :
    portGroups sep (swapPorts ps) = (portGroups sep ps).map swapPorts := by
  cases sep <;> simp [portGroups, swapPorts, List.map_map, Function.comp_def]

theorem OptMirror.symm {x y : Option Pair} (h : OptMirror x y) : OptMirror y x := by
  cases x <;> cases y <;> first | exact h | exact ⟨h.2.symm, h.1.symm⟩

theorem pairOf_mirror (dto : Table) (a : Assign) (o : Bool) (n n' : String) (ps ps' : Option (List String)) :
    RE OptMirror (pairOf dto a o n ps) (pairOf dto a (!o) n' ps') := by
  have key : ∀ n n' ps ps', RE OptMirror (pairOf dto a true n ps) (pairOf dto a false n' ps') := by
    intro n n' ps ps'
    simp only [pairOf, if_true, Bool.false_eq_true, if_false, Bool.and_comm a.left.isEmpty]
    split
    · trivial
    · cases liftMerge (mkDto dto a.right a.session) <;> cases liftMerge (mkDto dto a.left a.session) <;>
        first | trivial | exact ⟨rfl, rfl⟩
  cases o
  · exact RE.symm (fun _ _ => OptMirror.symm) (key n' n ps' ps)
  · exact key n n' ps ps'

theorem executeDirectPair_mirror (dto : Table) (a b : String) (rule : DirectRule) (o : Bool) (g all : PortPairs) :
    RE OptMirror (executeDirectPair dto a b rule o g all)
      (executeDirectPair dto b a rule (!o) (swapPorts g) (swapPorts all)) := by
  have hc : callDirect b a rule (!o) (swapPorts g) (swapPorts all) = callDirect a b rule o g all := by
    cases o <;> simp [callDirect, swapPorts_swapPorts]
  rw [executeDirectPair_eq, executeDirectPair_eq, hc]
  exact pairOf_mirror ..

theorem executeIndirectPair_mirror (dto : Table) (a b : String) (rule : IndirectRule) (o : Bool) :
    RE OptMirror (executeIndirectPair dto a b rule o) (executeIndirectPair dto b a rule (!o)) := by
  have hc : (if (!o) = true then rule.handler b a else rule.handler a b) =
      (if o = true then rule.handler a b else rule.handler b a) := by cases o <;> rfl
  rw [executeIndirectPair_eq, executeIndirectPair_eq, hc]
  exact pairOf_mirror ..

/-- One handler application filed at both ends: nothing at either, or a pair at `a` (satisfying `P`)
under its key and the exchanged pair at `b` under its key. -/
def KeyedMirror (a b : String) (P : Pair → Prop) (oa ob : Option (PeerKey × Pair)) : Prop :=
  (oa = none ∧ ob = none) ∨
  ∃ ka p kb q, oa = some (ka, p) ∧ ob = some (kb, q) ∧ q.loc = p.connected ∧ q.connected = p.loc ∧
    peerKey b p.connected = .ok ka ∧ peerKey a p.loc = .ok kb ∧ P p

theorem KeyedMirror.imp {a b : String} {P Q : Pair → Prop} {oa ob : Option (PeerKey × Pair)}
    (h : KeyedMirror a b P oa ob) (hPQ : ∀ p, P p → Q p) : KeyedMirror a b Q oa ob :=
  h.imp_right fun ⟨ka, p, kb, q, h1, h2, h3, h4, h5, h6, hp⟩ => ⟨ka, p, kb, q, h1, h2, h3, h4, h5, h6, hPQ p hp⟩

theorem keyed_mirror {a b : String} {X Y : Except ExecErr (Option Pair)} (hm : RE OptMirror X Y)
    (hda : ∀ p, X = .ok (some p) → p.device = b) (hdb : ∀ q, Y = .ok (some q) → q.device = a)
    {oa ob : Option (PeerKey × Pair)} (ha : (X >>= keyed) = .ok oa) (hb : (Y >>= keyed) = .ok ob) :
    KeyedMirror a b (fun p => X = .ok (some p)) oa ob := by
  obtain ⟨xa, rfl, hka⟩ := Except.bind_eq_ok.mp ha
  obtain ⟨xb, rfl, hkb⟩ := Except.bind_eq_ok.mp hb
  cases xa with
  | none =>
    cases xb with
    | none => cases hka; cases hkb; exact Or.inl ⟨rfl, rfl⟩
    | some q => exact False.elim hm
  | some p =>
    cases xb with
    | none => exact False.elim hm
    | some q =>
      simp only [keyed, hda p rfl, hdb q rfl] at hka hkb
      obtain ⟨ka, h1, rfl⟩ := map_ok_iff.mp hka
      obtain ⟨kb, h2, rfl⟩ := map_ok_iff.mp hkb
      exact Or.inr ⟨ka, p, kb, q, rfl, rfl, hm.1, hm.2, h1, hm.2 ▸ h2, rfl⟩

section Mirrored
variable {ι : Type}

theorem pick_flatMap (run : ι → Except ExecErr (Option (PeerKey × Pair))) (G : String → List ι)
    {devs : List String} (hnd : devs.Nodup) {n : String} (hn : n ∈ devs)
    (hG : ∀ x, ∀ i ∈ G x, ∀ k v, run i = .ok (some (k, v)) → k.1 = x) (k : PeerKey) (hk : k.1 = n) :
    (devs.flatMap G).filterMap (pick run k) = (G n).filterMap (pick run k) := by
  rw [List.filterMap_flatMap]
  apply flatMap_eq_of_nodup _ n _ hnd hn
  intro x _ hx
  rw [List.filterMap_eq_nil_iff]
  intro item hitem
  cases hp : pick run k item with
  | none => rfl
  | some v => exact absurd ((hG x item hitem k v (pick_eq_some hp)).symm.trans hk) hx

/-- **Mirrored sessions, for two runs of the generic loop.**  `a` runs the applications `GA x` towards each device `x`
of `devsA`, `b` runs `GB x` for `x` in `devsB`; the applications of `b` towards `a` are the mirror images of those of
`a` towards `b` (`hperm`); an application and its mirror image produce nothing at both ends or the same two DTOs
exchanged (`hmir`); both ends group the results under their keys alike (`hcompat`); merging pairs stripped of
neighbour and ports is order independent (`hL`). -/
theorem stepG_mirrored (dto : Table) (hL : Laws (mergePair dto) (PairEqv dto) (fun p => p.device = "") True)
    {a b : String}
    {runA runB : ι → Except ExecErr (Option (PeerKey × Pair))} {mirror : ι → ι}
    {GA GB : String → List ι} {devsA devsB : List String} {P : Pair → Prop}
    (hndA : devsA.Nodup) (hbA : b ∈ devsA) (hndB : devsB.Nodup) (haB : a ∈ devsB)
    (hkA : ∀ x, ∀ i ∈ GA x, ∀ k v, runA i = .ok (some (k, v)) → k.1 = x)
    (hkB : ∀ x, ∀ i ∈ GB x, ∀ k v, runB i = .ok (some (k, v)) → k.1 = x)
    (hperm : (GB a).Perm ((GA b).map mirror))
    (hmir : ∀ i ∈ GA b, ∀ {oa ob}, runA i = .ok oa → runB (mirror i) = .ok ob → KeyedMirror a b P oa ob)
    (hcompat : ∀ p1, P p1 → ∀ p2, P p2 → ∀ k1 k2 k1' k2',
      peerKey b p1.connected = .ok k1 → peerKey b p2.connected = .ok k2 →
      peerKey a p1.loc = .ok k1' → peerKey a p2.loc = .ok k2' → (k1 = k2 ↔ k1' = k2'))
    {sA sB : PairState} (hA : (devsA.flatMap GA).foldlM (stepG runA (mergePair dto)) [] = .ok sA)
    (hB : (devsB.flatMap GB).foldlM (stepG runB (mergePair dto)) [] = .ok sB)
    (k : PeerKey) (p : Pair) (hp : lookup k sA = some p) (hk : k.1 = b) :
    ∃ k' q, lookup k' sB = some q ∧ k'.1 = a ∧
      EquivFields dto q.loc p.connected ∧ EquivFields dto q.connected p.loc := by
  have hallA := ((foldlM_stepG_ok ..).mp hA).1
  have hallB := ((foldlM_stepG_ok ..).mp hB).1
  have memA : ∀ i ∈ GA b, i ∈ devsA.flatMap GA := fun _ hi => List.mem_flatMap.mpr ⟨b, hbA, hi⟩
  have memB : ∀ i ∈ GA b, mirror i ∈ devsB.flatMap GB := fun i hi =>
    List.mem_flatMap.mpr ⟨a, haB, hperm.mem_iff.mpr (List.mem_map.mpr ⟨i, hi, rfl⟩)⟩
  -- the fold behind `p`
  have fA := (foldlM_stepG_lookup hA).2 k
  rw [pick_flatMap runA GA hndA hbA hkA k hk, hp] at fA
  -- a first application filed under `k`
  have hne : (GA b).filterMap (pick runA k) ≠ [] := by
    intro e; rw [e] at fA; cases fA
  obtain ⟨v0, hv0⟩ := List.exists_mem_of_ne_nil _ hne
  obtain ⟨item0, hitem0, hpick0⟩ := List.mem_filterMap.mp hv0
  -- its key at `a` is `k`; call its key at `b` `k'`
  obtain ⟨ob0, hob0⟩ := hallB _ (memB item0 hitem0)
  rcases hmir item0 hitem0 (pick_eq_some hpick0) hob0 with ⟨h, _⟩ | ⟨ka0, p0, k', q0, h1, _, _, _, hka0, hkb0, hp0⟩
  · cases h
  cases h1
  have hk'a : k'.1 = a := peerKey_fst hkb0
  -- the fold at `b` under `k'`
  have fB := (foldlM_stepG_lookup hB).2 k'
  rw [pick_flatMap runB GB hndB haB hkB k' hk'a] at fB
  -- element by element, `b` files the exchanged pair under `k'` exactly when `a` files the pair under `k`
  have helem : ∀ item ∈ GA b, (pick runB k' (mirror item)).map strip = (pick runA k item).map swapLC := by
    intro item hi
    obtain ⟨oa, hoa⟩ := hallA _ (memA item hi)
    obtain ⟨ob, hob⟩ := hallB _ (memB item hi)
    simp only [pick, kvOf_of_run hoa, kvOf_of_run hob]
    rcases hmir item hi hoa hob with ⟨rfl, rfl⟩ | ⟨ka, p1, kb, q1, rfl, rfl, hl, hcn, hka1, hkb1, hp1⟩
    · rfl
    · have hiff := hcompat p1 hp1 v0 hp0 ka k kb k' hka1 hka0 hkb1 hkb0
      by_cases hkk : ka = k
      · simp [hkk, hiff.mp hkk, strip, swapLC, hl, hcn]
      · simp [hkk, mt hiff.mpr hkk]
  have hVB : (((GB a).filterMap (pick runB k')).map strip).Perm (((GA b).filterMap (pick runA k)).map swapLC) := by
    refine ((hperm.filterMap (pick runB k')).map strip).trans (List.Perm.of_eq ?_)
    rw [List.filterMap_map, List.map_filterMap, List.map_filterMap]
    exact List.filterMap_congr' helem
  -- forget device/ports at `b`, exchange the sides at `a`, and compare the two folds of the same operands
  have fA' := foldKey_hom_ok (g := mergePair dto) swapLC (fun _ _ _ h => mergePair_swapLC h) _ _ _ fA
  have fB' := foldKey_hom_ok (g := mergePair dto) strip (fun _ _ _ h => mergePair_strip h) _ _ _ fB
  have hcmp := foldKey_perm hL trivial hVB
    (by intro v hv; obtain ⟨_, _, rfl⟩ := List.mem_map.mp hv; rfl) none trivial
  simp only [Option.map_none, Option.map_some] at fA' fB'
  rw [fB', fA'] at hcmp
  cases hq : lookup k' sB with
  | none => rw [hq] at hcmp; exact hcmp.elim
  | some q => rw [hq] at hcmp; exact ⟨k', q, hq, hk'a, hcmp.1, hcmp.2.1⟩

end Mirrored

/-- the same application seen from the other end `a` -/
def mirrorItem (a : String) : DirectItem → DirectItem
  | .missing => .missing
  | .app r o _ g all => .app r (!o) a (swapPorts g) (swapPorts all)

theorem itemsFor_mirror (st : Storage) (rules : List DirectRule) (a b : String)
    (hc : st.conns b a = swapPorts (st.conns a b)) (ha : st.known a = true) (hb : st.known b = true) :
    (itemsFor st rules b a).Perm ((itemsFor st rules a b).map (mirrorItem a)) := by
  simp only [itemsFor, List.map_flatMap]
  apply List.perm_flatMap_left
  intro r _
  have e1 : directItems st b ⟨r, false, a, b⟩ = (directItems st a ⟨r, true, a, b⟩).map (mirrorItem a) := by
    simp [directItems, ha, hb, hc, portGroups_swap, List.map_map, Function.comp_def, mirrorItem]
  have e2 : directItems st b ⟨r, true, b, a⟩ = (directItems st a ⟨r, false, b, a⟩).map (mirrorItem a) := by
    simp [directItems, ha, hb, hc, portGroups_swap, List.map_map, Function.comp_def, mirrorItem]
  simp only [orient]
  by_cases h1 : r.isMatch a b = true <;> by_cases h2 : r.isMatch b a = true <;>
    simp only [h1, h2, if_true, if_false, List.flatMap_append, List.flatMap_cons, List.flatMap_nil,
      List.append_nil, List.nil_append, e1, e2, Bool.false_eq_true]
  · exact List.perm_append_comm
  · exact List.Perm.refl _
  · exact List.Perm.refl _
  · exact List.Perm.refl _

theorem mem_itemsFor_neighbor {st : Storage} {rules : List DirectRule} {device n : String} {item : DirectItem}
    (h : item ∈ itemsFor st rules device n) :
    item = .missing ∨ ∃ r o g all, item = .app r o n g all := by
  simp only [itemsFor, orient, List.mem_flatMap] at h
  obtain ⟨r, _, mp, hmp, hi⟩ := h
  simp only [List.mem_append] at hmp
  rcases hmp with hmp | hmp
  all_goals
    split at hmp
    · simp only [List.mem_singleton] at hmp
      subst hmp
      simp only [directItems, if_true, Bool.false_eq_true, if_false] at hi
      split at hi
      · simp only [List.mem_map] at hi
        obtain ⟨g, _, rfl⟩ := hi
        exact Or.inr ⟨_, _, _, _, rfl⟩
      · simp only [List.mem_singleton] at hi
        exact Or.inl hi
    · simp at hmp

theorem runDirectItem_key {dto : Table} {st : Storage} {rules : List DirectRule} {device x : String}
    {item : DirectItem} (hi : item ∈ itemsFor st rules device x) {k : PeerKey} {v : Pair}
    (h : runDirectItem dto device item = .ok (some (k, v))) : k.1 = x := by
  rcases mem_itemsFor_neighbor hi with rfl | ⟨r, o, g, all, rfl⟩
  · cases h
  · exact (keyed_device h).symm.trans (executeDirectPair_device (keyed_bind_ok h).1)

theorem run_mirror (dto : Table) (st : Storage) (rules : List DirectRule) (a b : String) {item : DirectItem}
    (hi : item ∈ itemsFor st rules a b) {oa ob : Option (PeerKey × Pair)}
    (ha : runDirectItem dto a item = .ok oa) (hb : runDirectItem dto b (mirrorItem a item) = .ok ob) :
    KeyedMirror a b (· ∈ directPairs dto st rules a b) oa ob := by
  rcases mem_itemsFor_neighbor hi with rfl | ⟨r, o, g, all, rfl⟩
  · cases ha
  · refine (keyed_mirror (executeDirectPair_mirror dto a b r o g all) (fun _ => executeDirectPair_device)
      (fun _ => executeDirectPair_device) ha hb).imp fun p hp => ?_
    exact List.mem_filterMap.mpr ⟨_, hi, by simp [hp]⟩

def mirrorI (mp : MatchedIndirect) : MatchedIndirect := ⟨mp.rule, !mp.directOrder, mp.nameLeft, mp.nameRight⟩

theorem itemsForI_mirror (rules : List IndirectRule) (a b : String) :
    (itemsForI rules b a).Perm ((itemsForI rules a b).map mirrorI) := by
  simp only [itemsForI, List.map_flatMap]
  apply List.perm_flatMap_left
  intro r _
  simp only [orientI]
  by_cases h1 : r.isMatch a b = true <;> by_cases h2 : r.isMatch b a = true <;>
    simp [h1, h2, mirrorI]
  exact List.Perm.swap _ _ _

theorem mem_itemsForI {rules : List IndirectRule} {device n : String} {mp : MatchedIndirect}
    (h : mp ∈ itemsForI rules device n) : (if mp.directOrder then mp.nameRight else mp.nameLeft) = n := by
  simp only [itemsForI, orientI, List.mem_flatMap, List.mem_append] at h
  obtain ⟨r, _, h | h⟩ := h
  all_goals
    split at h
    · simp only [List.mem_singleton] at h; subst h; simp
    · simp at h

theorem runIndirect_key {dto : Table} {rules : List IndirectRule} {device x : String} {mp : MatchedIndirect}
    (hi : mp ∈ itemsForI rules device x) {k : PeerKey} {v : Pair}
    (h : runIndirect dto device mp = .ok (some (k, v))) : k.1 = x := by
  rw [runIndirect, mem_itemsForI hi] at h
  exact (keyed_device h).symm.trans (executeIndirectPair_device (keyed_bind_ok h).1)

theorem runI_mirror (dto : Table) (rules : List IndirectRule) (a b : String) {mp : MatchedIndirect}
    (hi : mp ∈ itemsForI rules a b) {oa ob : Option (PeerKey × Pair)}
    (ha : runIndirect dto a mp = .ok oa) (hb : runIndirect dto b (mirrorI mp) = .ok ob) :
    KeyedMirror a b (· ∈ indirectPairs dto rules a b) oa ob := by
  have hn := mem_itemsForI hi
  have hn' := mem_itemsForI ((itemsForI_mirror rules a b).mem_iff.mpr (List.mem_map_of_mem hi))
  rw [runIndirect, hn] at ha
  rw [runIndirect, hn'] at hb
  refine (keyed_mirror (executeIndirectPair_mirror dto a b mp.rule mp.directOrder) (fun _ => executeIndirectPair_device)
    (fun _ => executeIndirectPair_device) ha hb).imp fun p hp => ?_
  exact List.mem_filterMap.mpr ⟨_, hi, by simp [hp]⟩

theorem mergeMany_perm (t : Table) (hwf : (Merger.merge t).WF) (hs : (Merger.merge t).Sym)
    (hd : (Merger.merge t).DictFree) (first : Fields) {l l' : List Fields} (hp : l.Perm l') :
    RE (EquivFields t) (mergeMany t first l) (mergeMany t first l') := by
  rw [mergeMany_eq_foldlM, mergeMany_eq_foldlM]
  exact (mergeFields_laws_df hwf hd).foldlM_perm hs hp (fun _ _ => trivial) first trivial

end Annet.Mesh
