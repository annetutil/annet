/-
Exclusive ownership: the exclusive mode of `match_row_to_acl` and of `apply_acl` against the lenient one — it raises at the
document-order first row two generators may delete (`conflictNames`, `firstConflict`) and otherwise returns the same.
-/
import AnnetModel.Spec.Gen
import AnnetModel.Lemmas.Acl

namespace Annet.Gen.Lemmas
open Annet Annet.Acl Annet.Acl.Spec Annet.Acl.Lemmas Annet.Gen.Spec

theorem matchRow_excl (v : Vendor) (row : String) (rules : Rules) :
    matchRowToAcl v row rules true =
      (match conflictNames v rules row with
       | some ns => .error (.notExclusive [] ns)
       | none => matchRowToAcl v row rules false) := by
  rw [matchRowToAcl, matchRowToAcl, conflictNames]
  cases hf : findMatches v row rules with
  | none => rfl
  | some ms =>
    cases ms with
    | nil => simp [canDeleteNames]
    | cons m rest =>
      simp only [Bool.true_and, Bool.false_and, Bool.false_eq_true, if_false]
      by_cases hc : (canDeleteNames (m :: rest)).length > 1
      · simp [hc]
      · simp [hc]

mutual
  theorem excl_cfg (v : Vendor) (rules : Rules) (path : List String) :
      (t t0 : Cfg) → applyAcl v false false rules path t = .ok t0 →
        applyAcl v false true rules path t =
          (match firstConflict v rules path t with
           | some (p, ns) => .error (.notExclusive p ns)
           | none => .ok t0)
    | .mk ks, t0, h => by
      obtain ⟨ks0, hl, rfl⟩ := (applyAcl_ok_iff ..).1 h
      have := excl_list v rules path ks ks0 hl
      rw [applyAcl, this, firstConflict]
      cases firstConflictL v rules path ks <;> rfl
  theorem excl_list (v : Vendor) (rules : Rules) (path : List String) :
      (ks ks0 : List (String × Cfg)) → applyAclList v false false rules path ks = .ok ks0 →
        applyAclList v false true rules path ks =
          (match firstConflictL v rules path ks with
           | some (p, ns) => .error (.notExclusive p ns)
           | none => .ok ks0)
    | [], ks0, h => by
      simp only [applyAclList, Except.ok.injEq] at h
      subst h; rfl
    | (row, ch) :: rest, ks0, h => by
      rw [applyAclList, firstConflictL, matchRow_excl]
      cases hcn : conflictNames v rules row with
      | some ns => rfl
      | none =>
        simp only
        rcases applyAclList_cons_inv h with ⟨hp, hm | ⟨m, cr, hm, hc⟩, hr⟩ |
          ⟨m, cr, ch', rest', hm, hc, hp, hch, hrest, rfl⟩
        · have ih := excl_list v rules path rest ks0 hr
          simp only [hm, hp, Bool.false_eq_true, if_false, ih]
        · have ih := excl_list v rules path rest ks0 hr
          simp only [hm, hp, hc, if_true, ih]
        · have ih1 := excl_cfg v cr (path ++ [row]) ch ch' hch
          have ih2 := excl_list v rules path rest rest' hrest
          simp only [hm, hp, hc, Bool.false_eq_true, if_false, ih1, ih2]
          cases firstConflict v cr (path ++ [row]) ch with
          | some q => rfl
          | none =>
            cases firstConflictL v rules path rest <;> rfl
end

end Annet.Gen.Lemmas
