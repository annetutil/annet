/-
C14: the offside parser recovers the block structure the rows were yielded in.  A stream of blocks
is a two-level forest rendered at width 2 (`asForest`), so this is `FormatSplit.Lemmas.stacks_itemsL` (C04).
-/
import AnnetModel.Lemmas.FormatSplitOffside
import AnnetModel.Model.RplRun
import AnnetModel.Spec.RplCover

namespace Annet.Rpl.Lemmas
open Annet Annet.Offside
open Annet.FormatSplit (items itemsL)

/-- what the stream of a block-structured generator looks like after `PartialGenerator._append_text`: header rows at
column 0, the rows yielded inside `with self.block(header)` at column 2 -/
def blockItems : List (String × List String) → List Item
  | [] => []
  | (h, cs) :: bs => .text 0 h :: (cs.map (Item.text 2 ·) ++ blockItems bs)

def asForest (bs : List (String × List String)) : List (String × Cfg) :=
  bs.map fun b => (b.1, .mk (b.2.map fun c => (c, .mk [])))

theorem itemsL_leaves (w d : Nat) (cs : List String) :
    itemsL w d (cs.map fun c => (c, Cfg.mk [])) = cs.map (Item.text (w * d) ·) := by
  induction cs with
  | nil => rfl
  | cons c cs ih => simp [itemsL, items, ih]

theorem pathsList_leaves (cs : List String) :
    Cfg.pathsList (cs.map fun c => (c, Cfg.mk [])) = cs.map ([·]) := by
  induction cs with
  | nil => rfl
  | cons c cs ih => simp [Cfg.pathsList, Cfg.paths, ih]

theorem blockItems_eq (bs : List (String × List String)) : blockItems bs = itemsL 2 0 (asForest bs) := by
  induction bs with
  | nil => rfl
  | cons b bs ih =>
    obtain ⟨h, cs⟩ := b
    simp only [blockItems, asForest, List.map_cons, itemsL, items, itemsL_leaves] at ih ⊢
    rw [ih]

theorem blockPaths_eq (bs : List (String × List String)) : blockPaths bs = Cfg.pathsList (asForest bs) := by
  induction bs with
  | nil => rfl
  | cons b bs ih =>
    obtain ⟨h, cs⟩ := b
    simp only [blockPaths, asForest, List.map_cons, Cfg.pathsList, Cfg.paths, pathsList_leaves] at ih ⊢
    rw [ih]
    simp

theorem blocks_stacks (bs : List (String × List String)) : stacks (blockItems bs) = .ok (blockPaths bs) := by
  rw [blockItems_eq, blockPaths_eq]
  exact FormatSplit.Lemmas.stacks_itemsL 2 (by decide) _

theorem classify_row (n : Nat) (body : List Char) (hb : CleanBody body) :
    classify FormatSplit.comments (String.ofList (List.replicate n ' ' ++ body)) = .text n (String.ofList body) := by
  obtain ⟨c, rest, rfl⟩ := List.exists_cons_of_ne_nil hb.ne
  obtain ⟨hc, hbang, hhash⟩ := hb.first c rest rfl
  refine FormatSplit.Lemmas.classify_clean n c rest hc hbang hhash ?_
  cases hl : (c :: rest).getLast? with
  | none => rfl
  | some d => simpa using hb.last d hl

theorem classify_blocks (bs : List (Str × List Str))
    (hclean : ∀ b ∈ bs, CleanBody b.1 ∧ ∀ c ∈ b.2, CleanBody c) :
    (renderBlocks bs).map (classify FormatSplit.comments) = blockItems (blocksAsStrings bs) := by
  induction bs with
  | nil => rfl
  | cons b bs ih =>
    obtain ⟨h, cs⟩ := b
    have hb := hclean (h, cs) (by simp)
    have hh := classify_row 0 h hb.1
    simp only [List.replicate_zero, List.nil_append] at hh
    simp only [renderBlocks, blocksAsStrings, List.map_cons, List.map_append, List.map_map, blockItems, hh]
    congr 1
    rw [show List.map (fun b => (String.ofList b.fst, List.map String.ofList b.snd)) bs = blocksAsStrings bs from rfl,
      ← ih (fun b' hb' => hclean b' (by simp [hb']))]
    congr 1
    apply List.map_congr_left
    intro c hc
    simp only [Function.comp]
    exact classify_row 2 c (hb.2 c hc)

theorem parse_blocks (bs : List (Str × List Str)) (hclean : ∀ b ∈ bs, CleanBody b.1 ∧ ∀ c ∈ b.2, CleanBody c) :
    parseToTree ["!", "#"] (renderBlocks bs) = .ok (treeOfStacks (blockPaths (blocksAsStrings bs))) := by
  show parseToTree FormatSplit.comments _ = _
  unfold parseToTree parseItems
  rw [classify_blocks bs hclean, blocks_stacks]

end Annet.Rpl.Lemmas
