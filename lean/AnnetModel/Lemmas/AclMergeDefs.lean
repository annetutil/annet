/-
Vocabulary of `C06_merge_monotone_partial` (C06, third clause, positive part).
-/
import AnnetModel.Spec.Acl

namespace Annet.Acl.Spec
open Annet Annet.Acl Annet.Pattern Annet.Offside

mutual
  /-- no `%global` and no ignore rule anywhere in a raw ACL tree -/
  def PlainRaw : RawRule → Bool
    | .mk _ ignore isGlobal _ _ _ children => !ignore && !isGlobal && PlainRawL children
  def PlainRawL : List RawRule → Bool
    | [] => true
    | r :: rest => PlainRaw r && PlainRawL rest
end

mutual
  /-- no rule row begins with the vendor's negation word -/
  def NoNegRule (v : Vendor) : RawRule → Bool
    | .mk row _ _ _ _ _ children => !((v.reverse ++ " ").toList.isPrefixOf row.toList) && NoNegRuleL v children
  def NoNegRuleL (v : Vendor) : List RawRule → Bool
    | [] => true
    | r :: rest => NoNegRule v r && NoNegRuleL v rest
end

/-- the vendor's negation word is an ordinary literal word of the rule language: non-empty, no blank,
no pattern / regex metacharacter (so it is neither `*` nor `~` and carries no `(?i)` flag) -/
def plainWord (w : List Char) : Bool := !w.isEmpty && !w.any isMeta && !w.any pyIsSpace

/-- a configuration row is in *negated form*: as the matcher sees it (after `jun_activate` for Juniper),
it begins with the negation word — compared as a `(?i)` rule would, ignoring ASCII case — followed by
a whitespace character -/
def negForm (v : Vendor) (row : String) : Bool :=
  match stripLit true v.reverse.toList (if v.juniper then junActivate row else row).toList with
  | some (c :: _) => pyIsSpace c
  | _ => false

mutual
  /-- no configuration row is in negated form -/
  def NoNegRow (v : Vendor) : Cfg → Bool
    | .mk ks => NoNegRowL v ks
  def NoNegRowL (v : Vendor) : List (String × Cfg) → Bool
    | [] => true
    | (row, ch) :: rest => !negForm v row && NoNegRow v ch && NoNegRowL v rest
end

end Annet.Acl.Spec
