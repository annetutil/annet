/-
`Orderer.get_order` for plain ordering rulebooks (C08): the rank of a command is the index of the (unique) rule matching it.
The loop over a concatenation is the loop over its parts (`go_append`), and rules that do not match leave the state alone
(`go_nomatch`).
-/
import AnnetModel.Spec.Order

namespace Annet.Patch
open Annet.Rules Annet.Pattern

theorem getOrderStep_nomatch (v : Vendor) (row : String) (scope : Option String) (st : OState) (k : Nat) (r : ORule)
    (hp : PlainO v r) (hex : v.exit = "" ∨ v.exit ≠ row) (hm : oMatches v r row = false) :
    getOrderStep v row scope st k r = some st := by
  obtain ⟨h1, h2, h3, h4, h5⟩ := hp
  obtain ⟨dp, hdp⟩ := Option.isSome_iff_exists.mp h4
  obtain ⟨rp, hrp⟩ := Option.isSome_iff_exists.mp h5
  have hex' : ¬ (¬ v.exit = "" ∧ v.exit = row) := by
    rcases hex with h | h <;> simp [h]
  simp only [oMatches, hdp, hrp, Option.bind_some, Bool.or_eq_false_iff] at hm
  simp only [getOrderStep, h1, h2, h3, hdp, hrp]
  simp [hm.1, hm.2, hex']

theorem getOrderStep_match (v : Vendor) (row : String) (scope : Option String) (st : OState) (k : Nat) (r : ORule)
    (hp : PlainO v r) (hm : oMatches v r row = true) (hn : st.fOrder = none) :
    ∃ w, getOrderStep v row scope st k r =
      some { fOrder := some (.fin k), fWeight := w, direct := st.direct, children := st.children ++ r.children } := by
  obtain ⟨h1, h2, h3, h4, h5⟩ := hp
  obtain ⟨dp, hdp⟩ := Option.isSome_iff_exists.mp h4
  obtain ⟨rp, hrp⟩ := Option.isSome_iff_exists.mp h5
  simp only [oMatches, hdp, hrp, Option.bind_some, Bool.or_eq_true] at hm
  refine ⟨weight row (if (dp.match? row.toList).isSome then dp else rp), ?_⟩
  simp only [getOrderStep, h1, h2, h3, hdp, hrp]
  simp [hm, hn]

theorem go_nomatch (v : Vendor) (row : String) (scope : Option String) (hex : v.exit = "" ∨ v.exit ≠ row) :
    ∀ (rs : List ORule) (k : Nat) (st : OState), (∀ r ∈ rs, PlainO v r) → (∀ r ∈ rs, oMatches v r row = false) →
      getOrder.go v row scope rs k st = some st
  | [], _, _, _, _ => rfl
  | r :: rs, k, st, hp, hu => by
    rw [getOrder.go, getOrderStep_nomatch v row scope st k r (hp r List.mem_cons_self) hex (hu r List.mem_cons_self)]
    exact go_nomatch v row scope hex rs (k + 1) st (fun x hx => hp x (List.mem_cons_of_mem _ hx))
      (fun x hx => hu x (List.mem_cons_of_mem _ hx))

theorem go_append (v : Vendor) (row : String) (scope : Option String) (l₁ l₂ : List ORule) :
    ∀ (k : Nat) (st : OState), getOrder.go v row scope (l₁ ++ l₂) k st =
      (getOrder.go v row scope l₁ k st).bind (getOrder.go v row scope l₂ (k + l₁.length)) := by
  induction l₁ with
  | nil => intro k st; rfl
  | cons r rs ih =>
    intro k st
    rw [List.cons_append, getOrder.go, getOrder.go]
    cases getOrderStep v row scope st k r with
    | none => rfl
    | some st' => simp only [ih, List.length_cons, Nat.add_comm rs.length 1, Nat.add_assoc]

theorem getOrder_unique (v : Vendor) (rb : List ORule) (row : String) (cmdDirect : Bool) (scope : Option String)
    (hp : ∀ r ∈ rb, PlainO v r) (hex : v.exit = "" ∨ v.exit ≠ row)
    (i : Nat) (ri : ORule) (hi : rb[i]? = some ri) (hm : oMatches v ri row = true)
    (hu : ∀ j rj, rb[j]? = some rj → j ≠ i → oMatches v rj row = false) :
    getOrder v rb row cmdDirect scope = some { order := .fin i, direct := cmdDirect, children := dedupLast ri.children } := by
  -- the rules before `ri` and those after it leave the state alone (`go_nomatch`)
  obtain ⟨hlt, hri⟩ := List.getElem?_eq_some_iff.mp hi
  have hsplit : rb = rb.take i ++ ri :: rb.drop (i + 1) := by rw [← hri]; simp
  have hpre : ∀ r ∈ rb.take i, oMatches v r row = false := fun r hr => by
    obtain ⟨j, hj, rfl⟩ := List.mem_take_iff_getElem.mp hr
    exact hu j _ (List.getElem?_eq_getElem _) (by omega)
  have hpost : ∀ r ∈ rb.drop (i + 1), oMatches v r row = false := fun r hr => by
    obtain ⟨j, hj, rfl⟩ := List.mem_drop_iff_getElem.mp hr
    exact hu (i + 1 + j) _ (List.getElem?_eq_getElem _) (by omega)
  obtain ⟨w, hw⟩ := getOrderStep_match v row scope { direct := cmdDirect } i ri (hp _ (List.mem_of_getElem? hi)) hm rfl
  rw [getOrder, hsplit, go_append, go_nomatch v row scope hex _ 0 _ (fun r hr => hp r (List.mem_of_mem_take hr)) hpre]
  simp only [Option.bind_some, getOrder.go, List.length_take, Nat.zero_add, Nat.min_eq_left (Nat.le_of_lt hlt), hw,
    go_nomatch v row scope hex _ _ _ (fun r hr => hp r (List.mem_of_mem_drop hr)) hpost]
  simp

theorem signed_negated_before_direct (i j : Nat) (hi : 0 < i) : (signed (.fin i) false).lt (signed (.fin j) true) = true := by
  simp [signed, SOrd.lt]; omega

/-! non-vacuity: a three-rule plain rulebook and a negated command matched by the third rule only -/
section NonVacuity
private def exV : Vendor := { reverse := "no", exit := "exit" }
private def exC : ORule := .mk "c *" "c *" false false none [.mk "d" "d" false false none []]
private def exRb : List ORule := [.mk "a *" "a *" false false none [], .mk "b" "b" false false none [], exC]

private instance (v : Vendor) (r : ORule) : Decidable (PlainO v r) := by unfold PlainO; infer_instance

private theorem exRb_third_only :
    (∀ r ∈ exRb, PlainO exV r) ∧ (exV.exit = "" ∨ exV.exit ≠ "no c 1") ∧ exRb[2]? = some exC ∧
      oMatches exV exC "no c 1" = true ∧ (∀ j rj, exRb[j]? = some rj → j ≠ 2 → oMatches exV rj "no c 1" = false) := by
  refine ⟨by decide +kernel, by decide +kernel, rfl, by decide +kernel, ?_⟩
  intro j rj hj hne
  match j, hj, hne with
  | 0, hj, _ => cases hj; decide +kernel
  | 1, hj, _ => cases hj; decide +kernel
  | 2, _, hne => exact absurd rfl hne
  | _ + 3, hj, _ => simp [exRb] at hj

example :
    (∀ r ∈ exRb, PlainO exV r) ∧ (exV.exit = "" ∨ exV.exit ≠ "no c 1") ∧ exRb[2]? = some exC ∧
      oMatches exV exC "no c 1" = true ∧ (∀ j rj, exRb[j]? = some rj → j ≠ 2 → oMatches exV rj "no c 1" = false) :=
  exRb_third_only

example : getOrder exV exRb "no c 1" false none
    = some { order := .fin 2, direct := false, children := dedupLast exC.children } := by
  obtain ⟨hp, hex, hi, hm, hu⟩ := exRb_third_only
  exact getOrder_unique exV exRb "no c 1" false none hp hex 2 exC hi hm hu
end NonVacuity

end Annet.Patch
