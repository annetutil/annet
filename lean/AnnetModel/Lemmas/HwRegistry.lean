/-
C18, `Registry.match` (`Model/Hw.lean`, vendors/registry.py): only the head of the sorted list is read, and it has a
closed form (`head?_insertDesc`); the matched items as a `filterMap` (`matchedList_eq`).
-/
import AnnetModel.Model.Hw
import AnnetModel.Spec.HwChecks

namespace Annet.Hw.Lemmas
open Annet.Hw

variable {α : Type} [DecidableEq α] {ν : Type}

theorem head?_insertDesc (x : ν × Nat) (l : List (ν × Nat)) :
    (insertDesc x l).head? = some (match l.head? with
      | some y => if y.2 > x.2 then y else x
      | none => x) := by
  cases l with
  | nil => rfl
  | cons y ys => rw [insertDesc]; split <;> simp [*]

theorem sortDesc_head_none {l : List (ν × Nat)} : (sortDesc l).head? = none ↔ l = [] := by
  cases l with
  | nil => simp [sortDesc]
  | cons x xs => simp [sortDesc, head?_insertDesc]

theorem sortDesc_head : ∀ {l : List (ν × Nat)} {a : ν × Nat}, (sortDesc l).head? = some a →
    a ∈ l ∧ ∀ b ∈ l, b.2 ≤ a.2
  | [], _, h => by simp [sortDesc] at h
  | x :: xs, a, h => by
    rw [sortDesc, head?_insertDesc, Option.some.injEq] at h
    cases hy : (sortDesc xs).head? with
    | none =>
      obtain rfl := sortDesc_head_none.mp hy
      simp_all
    | some y =>
      obtain ⟨hmem, hmax⟩ := sortDesc_head hy
      rw [hy] at h
      dsimp only at h
      simp only [List.mem_cons, forall_eq_or_imp]
      split at h <;> subst h
      · next hlt => exact ⟨.inr hmem, Nat.le_of_lt hlt, hmax⟩
      · next hge => exact ⟨.inl rfl, Nat.le_refl _, fun b hb => Nat.le_trans (hmax b hb) (Nat.le_of_not_lt hge)⟩

theorem pick_perm {ms ms' : List (ν × Nat)} (hp : ms.Perm ms') (hu : UniqueBest ms) :
    (sortDesc ms).head?.map (·.1) = (sortDesc ms').head?.map (·.1) := by
  cases h : (sortDesc ms).head? with
  | none =>
    rw [sortDesc_head_none.mp h] at hp
    rw [← hp.nil_eq]; rfl
  | some a =>
    cases h' : (sortDesc ms').head? with
    | none =>
      rw [sortDesc_head_none.mp h'] at hp
      rw [hp.eq_nil] at h; cases h
    | some b =>
      obtain ⟨ha, hamax⟩ := sortDesc_head h
      obtain ⟨hb, hbmax⟩ := sortDesc_head h'
      exact congrArg some (hu a b ha (hp.mem_iff.mpr hb) hamax fun c hc => hbmax c (hp.mem_iff.mp hc))

/-- the matched items when no look-up fails -/
def matchedPure (h : HwSets α) (items : List (ν × List α × Nat)) : List (ν × Nat) :=
  items.filterMap fun it => if hwMatchPath h it.2.1 = some true then some (it.1, it.2.2) else none

theorem matchedItems_eq (h : HwSets α) (items : List (ν × List α × Nat)) :
    matchedItems h items =
      if ∃ it ∈ items, hwMatchPath h it.2.1 = none then none else some (matchedPure h items) := by
  induction items with
  | nil => simp [matchedItems, matchedPure]
  | cons it rest ih =>
    obtain ⟨v, p, d⟩ := it
    simp only [matchedItems, ih, matchedPure, List.mem_cons, exists_eq_or_imp, List.filterMap_cons]
    cases hwMatchPath h p with
    | none => simp
    | some b => cases b <;> simp only [reduceCtorEq, false_or, if_true] <;> split <;> simp

theorem matchedList_eq (h : HwSets α) (vs : List (ν × List (List α × Nat))) :
    matchedList h vs =
      if ∃ it ∈ vendorItems vs, hwMatchPath h it.2.1 = none then none else some (matchedPure h (vendorItems vs)) :=
  matchedItems_eq h _

theorem matchedList_of_ne_none {h : HwSets α} {vs : List (ν × List (List α × Nat))}
    (hv : ∀ it ∈ vendorItems vs, hwMatchPath h it.2.1 ≠ none) :
    matchedList h vs = some (matchedPure h (vendorItems vs)) := by
  rw [matchedList_eq, if_neg fun ⟨it, hi, hn⟩ => hv it hi hn]

theorem mem_matchedList {h : HwSets α} {vs : List (ν × List (List α × Nat))} {ms : List (ν × Nat)}
    (hm : matchedList h vs = some ms) {v : ν} {d : Nat} :
    (v, d) ∈ ms ↔ ∃ items p, (v, items) ∈ vs ∧ (p, d) ∈ items ∧ hwMatchPath h p = some true := by
  rw [matchedList_eq] at hm
  split at hm
  · cases hm
  · cases hm
    simp only [matchedPure, List.mem_filterMap, vendorItems, List.mem_flatMap, List.mem_map, Option.ite_none_right_eq_some, Option.some.injEq]
    constructor
    · rintro ⟨_, ⟨ve, hve, it, hit, rfl⟩, ht, heq⟩
      cases heq
      exact ⟨ve.2, it.1, hve, hit, ht⟩
    · rintro ⟨items, p, hv, hi, ht⟩
      exact ⟨(v, p, d), ⟨(v, items), hv, (p, d), hi, rfl⟩, ht, rfl⟩

end Annet.Hw.Lemmas
