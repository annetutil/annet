/-
`common.multiline_diff`: which rows get an entry, with which op, and what the children of an entry are, all read off the
closed form of the loop (`multilineDiffWith_eq`).
-/
import AnnetModel.Spec.MultilineSub
import AnnetModel.Lemmas.Sort

namespace Annet.Multiline
open Annet
open Annet.Diff (Op)

mutual
  theorem beq_eq : ∀ (a b : Cfg), Cfg.beq a b = true → a = b
    | .mk x, .mk y, h => by
      rw [Cfg.beq] at h
      rw [beqList_eq x y h]
  theorem beqList_eq : ∀ (a b : List (String × Cfg)), Cfg.beqList a b = true → a = b
    | [], [], _ => rfl
    | [], _ :: _, h => by simp [Cfg.beqList] at h
    | _ :: _, [], h => by simp [Cfg.beqList] at h
    | (k, c) :: as, (k', c') :: bs, h => by
      simp only [Cfg.beqList, Bool.and_eq_true, beq_iff_eq] at h
      obtain ⟨⟨h1, h2⟩, h3⟩ := h
      rw [h1, beq_eq c c' h2, beqList_eq as bs h3]
end

mutual
  theorem beq_refl : ∀ a : Cfg, Cfg.beq a a = true
    | .mk x => by rw [Cfg.beq]; exact beqList_refl x
  theorem beqList_refl : ∀ a : List (String × Cfg), Cfg.beqList a a = true
    | [] => by simp [Cfg.beqList]
    | (k, c) :: as => by simp [Cfg.beqList, beq_refl c, beqList_refl as]
end

theorem beq_iff (a b : Cfg) : Cfg.beq a b = true ↔ a = b := ⟨beq_eq a b, fun h => h ▸ beq_refl a⟩

theorem beq_false_iff (a b : Cfg) : Cfg.beq a b = false ↔ a ≠ b := by
  rw [Ne, ← beq_iff, Bool.not_eq_true]

theorem lookup_isSome (l : Level) (row : String) : (Cfg.lookup l row).isSome = Cfg.hasKey l row := by
  rw [Cfg.lookup, Option.isSome_map, Cfg.hasKey, Bool.eq_iff_iff, List.find?_isSome, List.any_eq_true]

theorem lookup_sub {l : Level} {row : String} (h : Cfg.hasKey l row = true) : Cfg.lookup l row = some (sub l row) := by
  rw [← lookup_isSome, Option.isSome_iff_exists] at h
  obtain ⟨t, ht⟩ := h
  rw [sub, ht, Option.getD_some]

theorem hasKey_of_lookup {l : Level} {row : String} {t : Cfg} (h : Cfg.lookup l row = some t) : Cfg.hasKey l row = true := by
  rw [← lookup_isSome, h]; rfl

theorem lookup_none_of_not_hasKey {l : Level} {row : String} (h : Cfg.hasKey l row = false) : Cfg.lookup l row = none := by
  rwa [← lookup_isSome, Option.isSome_eq_false_iff, Option.isNone_iff_eq_none] at h

open Annet.Patch.Lemmas in
theorem mem_sortIdx (a : Nat × Op × String) (l : List (Nat × Op × String)) : a ∈ sortIdx l ↔ a ∈ l := by
  rw [sortIdx, foldl_insert_eq_sort _ insertIdx (fun _ => rfl) (fun _ _ _ => rfl)]
  exact (sort_perm _ l).mem_iff

theorem removedRows_rows (new : Level) (l : Level) (k : Nat) :
    (removedRows new k l).map (·.2) =
      (l.filter (fun e => !Cfg.hasKey new e.1)).map (fun e => (Op.removed, e.1)) := by
  induction l generalizing k with
  | nil => rfl
  | cons p ps ih =>
    rw [removedRows, List.filter_cons]
    cases h : Cfg.hasKey new p.1 <;> simp [ih]

theorem newRows_rows (old : Level) (l : Level) (k : Nat) :
    (newRows old k l).map (·.2) =
      l.map (fun e => ((if Cfg.hasKey old e.1 then Op.affected else Op.added), e.1)) := by
  induction l generalizing k with
  | nil => rfl
  | cons p ps ih => rw [newRows, List.map_cons, ih, List.map_cons]

theorem hasKey_iff (l : Level) (row : String) : Cfg.hasKey l row = true ↔ ∃ e ∈ l, e.1 = row := by
  simp [Cfg.hasKey]

theorem mem_defaultDiffRows (old new : Level) (op : Op) (row : String) :
    (op, row) ∈ defaultDiffRows old new ↔
      (op = .removed ∧ Cfg.hasKey old row = true ∧ Cfg.hasKey new row = false) ∨
      (Cfg.hasKey new row = true ∧ op = (if Cfg.hasKey old row then Op.affected else Op.added)) := by
  have : (op, row) ∈ defaultDiffRows old new ↔
      (op, row) ∈ (removedRows new 0 old ++ newRows old 0 new).map (·.2) := by
    simp only [defaultDiffRows, List.mem_map, mem_sortIdx]
  rw [this, List.map_append, List.mem_append, removedRows_rows, newRows_rows]
  simp only [List.mem_map, List.mem_filter, Prod.mk.injEq, hasKey_iff, Bool.not_eq_eq_eq_not, Bool.not_true]
  constructor
  · rintro (⟨e, ⟨he, hn⟩, rfl, rfl⟩ | ⟨e, he, rfl, rfl⟩)
    · exact .inl ⟨rfl, ⟨e, he, rfl⟩, hn⟩
    · exact .inr ⟨⟨e, he, rfl⟩, rfl⟩
  · rintro (⟨rfl, ⟨e, he, rfl⟩, hn⟩ | ⟨⟨e, he, rfl⟩, rfl⟩)
    · exact .inl ⟨e, ⟨he, hn⟩, rfl, rfl⟩
    · exact .inr ⟨e, he, rfl, rfl⟩

theorem sideOf_wf (old new : Level) (op : Op) (row : String) (h : (op, row) ∈ defaultDiffRows old new) :
    Cfg.hasKey (sideOf op old new) row = true := by
  rw [mem_defaultDiffRows] at h
  rcases h with ⟨h1, h2, _⟩ | ⟨h1, h2⟩
  · subst h1; simpa [sideOf] using h2
  · have : (op == Op.removed) = false := by
      subst h2; split <;> rfl
    simpa [sideOf, this] using h1

/-- the entry for an item of `default_diff`: the whole subtree of its side under one op -/
def entryOf (old new : Level) (p : Op × String) : MItem :=
  .mk p.1 p.2 (processMultiline (childOp p.1) (sub (sideOf p.1 old new) p.2))

/-- on items whose row is on their side `tree[item.row]` does not raise, and the loop is a filter and a map -/
theorem buildItems_eq (rule : Rule) (old new : Level) (rows : List (Op × String))
    (hwf : ∀ op row, (op, row) ∈ rows → Cfg.hasKey (sideOf op old new) row = true) :
    buildItems rule old new rows =
      some ((rows.filter fun p => !skip rule old new p.2).map (entryOf old new)) := by
  induction rows with
  | nil => rfl
  | cons x xs ih =>
    obtain ⟨op, row⟩ := x
    rw [buildItems, ih fun o r h => hwf o r (List.mem_cons_of_mem _ h), List.filter_cons,
      lookup_sub (hwf op row List.mem_cons_self)]
    cases skip rule old new row <;> rfl

theorem multilineDiffWith_eq (rule : Rule) (old new : Level) :
    multilineDiffWith rule old new =
      some (((defaultDiffRows old new).filter fun p => !skip rule old new p.2).map (entryOf old new)) :=
  buildItems_eq rule old new _ (sideOf_wf old new)

theorem skip_head (old new : Level) (row : String) :
    skip .head old new row = false ↔ sub old row ≠ sub new row := by
  simp only [skip, sub]; exact beq_false_iff _ _

theorem skip_fixed (old new : Level) (row : String) :
    skip .fixed old new row = false ↔
      ¬ (∃ a b, Cfg.lookup old row = some a ∧ Cfg.lookup new row = some b ∧ a = b) := by
  cases ho : Cfg.lookup old row <;> cases hn : Cfg.lookup new row <;> simp [skip, ho, hn, beq_false_iff]

mutual
  theorem mpaths_process (op : Op) : ∀ t : Cfg, mpaths (processMultiline op t) = Cfg.paths t
    | .mk ks => by rw [processMultiline, Cfg.paths]; exact mpaths_processList op ks
  theorem mpaths_processList (op : Op) : ∀ ks : List (String × Cfg),
      mpaths (processMultilineList op ks) = Cfg.pathsList ks
    | [] => by simp [processMultilineList, mpaths, Cfg.pathsList]
    | (k, c) :: rest => by
      simp only [processMultilineList, mpaths, mpathsItem, Cfg.pathsList]
      rw [mpaths_process op c, mpaths_processList op rest]
end

mutual
  theorem allOp_process (op : Op) : ∀ t : Cfg, allOp op (processMultiline op t) = true
    | .mk ks => by rw [processMultiline]; exact allOp_processList op ks
  theorem allOp_processList (op : Op) : ∀ ks : List (String × Cfg), allOp op (processMultilineList op ks) = true
    | [] => by simp [processMultilineList, allOp]
    | (k, c) :: rest => by
      simp only [processMultilineList, allOp, allOpItem]
      rw [allOp_process op c, allOp_processList op rest]; simp
end

theorem rows_cover (old new : Level) (r : String) :
    (∃ op, (op, r) ∈ defaultDiffRows old new) ↔ (Cfg.hasKey old r = true ∨ Cfg.hasKey new r = true) := by
  cases ho : Cfg.hasKey old r <;> cases hn : Cfg.hasKey new r <;> simp [mem_defaultDiffRows, ho, hn]

theorem entry_iff_with (rule : Rule) (old new : Level) (d : List MItem)
    (h : multilineDiffWith rule old new = some d) (r : String) :
    (∃ i ∈ d, i.row = r) ↔
      ((Cfg.hasKey old r = true ∨ Cfg.hasKey new r = true) ∧ skip rule old new r = false) := by
  obtain rfl := Option.some.inj ((multilineDiffWith_eq rule old new).symm.trans h)
  simp only [← rows_cover, List.mem_map, List.mem_filter, Bool.not_eq_eq_eq_not, Bool.not_true]
  constructor
  · rintro ⟨_, ⟨⟨op, row⟩, ⟨hm, hs⟩, rfl⟩, rfl⟩
    exact ⟨⟨op, hm⟩, hs⟩
  · rintro ⟨⟨op, hm⟩, hs⟩
    exact ⟨_, ⟨(op, r), ⟨hm, hs⟩, rfl⟩, rfl⟩

theorem entry_op (rule : Rule) (old new : Level) (d : List MItem)
    (h : multilineDiffWith rule old new = some d) (i : MItem) (hi : i ∈ d) :
    (i.op = .removed ↔ Cfg.hasKey new i.row = false) ∧
    (i.op = .added ↔ Cfg.hasKey old i.row = false) ∧
    (i.op = .affected ↔ (Cfg.hasKey old i.row = true ∧ Cfg.hasKey new i.row = true)) ∧
    (Cfg.hasKey old i.row = true ∨ Cfg.hasKey new i.row = true) := by
  obtain rfl := Option.some.inj ((multilineDiffWith_eq rule old new).symm.trans h)
  obtain ⟨⟨op, row⟩, hp, rfl⟩ := List.mem_map.1 hi
  have hm := (List.mem_filter.1 hp).1
  simp only [entryOf, MItem.op, MItem.row]
  rw [mem_defaultDiffRows] at hm
  rcases hm with ⟨rfl, h1, h2⟩ | ⟨h1, rfl⟩
  · simp [h1, h2]
  · cases ho : Cfg.hasKey old row <;> simp [h1]

theorem children_lossless (rule : Rule) (old new : Level) (d : List MItem)
    (h : multilineDiffWith rule old new = some d) (i : MItem) (hi : i ∈ d) :
    (i.op ≠ .removed → ∃ t, Cfg.lookup new i.row = some t ∧ i.children = processMultiline .added t ∧
        mpaths i.children = Cfg.paths t ∧ allOp .added i.children = true) ∧
    (i.op = .removed → ∃ t, Cfg.lookup old i.row = some t ∧ i.children = processMultiline .removed t ∧
        mpaths i.children = Cfg.paths t ∧ allOp .removed i.children = true) := by
  obtain rfl := Option.some.inj ((multilineDiffWith_eq rule old new).symm.trans h)
  obtain ⟨⟨op, row⟩, hp, rfl⟩ := List.mem_map.1 hi
  have ht := lookup_sub (sideOf_wf old new op row (List.mem_filter.1 hp).1)
  simp only [entryOf, MItem.op, MItem.row, MItem.children]
  constructor
  · intro hne
    have hb : (op == Op.removed) = false := by simpa using hne
    simp only [sideOf, childOp, hb, Bool.false_eq_true, if_false] at ht ⊢
    exact ⟨_, ht, rfl, mpaths_process _ _, allOp_process _ _⟩
  · rintro rfl
    exact ⟨_, ht, rfl, mpaths_process _ _, allOp_process _ _⟩

theorem reports_one_sided (rule : Rule) (old new : Level) (d : List MItem)
    (h : multilineDiffWith rule old new = some d) (r : String) (hs : skip rule old new r = false) :
    (Cfg.hasKey old r = true → Cfg.hasKey new r = false → ∃ i ∈ d, i.row = r ∧ i.op = .removed) ∧
    (Cfg.hasKey new r = true → Cfg.hasKey old r = false → ∃ i ∈ d, i.row = r ∧ i.op = .added) := by
  constructor
  · intro ho hn
    obtain ⟨i, hi, hr⟩ := (entry_iff_with rule old new d h r).2 ⟨Or.inl ho, hs⟩
    exact ⟨i, hi, hr, (entry_op rule old new d h i hi).1.2 (hr ▸ hn)⟩
  · intro hn ho
    obtain ⟨i, hi, hr⟩ := (entry_iff_with rule old new d h r).2 ⟨Or.inr hn, hs⟩
    exact ⟨i, hi, hr, (entry_op rule old new d h i hi).2.1.2 (hr ▸ ho)⟩

theorem self_empty (rule : Rule) (t : Level) : multilineDiffWith rule t t = some [] := by
  rw [multilineDiffWith_eq, List.filter_eq_nil_iff.2, List.map_nil]
  rintro ⟨op, row⟩ hm hs
  simp only [Bool.not_eq_eq_eq_not, Bool.not_true] at hs
  cases rule
  · exact (skip_head t t row).1 hs rfl
  · have hk := lookup_sub (((rows_cover t t row).1 ⟨op, hm⟩).elim id id)
    exact (skip_fixed t t row).1 hs ⟨_, _, hk, hk, rfl⟩

end Annet.Multiline
