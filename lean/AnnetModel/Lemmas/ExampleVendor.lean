/-
The vendor of the closed instances (C01, C02): negation word `undo`, block-exit word `quit` (`v`, `env`).  A level of word
and word-star rules (`Simple`) whose first characters are neither `u` nor `q` meets `CmdsOK` for it (`cmdsOK_simple`);
`okL_cons`, `okR_mk` assemble `CmdsOKAll` of a nested rulebook from its levels.
-/
import AnnetModel.Spec.ConvergeNested
import AnnetModel.Lemmas.ConvergeSimple

namespace Annet.ConvergeNested.Example
open Annet Annet.Rules Annet.Device Annet.Device.Abs Annet.Converge Annet.ConvergeNested Annet.Pattern

def v : Vendor := { reverse := "undo", exit := "quit" }
def env : Env := { reverse := "undo", exits := ["quit"] }

theorem cmdsOK_mk {rules : PRules}
    (hfirst : ∀ row, (slotOf rules row).isSome → ∃ c rest, row.toList = c :: rest ∧ c ≠ 'q' ∧ c ≠ 'u')
    (hrem : ∀ row m cr, classify rules row = some (m, cr) →
      ∀ c, Patch.reverseCmd v m.attrs m.key = some c →
        ¬ env.exits.contains c = true ∧ ∃ r', stripReverse env c = some r' ∧ slotOf rules r' = some (m.rawRule, m.key)) :
    CmdsOK v env rules where
  sameReverse := rfl
  exitKnown := Or.inr (by decide +kernel)
  removal := hrem
  line := by
    intro row h
    obtain ⟨c, rest, hr, hq, hu⟩ := hfirst row h
    constructor
    · intro hcon
      have : row = "quit" := by simpa [env] using hcon
      rw [this] at hr
      have hl : "quit".toList = 'q' :: "uit".toList := by decide +kernel
      rw [hl] at hr
      exact hq (List.cons.inj hr).1.symm
    · have : stripReverse env row = none := by
        unfold stripReverse
        have hpre : env.reverse.toList ++ [' '] = 'u' :: "ndo ".toList := by decide +kernel
        rw [hpre, hr]
        have : ('u' :: "ndo ".toList).isPrefixOf (c :: rest) = false := by
          simp only [List.isPrefixOf, Bool.and_eq_false_iff, beq_eq_false_iff_ne]
          exact Or.inl (fun h => hu h.symm)
        simp only [this, Bool.and_false, Bool.false_eq_true, if_false]
      rw [this]; rfl

theorem undo_not_exit (x : List Char) : ¬ env.exits.contains (String.ofList (v.reverse.toList ++ x)) = true := by
  intro hcon
  have h1 : String.ofList (v.reverse.toList ++ x) = "quit" := by simpa [env] using hcon
  have h2 := congrArg String.toList h1
  rw [String.toList_ofList] at h2
  have hl : "quit".toList = 'q' :: "uit".toList := by decide +kernel
  have hu : v.reverse.toList = 'u' :: "ndo".toList := by decide +kernel
  rw [hl, hu] at h2
  exact absurd (List.cons.inj h2).1 (by decide +kernel)

theorem okL_nil : CmdsOKL v env [] := by rw [CmdsOKL]; trivial

theorem okL_cons {r : PRule} {rest : List PRule} (h1 : CmdsOKR v env r) (h2 : CmdsOKL v env rest) :
    CmdsOKL v env (r :: rest) := by rw [CmdsOKL]; exact ⟨h1, h2⟩

theorem okR_mk {a : String} {b : Bool} {c : PAttrs} {cl cg : List PRule} (h1 : CmdsOK v env ⟨cl, cg⟩)
    (h2 : CmdsOKL v env cl) : CmdsOKR v env (.mk a b c (some (cl, cg))) := by rw [CmdsOKR]; exact ⟨h1, h2⟩

variable {spec : List (PRule × Char × List Char × Bool)}

theorem cmdsOK_simple (hs : Simple v spec) (hfirst : ∀ x ∈ spec, x.2.1 ≠ 'q' ∧ x.2.1 ≠ 'u') :
    CmdsOK v env (levelOf spec) := by
  apply cmdsOK_mk
  · intro row h
    obtain ⟨cr, hcl⟩ := Converge.Lemmas.classify_matchOf h
    obtain ⟨x, hx, -, -, k, hk, -⟩ := simple_classify hs hcl
    obtain ⟨rest, hr⟩ := Pattern.Lemmas.lit_head hk
    exact ⟨_, rest, hr, hfirst x hx⟩
  · intro row m cr hcl cmd hcmd
    obtain ⟨⟨x, rfl⟩, h⟩ := removal_simple (env := env) rfl (by decide +kernel) hs hcl hcmd
    exact ⟨undo_not_exit _, h⟩

end Annet.ConvergeNested.Example
