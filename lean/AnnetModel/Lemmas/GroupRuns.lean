/-
`groupRuns` (`itertools.groupby` as annet uses it: consecutive runs of equal keys) only cuts the list: no run is empty, the
runs concatenate to the list, a list of one key is one run, a run has one key and neighbouring runs differ in key.  Used by
C09 (deploy) and C03 (collapsing, whose own `groupRuns` is this one keyed by the text).
-/
import AnnetModel.Model.Deploy

namespace Annet.Deploy.Lemmas
open Annet.Deploy

theorem groupRuns_nonempty {α κ : Type} [BEq κ] (key : α → κ) (l : List α) : ∀ g ∈ groupRuns key l, g ≠ [] := by
  fun_induction groupRuns key l <;> simp_all

theorem groupRuns_flatten {α κ : Type} [BEq κ] (key : α → κ) (l : List α) : (groupRuns key l).flatten = l := by
  fun_induction groupRuns key l
  · rfl
  · simp_all
  · simp_all
  · rename_i x xs hne ih
    -- `groupRuns key xs` is not `(y :: g) :: gs`, and has no empty run: it is empty
    match hg : groupRuns key xs with
    | [] => rw [hg] at ih; simp [← ih]
    | [] :: gs => exact absurd rfl (groupRuns_nonempty key xs [] (by simp [hg]))
    | (y :: g) :: gs => exact absurd hg (hne y g gs)

theorem groupRuns_single {α κ : Type} [BEq κ] (key : α → κ) (l : List α) (hne : l ≠ [])
    (h : ∀ x ∈ l, ∀ y ∈ l, (key x == key y) = true) : groupRuns key l = [l] := by
  induction l with
  | nil => exact absurd rfl hne
  | cons x xs ih =>
    cases xs with
    | nil => simp [groupRuns]
    | cons y ys =>
      have ih' := ih (by simp) (fun a ha b hb => h a (List.mem_cons_of_mem _ ha) b (List.mem_cons_of_mem _ hb))
      rw [groupRuns, ih']
      simp only
      rw [if_pos (h x (List.mem_cons_self) y (List.mem_cons_of_mem _ List.mem_cons_self))]

/-- within a run all keys are equal -/
theorem groupRuns_same_key {α κ : Type} [BEq κ] [LawfulBEq κ] (key : α → κ) (l : List α) :
    ∀ g ∈ groupRuns key l, ∀ x ∈ g, ∀ y ∈ g, key x = key y := by
  fun_induction groupRuns key l
  case case1 => simp
  case case2 x xs y g gs hg hk ih =>
    rw [hg] at ih
    -- every member of the first run has the key of `y`
    have hy : ∀ c ∈ x :: y :: g, key c = key y := fun c hc => by
      rcases List.mem_cons.1 hc with rfl | hc
      · exact beq_iff_eq.1 hk
      · exact ih _ List.mem_cons_self c hc y List.mem_cons_self
    intro g' hg' a ha b hb
    rcases List.mem_cons.1 hg' with rfl | hg'
    · rw [hy a ha, hy b hb]
    · exact ih g' (List.mem_cons_of_mem _ hg') a ha b hb
  case case3 x xs y g gs hg hk ih =>
    rw [hg] at ih
    intro g' hg' a ha b hb
    rcases List.mem_cons.1 hg' with rfl | hg'
    · rw [List.mem_singleton.1 ha, List.mem_singleton.1 hb]
    · exact ih g' hg' a ha b hb
  case case4 x xs _ _ =>
    intro g' hg' a ha b hb
    rw [List.mem_singleton.1 hg'] at ha hb
    rw [List.mem_singleton.1 ha, List.mem_singleton.1 hb]

/-- runs are maximal: the last element of a run and the first of the next differ in key -/
theorem groupRuns_maximal {α κ : Type} [BEq κ] (key : α → κ) (l : List α) :
    ∀ i a b, (groupRuns key l)[i]? = some a → (groupRuns key l)[i + 1]? = some b →
      ∀ x ∈ a.getLast?, ∀ y ∈ b.head?, (key x == key y) = false := by
  fun_induction groupRuns key l
  case case1 => intro i a b ha; simp at ha
  case case2 x xs y g gs hg hk ih =>
    rw [hg] at ih
    intro i a b ha hb
    cases i with
    | zero =>
      simp only [List.getElem?_cons_zero, Option.some.injEq] at ha
      subst ha
      intro u hu
      exact ih 0 (y :: g) b rfl hb u (by simpa [List.getLast?_cons_cons] using hu)
    | succ j => exact ih (j + 1) a b ha hb
  case case3 x xs y g gs hg hk ih =>
    rw [hg] at ih
    intro i a b ha hb
    cases i with
    | zero =>
      simp only [List.getElem?_cons_zero, List.getElem?_cons_succ, Option.some.injEq] at ha hb
      subst ha hb
      intro u hu v hv
      simp only [List.getLast?_singleton, List.head?_cons, Option.mem_def, Option.some.injEq] at hu hv
      subst hu hv
      simpa using hk
    | succ j => exact ih j a b ha hb
  case case4 => intro i a b _ hb; simp at hb

end Annet.Deploy.Lemmas
