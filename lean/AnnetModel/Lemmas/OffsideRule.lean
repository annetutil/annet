/-
The stack machine computes the declarative offside rule (C05), `run_eq`.  The state of `_stripped_indents` is the list of
the open blocks' columns, difference-encoded (`enc`, `Desc`); `stepText_enc` is the step in closed form on such a state,
and its condition and result are the rule's `consistent` and `chain` read on the open chain (`step_spec`).  On the rule
itself: strictly monotone re-indentation (`mapPrev`, `run_mapIndent`), and `runO`, the rule without line numbers, of which
blank lines and rejection are asked (`runO_append`, `runO_blank_ignored`).
-/
import AnnetModel.Spec.Offside
import AnnetModel.Lemmas.Basic
import AnnetModel.Lemmas.Offside

namespace Annet.Offside.Lemmas
open Annet.Offside Annet.Offside.Spec

theorem dropWhile_dropWhile_of_imp {α : Type} (p q : α → Bool) (hpq : ∀ x, p x = true → q x = true)
    (l : List α) : (l.dropWhile p).dropWhile q = l.dropWhile q := by
  induction l with
  | nil => rfl
  | cons a l ih =>
    by_cases hp : p a = true
    · simp [hp, hpq a hp, ih]
    · simp [List.dropWhile_cons, hp]

theorem mem_dropWhile_of_false {α : Type} (p : α → Bool) (l : List α) (x : α)
    (hx : x ∈ l) (hp : p x = false) : x ∈ l.dropWhile p := by
  induction l with
  | nil => cases hx
  | cons a l ih =>
    by_cases hpa : p a = true
    · simp only [List.dropWhile_cons, hpa, if_true]
      rcases List.mem_cons.mp hx with rfl | h
      · simp [hp] at hpa
      · exact ih h
    · simp only [List.dropWhile_cons, hpa]
      exact hx

theorem mono_lt_iff {f : Nat → Nat} (hf : ∀ a b, a < b → f a < f b) (a b : Nat) :
    f a < f b ↔ a < b := by
  refine ⟨fun h => ?_, hf a b⟩
  rcases Nat.lt_trichotomy a b with hab | rfl | hab
  · exact hab
  · omega
  · have := hf b a hab; omega

theorem mono_le_iff {f : Nat → Nat} (hf : ∀ a b, a < b → f a < f b) (a b : Nat) :
    f a ≤ f b ↔ a ≤ b := by
  have := mono_lt_iff hf b a
  omega

theorem mono_beq {f : Nat → Nat} (hf : ∀ a b, a < b → f a < f b) (a b : Nat) :
    (f a == f b) = (a == b) := by
  have h1 := mono_le_iff hf a b
  have h2 := mono_le_iff hf b a
  rw [Bool.eq_iff_iff, beq_iff_eq, beq_iff_eq]
  omega

theorem run_text_false {k : Nat} {s : String} {rest : List Item} {prev : List (Nat × String)}
    {n : Nat} (h : consistent prev k = false) :
    Spec.run (.text k s :: rest) prev n = .error n := by
  simp [Spec.run, h]

theorem run_text_true {k : Nat} {s : String} {rest : List Item} {prev : List (Nat × String)}
    {n : Nat} (h : consistent prev k = true) :
    Spec.run (.text k s :: rest) prev n
      = (Spec.run rest ((k, s) :: prev) (n + 1)).map (path prev k s :: ·) := by
  simp only [Spec.run, h, if_true]
  cases Spec.run rest ((k, s) :: prev) (n + 1) <;> rfl

theorem chain_dropWhile (l : List (Nat × String)) (b b' : Nat) (h : b ≤ b') :
    chain l b = (chain l b').dropWhile (fun p => decide (b ≤ p.1)) := by
  induction l generalizing b b' with
  | nil => simp [chain]
  | cons p rest ih =>
    obtain ⟨k, s⟩ := p
    simp only [chain]
    by_cases h1 : k < b
    · have h2 : k < b' := by omega
      have h3 : ¬ b ≤ k := by omega
      simp [h1, h2, h3]
    · by_cases h2 : k < b'
      · have h3 : b ≤ k := by omega
        simp only [h1, h2, if_true, if_false, List.dropWhile_cons, h3, decide_true]
        exact ih b k h3
      · simp only [h1, h2, if_false]
        exact ih b b' h

theorem chain_eq_openChain_dropWhile (k0 : Nat) (s0 : String) (rest : List (Nat × String))
    (k : Nat) :
    chain ((k0, s0) :: rest) k
      = (openChain ((k0, s0) :: rest)).dropWhile (fun p => decide (k ≤ p.1)) := by
  simp only [chain, openChain]
  by_cases h : k0 < k
  · have h3 : ¬ k ≤ k0 := by omega
    simp [h, h3]
  · have h3 : k ≤ k0 := by omega
    simp only [h, if_false, List.dropWhile_cons, h3, decide_true, if_true]
    exact chain_dropWhile rest k k0 h3

theorem consistent_cons {k0 : Nat} {s0 : String} {rest : List (Nat × String)} {g : Nat}
    {gs : String} (k : Nat) (h : ((k0, s0) :: rest).getLast? = some (g, gs)) :
    consistent ((k0, s0) :: rest) k
      = (decide (g ≤ k) && (decide (k0 ≤ k) ||
          (openChain ((k0, s0) :: rest)).any (fun p => p.1 == k))) := by
  simp only [consistent, h]

/-- the differences between consecutive columns -/
def diffs : List Nat → List Nat
  | c :: c' :: cs => (c - c') :: diffs (c' :: cs)
  | _ => []

/-- the state in a section with base column `g` whose open blocks start at the columns `c :: cs`, innermost first -/
def enc (g c : Nat) (cs : List Nat) : St := ⟨diffs (c :: cs), (c : Int) - g, some g⟩

/-- strictly decreasing, down to `g` -/
def Desc (g : Nat) : List Nat → Prop
  | [] => False
  | [c] => c = g
  | c :: c' :: cs => c' < c ∧ Desc g (c' :: cs)

theorem diffs_length (c : Nat) (cs : List Nat) : (diffs (c :: cs)).length = cs.length := by
  induction cs generalizing c with
  | nil => rfl
  | cons c' cs ih => simp [diffs, ih]

theorem Desc.le {g : Nat} : ∀ {cs : List Nat}, Desc g cs → ∀ x ∈ cs, g ≤ x
  | [c], h, x, hx => by
    obtain rfl : c = g := h
    simp at hx; omega
  | c :: c' :: cs, h, x, hx => by
    have := Desc.le h.2
    rcases List.mem_cons.1 hx with rfl | hx
    · have := this c' List.mem_cons_self; have := h.1; omega
    · exact this x hx

theorem Desc.lt_head {g c : Nat} : ∀ {cs : List Nat}, Desc g (c :: cs) → ∀ x ∈ cs, x < c
  | c' :: cs, h, x, hx => by
    rcases List.mem_cons.1 hx with rfl | hx
    · exact h.1
    · have := Desc.lt_head h.2 x hx; have := h.1; omega

/-- below the head nothing is `≥` it -/
theorem Desc.dropWhile_tail {g c : Nat} {cs : List Nat} (h : Desc g (c :: cs)) {k : Nat} (hk : c ≤ k) :
    cs.dropWhile (fun x => decide (k ≤ x)) = cs := by
  cases cs with
  | nil => rfl
  | cons c' cs => exact List.dropWhile_cons_of_neg (by have := h.1; simp; omega)

/-- `popLoop` pops exactly the columns right of `k` -/
theorem popLoop_enc {g k : Nat} (hgk : g ≤ k) : ∀ {c : Nat} {cs : List Nat}, Desc g (c :: cs) →
    ∃ c' cs', (c :: cs).dropWhile (fun x => decide (k < x)) = c' :: cs' ∧ c' ≤ k ∧ Desc g (c' :: cs') ∧
      popLoop ((k : Int) - g) (diffs (c :: cs)) ((c : Int) - g) = (diffs (c' :: cs'), (c' : Int) - g)
  | c, [], h => by
    obtain rfl : c = g := h
    exact ⟨c, [], List.dropWhile_cons_of_neg (by simp; omega), hgk, rfl, rfl⟩
  | c, c' :: cs, h => by
    by_cases hk : k < c
    · obtain ⟨d, ds, h1, h2, h3, h4⟩ := popLoop_enc hgk h.2
      refine ⟨d, ds, by rw [List.dropWhile_cons_of_pos (by simpa using hk)]; exact h1, h2, h3, ?_⟩
      have hc := h.1
      rw [diffs, popLoop, if_pos (by omega), show (c : Int) - g - ((c - c' : Nat) : Int) = (c' : Int) - g by omega]
      exact h4
    · refine ⟨c, c' :: cs, List.dropWhile_cons_of_neg (by simpa using hk), by omega, h, ?_⟩
      rw [diffs, popLoop, if_neg (by omega)]

/-- a line at column `k` is accepted iff it is right of the innermost block or at the column of an open one; the blocks at
columns `≥ k` are closed and one at `k` opened -/
theorem stepText_enc {g c : Nat} {cs : List Nat} (h : Desc g (c :: cs)) (k : Nat) :
    stepText (enc g c cs) k =
      if g ≤ k ∧ (c ≤ k ∨ k ∈ c :: cs) then
        some (enc g k ((c :: cs).dropWhile fun x => decide (k ≤ x)), ((c :: cs).dropWhile fun x => decide (k ≤ x)).length)
      else none := by
  have hgc : g ≤ c := h.le c List.mem_cons_self
  by_cases h1 : k < g
  · rw [enc, stepText_lt h1, if_neg (by omega)]
  have h1 : g ≤ k := by omega
  rcases Nat.lt_trichotomy c k with h2 | rfl | h2
  · rw [enc, stepText_push h1 (by omega), if_pos ⟨h1, .inl (by omega)⟩, List.dropWhile_cons_of_neg (by simp; omega), enc, diffs,
      List.length_cons, diffs_length,
      show ((k : Int) - g - ((c : Int) - g)).toNat = k - c by omega]
  · rw [enc, stepText_same h1 rfl, if_pos ⟨h1, .inl (Nat.le_refl c)⟩, List.dropWhile_cons_of_pos (by simp),
      h.dropWhile_tail (Nat.le_refl c), enc, diffs_length]
  · obtain ⟨c', cs', e1, e2, e3, e4⟩ := popLoop_enc h1 h
    rw [enc, stepText_pop h1 (by omega), e4]
    have hsub : c' :: cs' ⊆ c :: cs := e1 ▸ (List.dropWhile_suffix _).subset
    by_cases h3 : c' = k
    · subst h3
      have e5 : (c :: cs).dropWhile (fun x => decide (c' ≤ x)) = cs' := by
        rw [← dropWhile_dropWhile_of_imp (fun x => decide (c' < x)) _ (by intro x hx; simp at hx ⊢; omega), e1,
          List.dropWhile_cons_of_pos (by simp), e3.dropWhile_tail (Nat.le_refl c')]
      rw [if_pos rfl, if_pos ⟨h1, .inr (hsub List.mem_cons_self)⟩, e5, enc, diffs_length]
    · rw [if_neg (by omega), if_neg]
      rintro ⟨-, h4 | h4⟩
      · omega
      · have hm := mem_dropWhile_of_false (fun x => decide (k < x)) _ k h4 (by simp)
        rw [e1] at hm
        rcases List.mem_cons.1 hm with rfl | hm
        · exact h3 rfl
        · have := e3.lt_head k hm; omega

theorem Desc.step {g k : Nat} : ∀ {c : Nat} {cs : List Nat}, Desc g (c :: cs) → c ≤ k ∨ k ∈ c :: cs →
    Desc g (k :: (c :: cs).dropWhile fun x => decide (k ≤ x))
  | c, cs, h, hk => by
    by_cases h1 : c < k
    · rw [List.dropWhile_cons_of_neg (by simp; omega)]
      exact ⟨h1, h⟩
    · have hk : k ∈ c :: cs := hk.elim (fun h2 => by obtain rfl : c = k := (by omega); exact List.mem_cons_self) id
      rw [List.dropWhile_cons_of_pos (by simp; omega)]
      cases cs with
      | nil =>
        obtain rfl : c = g := h
        exact List.mem_singleton.1 hk
      | cons c' cs =>
        refine Desc.step h.2 ?_
        rcases List.mem_cons.1 hk with rfl | hk
        · exact .inl (Nat.le_of_lt h.1)
        · exact .inr hk

/-- after the text lines `prev` (latest first) the machine holds the columns of their open chain, its stack their rows -/
def Inv (prev : List (Nat × String)) (st : St) (stack : List String) : Prop :=
  match prev with
  | [] => st = St.init
  | (k0, _) :: rest => ∃ g gs, prev.getLast? = some (g, gs) ∧ Desc g ((openChain prev).map (·.1)) ∧
      st = enc g k0 ((chain rest k0).map (·.1)) ∧ stack = ((openChain prev).map (·.2)).reverse

theorem step_spec {prev : List (Nat × String)} {st : St} {stack : List String} (k : Nat)
    (s : String) (h : Inv prev st stack) :
    (stepText st k = none ∧ consistent prev k = false) ∨
    (∃ st' depth, stepText st k = some (st', depth) ∧ consistent prev k = true ∧
       restack stack depth s = path prev k s ∧ Inv ((k, s) :: prev) st' (path prev k s)) := by
  cases prev with
  | nil =>
    obtain rfl : st = St.init := h
    exact .inr ⟨enc k k [], 0, by simp [stepText, St.init, enc, diffs], rfl, by simp [restack_eq, path, chain],
      k, s, rfl, rfl, rfl, by simp [path, chain, openChain]⟩
  | cons p rest =>
    obtain ⟨k0, s0⟩ := p
    obtain ⟨g, gs, hlast, hd, rfl, rfl⟩ := h
    have hcols : (openChain ((k0, s0) :: rest)).map (·.1) = k0 :: (chain rest k0).map (·.1) := rfl
    rw [hcols] at hd
    have hchain : (chain ((k0, s0) :: rest) k).map (·.1)
        = (k0 :: (chain rest k0).map (·.1)).dropWhile fun x => decide (k ≤ x) := by
      rw [chain_eq_openChain_dropWhile, ← hcols, List.dropWhile_map]; rfl
    have hcons : consistent ((k0, s0) :: rest) k
        = decide (g ≤ k ∧ (k0 ≤ k ∨ k ∈ k0 :: (chain rest k0).map (·.1))) := by
      rw [consistent_cons k hlast, ← hcols, Bool.eq_iff_iff]
      simp only [Bool.and_eq_true, Bool.or_eq_true, decide_eq_true_eq, List.any_eq_true, beq_iff_eq, List.mem_map]
    rw [stepText_enc hd, hcons, ← hchain]
    by_cases hc : g ≤ k ∧ (k0 ≤ k ∨ k ∈ k0 :: (chain rest k0).map (·.1))
    · rw [if_pos hc, decide_eq_true hc]
      obtain ⟨T, hT⟩ : chain ((k0, s0) :: rest) k <:+ openChain ((k0, s0) :: rest) := by
        rw [chain_eq_openChain_dropWhile]; exact List.dropWhile_suffix _
      have hr : restack ((openChain ((k0, s0) :: rest)).map (·.2)).reverse
          ((chain ((k0, s0) :: rest) k).map (·.1)).length s = path ((k0, s0) :: rest) k s := by
        rw [restack_eq, ← hT]; simp [path]
      refine .inr ⟨_, _, rfl, rfl, hr, g, gs, by rw [List.getLast?_cons_cons]; exact hlast, ?_, rfl, by simp [path, openChain]⟩
      show Desc g (k :: (chain ((k0, s0) :: rest) k).map (·.1))
      rw [hchain]
      exact hd.step hc.2
    · rw [if_neg hc, decide_eq_false hc]
      exact .inl ⟨rfl, rfl⟩

theorem run_eq (items : List Item) (prev : List (Nat × String)) (st : St) (stack : List String)
    (n : Nat) (h : Inv prev st stack) : runItems items st stack n = Spec.run items prev n := by
  induction items generalizing prev st stack n with
  | nil => simp [runItems, Spec.run]
  | cons it rest ih =>
    cases it with
    | blank => simpa [runItems, Spec.run] using ih prev st stack (n + 1) h
    | sectionEnd =>
      simpa [runItems, Spec.run] using ih [] St.init stack (n + 1) rfl
    | text k s =>
      rcases step_spec k s h with ⟨h1, h2⟩ | ⟨st', depth, h1, h2, h3, h4⟩
      · rw [runItems_text_none h1, run_text_false h2]
      · rw [runItems_text_some h1, run_text_true h2, h3, ih _ _ _ _ h4]

def mapPrev (f : Nat → Nat) (l : List (Nat × String)) : List (Nat × String) :=
  l.map (fun p => (f p.1, p.2))

theorem chain_mapPrev {f : Nat → Nat} (hf : ∀ a b, a < b → f a < f b)
    (l : List (Nat × String)) (b : Nat) :
    chain (mapPrev f l) (f b) = mapPrev f (chain l b) := by
  induction l generalizing b with
  | nil => simp [mapPrev, chain]
  | cons p rest ih =>
    obtain ⟨k, s⟩ := p
    have ih' := ih
    simp only [mapPrev] at ih' ⊢
    simp only [List.map_cons, chain, mono_lt_iff hf]
    by_cases h : k < b
    · simp [h, ih' k]
    · simp [h, ih' b]

theorem openChain_mapPrev {f : Nat → Nat} (hf : ∀ a b, a < b → f a < f b)
    (l : List (Nat × String)) :
    openChain (mapPrev f l) = mapPrev f (openChain l) := by
  cases l with
  | nil => simp [mapPrev, openChain]
  | cons p rest =>
    obtain ⟨k, s⟩ := p
    have := chain_mapPrev hf rest k
    simp only [mapPrev] at this ⊢
    simp [openChain, this]

theorem consistent_mapPrev {f : Nat → Nat} (hf : ∀ a b, a < b → f a < f b)
    (l : List (Nat × String)) (k : Nat) :
    consistent (mapPrev f l) (f k) = consistent l k := by
  cases l with
  | nil => rfl
  | cons p rest =>
    obtain ⟨k0, s0⟩ := p
    have hoc := openChain_mapPrev hf ((k0, s0) :: rest)
    have hlast : (mapPrev f ((k0, s0) :: rest)).getLast?
        = (((k0, s0) :: rest).getLast?).map fun p => (f p.1, p.2) := List.getLast?_map ..
    simp only [mapPrev, List.map_cons] at hoc hlast ⊢
    simp only [consistent, hoc, hlast, List.any_map]
    cases ((k0, s0) :: rest).getLast? <;>
      simp [mono_le_iff hf, mono_beq hf, Function.comp_def]

theorem path_mapPrev {f : Nat → Nat} (hf : ∀ a b, a < b → f a < f b)
    (l : List (Nat × String)) (k : Nat) (s : String) :
    path (mapPrev f l) (f k) s = path l k s := by
  unfold path
  rw [chain_mapPrev hf]
  simp [mapPrev, Function.comp_def]

theorem run_mapIndent {f : Nat → Nat} (hf : ∀ a b, a < b → f a < f b)
    (items : List Item) (prev : List (Nat × String)) (n : Nat) :
    Spec.run (items.map (mapIndent f)) (mapPrev f prev) n = Spec.run items prev n := by
  induction items generalizing prev n with
  | nil => simp [Spec.run]
  | cons it rest ih =>
    cases it with
    | blank => simpa [mapIndent, Spec.run] using ih prev (n + 1)
    | sectionEnd => simpa [mapIndent, Spec.run, mapPrev] using ih [] (n + 1)
    | text k s =>
      have ih' := ih ((k, s) :: prev) (n + 1)
      have hcons : mapPrev f ((k, s) :: prev) = (f k, s) :: mapPrev f prev := by
        simp [mapPrev]
      rw [hcons] at ih'
      simp only [List.map_cons, mapIndent, Spec.run, consistent_mapPrev hf, path_mapPrev hf, ih']

def runO : List Item → List (Nat × String) → Option (List (List String))
  | [], _ => some []
  | .blank :: rest, prev => runO rest prev
  | .sectionEnd :: rest, _ => runO rest []
  | .text k s :: rest, prev =>
    if consistent prev k then (runO rest ((k, s) :: prev)).map (path prev k s :: ·) else none

theorem run_toOption (items : List Item) (prev : List (Nat × String)) (n : Nat) :
    (Spec.run items prev n).toOption = runO items prev := by
  induction items generalizing prev n with
  | nil => rfl
  | cons it rest ih =>
    cases it with
    | blank => exact ih prev (n + 1)
    | sectionEnd => exact ih [] (n + 1)
    | text k s =>
      rw [runO]
      cases hc : consistent prev k with
      | false => rw [run_text_false hc]; rfl
      | true => rw [run_text_true hc, Except.toOption_map, ih]; rfl

theorem stacks_toOption (items : List Item) : (stacks items).toOption = runO items [] := by
  rw [stacks, run_eq items [] St.init [] 1 rfl, run_toOption]

/-- the significant lines of the current section after `items`, latest first -/
def sectionAfter : List Item → List (Nat × String) → List (Nat × String)
  | [], prev => prev
  | .blank :: rest, prev => sectionAfter rest prev
  | .sectionEnd :: rest, _ => sectionAfter rest []
  | .text k s :: rest, prev => sectionAfter rest ((k, s) :: prev)

theorem runO_append (a b : List Item) (prev : List (Nat × String)) :
    runO (a ++ b) prev = (runO a prev).bind fun x => (runO b (sectionAfter a prev)).map (x ++ ·) := by
  induction a generalizing prev with
  | nil => simp [runO, sectionAfter]
  | cons it rest ih =>
    cases it with
    | blank => exact ih prev
    | sectionEnd => exact ih []
    | text k s =>
      simp only [List.cons_append, runO, sectionAfter, ih]
      split
      · cases runO rest ((k, s) :: prev) with
        | none => rfl
        | some x => simp [Option.map_map, Function.comp_def]
      · rfl

theorem sectionAfter_texts (ls : List (Nat × String)) (prev : List (Nat × String)) :
    sectionAfter (ls.map fun p => Item.text p.1 p.2) prev = ls.reverse ++ prev := by
  induction ls generalizing prev with
  | nil => rfl
  | cons p ls ih => simp [sectionAfter, ih]

theorem runO_blank_ignored (items : List Item) (prev : List (Nat × String)) :
    runO (items.filter (· ≠ .blank)) prev = runO items prev := by
  induction items generalizing prev with
  | nil => rfl
  | cons it rest ih =>
    cases it with
    | blank => exact ih prev
    | sectionEnd => exact ih []
    | text k s => simp only [List.filter_cons, ne_eq, reduceCtorEq, not_false_eq_true, decide_true, if_true, runO, ih]

theorem blank_ignored (items : List Item) :
    (stacks (items.filter (· ≠ .blank))).toOption = (stacks items).toOption := by
  rw [stacks_toOption, stacks_toOption, runO_blank_ignored]

end Annet.Offside.Lemmas
