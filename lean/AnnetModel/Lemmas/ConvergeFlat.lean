/-
Flat convergence (C01 stage 1) as the one-level case of the nested development.

A flat rulebook is a `LevelRules`; levels of leaves over it form a family the nested diff applies to (`flat_closed`),
and between their empty sub-blocks the diff is empty, so the recursion of `make_patch` has nothing to do and
`level_converges` applies with a trivial `RecOK`.  A block item of the patch (a rule with `parent`) has an empty tree,
and executing it is executing its row (`itemStep_empty_block`): the tree executed structurally is the list of its rows
sent as single-word paths.
-/
import AnnetModel.Lemmas.ConvergeNested

namespace Annet.Converge.Lemmas

open Annet Annet.Rules Annet.Device Annet.Device.Abs Annet.Device.Lemmas Annet.Converge
open Annet.ConvergeNested Annet.ConvergeNested.Lemmas
open Annet.Diff Annet.Patch Annet.Patch.Lemmas Annet.Patch.PreLemmas

variable {rules : PRules} {v : Vendor} {env : Env}

def ditem (rules : PRules) (op : Op) (row : String) : DItem := .mk op row [] (matchOf rules row)

@[simp] theorem ditem_op (rules : PRules) (op : Op) (r : String) : (ditem rules op r).op = op := rfl

theorem levelRules_of_flat (hfr : FlatRules rules) : LevelRules rules :=
  levelRules_of_loc hfr.1 (fun r h => (hfr.2.1 r h).2.2) hfr.2.2

theorem subOf_leaves {ks : List (String × Cfg)} (hf : ∀ e ∈ ks, e.2 = .mk []) (row : String) : subOf ks row = [] := by
  unfold subOf
  cases h : ks.find? (·.1 == row) with
  | none => rfl
  | some e => simp only [hf e (List.mem_of_find?_eq_some h), Cfg.kids]

theorem annotateList_leaves : ∀ (ks : List (String × Cfg)), (∀ e ∈ ks, e.2 = .mk []) → WF rules ks →
    annotateList rules ks = .ok (annL rules ks)
  | [], _, _ => by rw [annotateList, annL_nil]
  | (row, c) :: rest, hf, hw => by
    obtain rfl : c = .mk [] := hf _ List.mem_cons_self
    obtain ⟨cr, hcl⟩ := classify_matchOf (hw.1 _ List.mem_cons_self)
    have ih := annotateList_leaves rest (fun e he => hf e (List.mem_cons_of_mem _ he))
      ⟨fun e he => hw.1 e (List.mem_cons_of_mem _ he), (List.nodup_cons.1 hw.2).2⟩
    have hleaf : annotate cr (.mk []) = .ok (.mk []) := by rw [annotate, annotateList]; rfl
    rw [annotateList, classify_eq_some.1 hcl, annL_cons, crOf_eq hcl, annC, annL_nil]
    simp only [hleaf, ih]

/-- levels of leaves over a flat rulebook (and the empty level over any rulebook) -/
theorem flat_closed :
    DiffClosed fun rules ks => (∀ e ∈ ks, e.2 = .mk []) ∧ WF rules ks ∧ (ks ≠ [] → FlatRules rules) where
  nil rules := ⟨nofun, wf_nil rules, fun h => (h rfl).elim⟩
  wf h := h.2.1
  ann h := annotateList_leaves _ h.1 h.2.1
  logic := by
    intro rules ks h r hr
    obtain ⟨e, he, rfl⟩ := List.mem_map.1 hr
    obtain ⟨cr, hcl⟩ := classify_matchOf (h.2.1.1 e he)
    exact ((levelRules_of_flat (h.2.2 (by rintro rfl; cases he))).logic hcl).1
  sub := by
    intro rules ks h row
    rw [subOf_leaves h.1]
    exact ⟨nofun, wf_nil _, fun h => (h rfl).elim⟩

theorem itemStep_empty_block (hc : CmdsOK v env rules) {row : String} (hk : (slotOf rules row).isSome) (k : SortKey)
    (kids : List (String × Cfg)) :
    itemStep env rules (row, some (.mk []), k) kids = execLeaf env rules row kids := by
  obtain ⟨cr, hcl⟩ := classify_matchOf hk
  obtain ⟨h1, h2⟩ := hc.line row hk
  have : applyTree env cr (.mk []) = fun ch => ch := funext (applyTree_nil env cr)
  rw [itemStep_block, execLeaf_eq_run, den_put h1 h2]
  simp only [run, hcl]
  rw [this, inBlock_id]

theorem applyItems_words (items : List TItem)
    (h : ∀ t ∈ items, ∀ kids, itemStep env rules t kids = execLeaf env rules t.1 kids) (kids : List (String × Cfg)) :
    applyItems env rules items kids = (items.map (·.1)).foldl (fun k c => execLeaf env rules c k) kids := by
  rw [applyItems_foldl, List.foldl_map]
  induction items generalizing kids with
  | nil => rfl
  | cons t rest ih =>
    rw [List.foldl_cons, List.foldl_cons, h t List.mem_cons_self]
    exact ih (fun t' ht' => h t' (List.mem_cons_of_mem _ ht')) _

theorem flat_converges (v : Vendor) (env : Env) (rules : PRules) (ordering : List ORule) (old new : Cfg)
    (r : Api.Result)
    (hfr : FlatRules rules) (hfo : FlatCfg old) (hfn : FlatCfg new)
    (hko : AllKnown rules old) (hkn : AllKnown rules new)
    (hwo : WF rules old.kids) (hwn : WF rules new.kids)
    (hc : CmdsOK v env rules) (hp : NoPin ordering)
    (hr : Api.deviceMode Patch.runLogic v rules ordering true old new = .ok r) :
    WF rules (applyCmds env rules (flatPaths r.patch) old).kids ∧
    ∀ s, holder rules (applyCmds env rules (flatPaths r.patch) old).kids s = holder rules new.kids s := by
  obtain ⟨d', hmd', hd⟩ := makeDiff_ndiff flat_closed (rules := rules) (old := old) (new := new)
    ⟨hfo, ⟨hko, hwo.2⟩, fun _ => hfr⟩ ⟨hfn, ⟨hkn, hwn.2⟩, fun _ => hfr⟩
  obtain ⟨d, T, hmd, h, hpatch⟩ := deviceMode_induct (v := v)
    (motive := fun ord d T => NoPin ord → NDiff rules old.kids new.kids d →
      WF rules (applyCmds env rules (flatPaths (sortTree T)) old).kids ∧
      ∀ s, holder rules (applyCmds env rules (flatPaths (sortTree T)) old).kids s = holder rules new.kids s) (by
    intro ord d rec out hout _ hp hd
    -- the sub-blocks are empty, so the items of the diff have no children and `make_patch` recurses into nothing
    have hT : ∀ i ∈ d, (i.op = .added ∨ i.op = .affected) → ∀ (o : OrderRes) (T : PTree),
        ChildTree rec v ord i o T → T = .mk [] := by
      intro i hi hop o T ⟨_, hsub⟩
      have hch := hd.sub hi hop
      rw [subOf_leaves hfo, subOf_leaves hfn] at hch
      have he : (makePre ([] : List DItem)).isEmpty = true := rfl
      simp only [ndiff_nil_eq hch, subTree, he, if_true] at hsub
      cases hsub
      rfl
    obtain ⟨hwf, hsame⟩ := level_converges (levelRules_of_flat hfr) hc (noPin_top ord hp) hwo hwn hd hout
      (by
        intro i hi hop o T hsub
        rw [hT i hi hop o T hsub, sortTree_nil, applyTree_nil, subOf_leaves hfo, subOf_leaves hfn]
        exact sameC_nil _)
    have hwords := applyItems_words (env := env) (rules := rules) (sortTree (buildTree out)).items (by
      intro t ht kids
      rcases tree_item (levelRules_of_flat hfr) hc hd.lvl hout ht with ⟨row, k, rfl⟩ | ⟨i, hi, hop, hk, o, T, k, hsub, rfl⟩
      · rfl
      · rw [hT i hi hop o T hsub, sortTree_nil]
        exact itemStep_empty_block hc hk _ kids) old.kids
    rw [flatPaths_eq, applyCmds_words (levelRules_of_flat hfr).not_rewrite, kids_mk, ← hwords]
    exact ⟨hwf, (sameC_mk.1 hsame).1⟩) hr
  cases hmd.symm.trans hmd'
  rw [hpatch]
  exact h hp hd

end Annet.Converge.Lemmas
