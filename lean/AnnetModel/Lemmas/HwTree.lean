/-
C18, the tree of `_build_tree` as a set of nodes `(regexp path, sequences)`: one iteration (`insert_spec`), the loop
(`buildFrom_spec`), and what `find_true_sequences` finds in it, in closed form (`mem_findTrue_build`), all for whatever
`allowed_by_seq` (`A`) the tree is built with; the dict of `get_db` is put in by `Lemmas/HwView.lean` (`tableGet_mem`).
Nothing outside this file looks at a node.  A view by nodes is needed: the true sequences of `t.insert c` are not a
function of those of `t` (a node on the chain's path whose sequences are empty is invisible to `find_true_sequences`
under every outcome of the searches, and decides whether the chain's sequences get in).
-/
import AnnetModel.Lemmas.HwSeq

namespace Annet.Hw.Lemmas
open Annet.Hw

variable {α : Type} {ρ : Type}

mutual
/-- every node of the tree with the regexps on the way to it -/
def nodes : Tree α ρ → List (List ρ × List (List α))
  | .mk ks => nodesKids ks
def nodesKids : List (Kid α ρ) → List (List ρ × List (List α))
  | [] => []
  | (r, sq, ch) :: rest => ([r], sq) :: ((nodes ch).map fun n => (r :: n.1, n.2)) ++ nodesKids rest
end

theorem nodes_eq_kids (t : Tree α ρ) : nodes t = nodesKids t.kids := by
  cases t; simp [nodes, Tree.kids]

theorem nodesKids_append (k₁ k₂ : List (Kid α ρ)) :
    nodesKids (k₁ ++ k₂) = nodesKids k₁ ++ nodesKids k₂ := by
  induction k₁ with
  | nil => simp [nodesKids]
  | cons k rest ih =>
    obtain ⟨r, sq, ch⟩ := k
    simp [nodesKids, ih]

mutual
theorem findTrue_eq (m : ρ → Bool) : (t : Tree α ρ) →
    t.findTrue m = ((nodes t).filter fun n => n.1.all m).flatMap (·.2)
  | .mk ks => by rw [Tree.findTrue, nodes, findTrueKids_eq m ks]
theorem findTrueKids_eq (m : ρ → Bool) : (ks : List (Kid α ρ)) →
    findTrueKids m ks = ((nodesKids ks).filter fun n => n.1.all m).flatMap (·.2)
  | [] => rfl
  | (r, sq, ch) :: rest => by
    rw [findTrueKids, nodesKids, findTrueKids_eq m rest, findTrue_eq m ch]
    cases hm : m r <;> simp [hm, List.filter_map, List.flatMap_map, Function.comp_def]
end

theorem mem_findTrue (m : ρ → Bool) (t : Tree α ρ) (v : List α) :
    v ∈ t.findTrue m ↔ ∃ n ∈ nodes t, (∀ r ∈ n.1, m r = true) ∧ v ∈ n.2 := by
  simp only [findTrue_eq, List.mem_flatMap, List.mem_filter, List.all_eq_true, and_assoc]

theorem nodes_ofChain_cons (x : ρ × List (List α)) (cs : List (ρ × List (List α))) :
    nodes (Tree.ofChain (x :: cs)) = ([x.1], x.2) :: (nodes (Tree.ofChain cs)).map fun n => (x.1 :: n.1, n.2) := by
  simp [Tree.ofChain, nodes, nodesKids]

theorem nodes_ofChain_concat (c : List (ρ × List (List α))) (x : ρ × List (List α)) :
    nodes (Tree.ofChain (c ++ [x])) = nodes (Tree.ofChain c) ++ [((c ++ [x]).map Prod.fst, x.2)] := by
  induction c with
  | nil => simp [Tree.ofChain, nodes, nodesKids]
  | cons y c ih => simp [nodes_ofChain_cons, ih]

section
variable [DecidableEq ρ]

theorem updFirst_some {r : ρ} {f : Tree α ρ → Tree α ρ} {ks ks' : List (Kid α ρ)}
    (h : updFirst r f ks = some ks') :
    ∃ k₁ sq ch k₂, ks = k₁ ++ (r, sq, ch) :: k₂ ∧ ks' = k₁ ++ (r, sq, f ch) :: k₂ := by
  induction ks generalizing ks' with
  | nil => simp [updFirst] at h
  | cons k rest ih =>
    obtain ⟨r', sq, ch⟩ := k
    simp only [updFirst] at h
    split at h
    · next hr =>
      simp only [Option.some.injEq] at h
      subst hr
      exact ⟨[], sq, ch, rest, rfl, by simp [← h]⟩
    · cases hu : updFirst r f rest with
      | none => simp [hu] at h
      | some ks'' =>
        simp only [hu, Option.map_some, Option.some.injEq] at h
        obtain ⟨k₁, sq', ch', k₂, e₁, e₂⟩ := ih hu
        exact ⟨(r', sq, ch) :: k₁, sq', ch', k₂, by simp [e₁], by simp [← h, e₂]⟩

/-- One iteration of the outer loop of `_build_tree`, against the branch the chain would make in an empty tree.  First
writer wins: a regexp path of the chain keeps the sequences of whoever created its node (the `∃ sq` of the third clause). -/
theorem insert_spec (c : List (ρ × List (List α))) (t : Tree α ρ) :
    (∀ n, n ∈ nodes t → n ∈ nodes (t.insert c)) ∧
    (∀ n, n ∈ nodes (t.insert c) → n ∈ nodes t ∨ n ∈ nodes (Tree.ofChain c)) ∧
    (∀ n, n ∈ nodes (Tree.ofChain c) → ∃ sq, (n.1, sq) ∈ nodes (t.insert c)) := by
  induction c generalizing t with
  | nil => simp [Tree.insert, Tree.ofChain, nodes, nodesKids]
  | cons x cs ih =>
    simp only [Tree.insert]
    cases hu : updFirst x.1 (Tree.insert cs) t.kids with
    | none =>
      simp only [Tree.ofChain, nodes, nodesKids_append, ← nodes_eq_kids, List.mem_append]
      exact ⟨fun n => .inl, fun n => id, fun n h => ⟨n.2, .inr h⟩⟩
    | some ks' =>
      obtain ⟨k₁, sq, ch, k₂, e₁, e₂⟩ := updFirst_some hu
      obtain ⟨ihm, ihs, ihp⟩ := ih ch
      simp only [nodes_eq_kids t, e₁, nodes, e₂, nodesKids_append, nodesKids, nodes_ofChain_cons,
        List.mem_append, List.mem_cons, List.mem_map]
      refine ⟨by grind, by grind, fun n h => ?_⟩
      rcases h with rfl | ⟨n', hn', rfl⟩
      · exact ⟨sq, .inr (.inl (.inl rfl))⟩
      · obtain ⟨sq', hsq'⟩ := ihp _ hn'
        exact ⟨sq', .inr (.inl (.inr ⟨_, hsq', rfl⟩))⟩

end

theorem snoc_induction {β : Type} {motive : List β → Prop} (nil : motive [])
    (snoc : ∀ l a, motive l → motive (l ++ [a])) : ∀ l, motive l := by
  intro l
  have : ∀ l : List β, motive l.reverse := by
    intro l
    induction l with
    | nil => simpa using nil
    | cons a l ih => simpa using snoc _ a ih
  simpa using this l.reverse

variable [DecidableEq α]

theorem chainFrom_append (P : List (List α × ρ)) (A : List α → List (List α)) (l₁ l₂ : List (List α)) :
    chainFrom P A (l₁ ++ l₂) = (chainFrom P A l₁).bind fun c₁ => (chainFrom P A l₂).map (c₁ ++ ·) := by
  induction l₁ with
  | nil => simp [chainFrom]
  | cons x l ih =>
    simp only [List.cons_append, chainFrom, ih]
    cases lookup P x with
    | none => rfl
    | some r => cases chainFrom P A l <;> cases chainFrom P A l₂ <;> rfl

theorem chainOf_nil (P : List (List α × ρ)) (A : List α → List (List α)) : chainOf P A [] = some [] := by
  simp [chainOf, seqSubs, chainFrom]

theorem chainOf_some_concat {P : List (List α × ρ)} {A : List α → List (List α)} {s : List α} {a : α}
    {c : List (ρ × List (List α))} (h : chainOf P A (s ++ [a]) = some c) :
    ∃ c' r, chainOf P A s = some c' ∧ lookup P (s ++ [a]) = some r ∧
      c = c' ++ [(r, A (s ++ [a]))] := by
  rw [chainOf, seqSubs_concat, chainFrom_append] at h
  obtain ⟨c', hc', h⟩ := Option.bind_eq_some_iff.1 h
  cases hl : lookup P (s ++ [a]) with
  | none => simp [chainFrom, hl] at h
  | some r => exact ⟨c', r, hc', rfl, by simpa [chainFrom, hl, eq_comm] using h⟩

/-- The node the tree holds for the sequence `s` when nothing else claimed its regexp path first. -/
def nodeOf (A : List α → List (List α)) (s : List α) (c : List (ρ × List (List α))) :
    List ρ × List (List α) := (c.map Prod.fst, A s)

theorem nodes_ofChain_eq (P : List (List α × ρ)) (A : List α → List (List α)) : ∀ (s : List α) (c : List (ρ × List (List α))),
    chainOf P A s = some c →
    nodes (Tree.ofChain c) = (seqSubs s).filterMap fun s₁ => (chainOf P A s₁).map (nodeOf A s₁) := by
  intro s
  induction s using snoc_induction with
  | nil =>
    intro c h
    rw [chainOf_nil, Option.some.injEq] at h
    subst h
    rfl
  | snoc s a ih =>
    intro c h
    obtain ⟨c', r, hc', hl, rfl⟩ := chainOf_some_concat h
    rw [nodes_ofChain_concat, seqSubs_concat, List.filterMap_append, ← ih c' hc']
    simp [h, nodeOf]

theorem chainOf_lookup {P : List (List α × ρ)} {A : List α → List (List α)} {s : List α} {c : List (ρ × List (List α))}
    (h : chainOf P A s = some c) (hne : s ≠ []) : ∃ r, (s, r) ∈ P := by
  rcases eq_nil_or_snoc s with rfl | ⟨s', a, rfl⟩
  · exact absurd rfl hne
  · obtain ⟨_, r, _, hl, _⟩ := chainOf_some_concat h
    exact ⟨r, lookup_some hl⟩

/-- every regexp on the way from the root to the node of `s` matches the model string -/
def ChainHolds (P : List (List α × ρ)) (m : ρ → Bool) (s : List α) : Prop :=
  ∀ s₁ ∈ seqSubs s, ∃ r, lookup P s₁ = some r ∧ m r = true

theorem ChainHolds.prefix {P : List (List α × ρ)} {m : ρ → Bool} {s s' : List α} (h : ChainHolds P m s)
    (hp : s' <+: s) : ChainHolds P m s' := fun s₁ hs₁ => h s₁ (seqSubs_prefix hp hs₁)

theorem chainFrom_all {P : List (List α × ρ)} {A : List α → List (List α)} (m : ρ → Bool) :
    ∀ (l : List (List α)) (c : List (ρ × List (List α))), chainFrom P A l = some c →
      ((∀ r ∈ c.map Prod.fst, m r = true) ↔ ∀ s₁ ∈ l, ∃ r, lookup P s₁ = some r ∧ m r = true)
  | [], c, h => by cases h; simp
  | sub :: more, c, h => by
    rw [chainFrom] at h
    cases hl : lookup P sub with
    | none => simp [hl] at h
    | some r =>
      obtain ⟨c', hc', rfl⟩ := Option.map_eq_some_iff.mp (by simpa only [hl] using h)
      simp only [List.map_cons, List.forall_mem_cons, chainFrom_all m more c' hc', hl, Option.some.injEq,
        exists_eq_left']

theorem chainFrom_isSome {P : List (List α × ρ)} (A : List α → List (List α)) :
    ∀ {l : List (List α)}, (∀ s ∈ l, (lookup P s).isSome = true) → (chainFrom P A l).isSome = true
  | [], _ => rfl
  | s :: l, h => by
    obtain ⟨r, hr⟩ := Option.isSome_iff_exists.mp (h s List.mem_cons_self)
    obtain ⟨c, hc⟩ := Option.isSome_iff_exists.mp (chainFrom_isSome A fun s' hs' => h s' (List.mem_cons_of_mem _ hs'))
    simp only [chainFrom, hr, hc, Option.map_some, Option.isSome_some]

variable [DecidableEq ρ]

/-- a node that stands for a sequence of the database -/
def IsSeqNode (P : List (List α × ρ)) (A : List α → List (List α)) (n : List ρ × List (List α)) : Prop :=
  ∃ s₁ c₁, s₁ ≠ [] ∧ chainOf P A s₁ = some c₁ ∧ n = nodeOf A s₁ c₁

theorem buildFrom_spec (P : List (List α × ρ)) (A : List α → List (List α)) : ∀ (Q : List (List α × ρ)) (t t' : Tree α ρ),
    buildFrom P A Q t = some t' →
    (∀ n, n ∈ nodes t → n ∈ nodes t') ∧
    (∀ n, n ∈ nodes t' → n ∈ nodes t ∨ IsSeqNode P A n) ∧
    (∀ e ∈ Q, e.1 ≠ [] → ∃ c sq, chainOf P A e.1 = some c ∧ (c.map Prod.fst, sq) ∈ nodes t') := by
  intro Q
  induction Q with
  | nil =>
    intro t t' h
    simp only [buildFrom, Option.some.injEq] at h
    subst h
    exact ⟨fun n h => h, fun n h => Or.inl h, by simp⟩
  | cons e rest ih =>
    intro t t' h
    simp only [buildFrom] at h
    cases hc : chainOf P A e.1 with
    | none => simp [hc] at h
    | some c =>
      simp only [hc] at h
      obtain ⟨im, is, ip⟩ := insert_spec c t
      obtain ⟨hm, hs, hp⟩ := ih _ _ h
      simp only [nodes_ofChain_eq P A e.1 c hc, List.mem_filterMap, Option.map_eq_some_iff] at is ip
      refine ⟨fun n hn => hm n (im n hn), fun n hn => ?_, ?_⟩
      · rcases hs n hn with h' | h'
        · rcases is n h' with h'' | ⟨s₁, hs₁, c₁, hc₁, rfl⟩
          · exact Or.inl h''
          · exact Or.inr ⟨s₁, c₁, (mem_seqSubs.mp hs₁).1, hc₁, rfl⟩
        · exact Or.inr h'
      · simp only [List.forall_mem_cons]
        refine ⟨fun hne => ?_, hp⟩
        obtain ⟨sq, hsq⟩ := ip _ ⟨e.1, self_mem_seqSubs hne, c, hc, rfl⟩
        exact ⟨c, sq, hc, hm _ hsq⟩

/-- No two sequences of the database lead to the same tree node (same regexps all the way down).
`_build_tree` keys the nested dicts by regexp, so two siblings with one pattern would share a node and the
second one would lose its sequences. -/
def InjPaths (P : List (List α × ρ)) : Prop :=
  ∀ A s₁ s₂ c₁ c₂, chainOf P A s₁ = some c₁ → chainOf P A s₂ = some c₂ →
    c₁.map Prod.fst = c₂.map Prod.fst → s₁ = s₂

theorem nodes_good {P : List (List α × ρ)} {A : List α → List (List α)} {t : Tree α ρ} (hb : buildTree P A = some t) :
    ∀ n, n ∈ nodes t → IsSeqNode P A n := by
  intro n hn
  obtain ⟨_, hs, _⟩ := buildFrom_spec P A P _ _ hb
  rcases hs n hn with h | h
  · simp [nodes, nodesKids] at h
  · exact h

theorem node_of_key {P : List (List α × ρ)} {A : List α → List (List α)} {t : Tree α ρ} (hb : buildTree P A = some t)
    (hinj : InjPaths P) {e : List α × ρ} (he : e ∈ P) (hne : e.1 ≠ []) :
    ∃ c, chainOf P A e.1 = some c ∧ nodeOf A e.1 c ∈ nodes t := by
  obtain ⟨_, _, hp⟩ := buildFrom_spec P A P _ _ hb
  obtain ⟨c, sq, hc, hmem⟩ := hp e he hne
  obtain ⟨s₂, c₂, _, hc₂, heq⟩ := nodes_good hb _ hmem
  simp only [nodeOf, Prod.mk.injEq] at heq
  obtain rfl := hinj A e.1 s₂ c c₂ hc hc₂ heq.1
  exact ⟨c, hc, by rw [nodeOf, ← heq.2]; exact hmem⟩

theorem findTrue_build_sub {P : List (List α × ρ)} {A : List α → List (List α)} {t : Tree α ρ}
    (hb : buildTree P A = some t) (m : ρ → Bool) {p : List α} (hp : p ∈ t.findTrue m) :
    ∃ e ∈ P, e.1 ≠ [] ∧ ChainHolds P m e.1 ∧ p ∈ A e.1 := by
  obtain ⟨n, hn, hall, hpn⟩ := (mem_findTrue m t p).mp hp
  obtain ⟨s, c, hne, hc, rfl⟩ := nodes_good hb n hn
  obtain ⟨r, hr⟩ := chainOf_lookup hc hne
  exact ⟨(s, r), hr, hne, (chainFrom_all m _ c hc).mp (by simpa [nodeOf] using hall), hpn⟩

/-- **`find_true_sequences` on the tree of `_build_tree`, in closed form**, when no two sequences share a node: whatever
`allowed_by_seq` holds for the sequences whose regexp chain holds. -/
theorem mem_findTrue_build {P : List (List α × ρ)} {A : List α → List (List α)} {t : Tree α ρ}
    (hb : buildTree P A = some t) (hinj : InjPaths P) (m : ρ → Bool) (p : List α) :
    p ∈ t.findTrue m ↔ ∃ e ∈ P, e.1 ≠ [] ∧ ChainHolds P m e.1 ∧ p ∈ A e.1 := by
  refine ⟨findTrue_build_sub hb m, ?_⟩
  rintro ⟨e, he, hne, hch, hpa⟩
  obtain ⟨c, hc, hnode⟩ := node_of_key hb hinj he hne
  exact (mem_findTrue m t p).mpr ⟨_, hnode, by simpa [nodeOf] using (chainFrom_all m _ c hc).mpr hch, hpa⟩

theorem buildFrom_isSome {P : List (List α × ρ)} (A : List α → List (List α)) :
    ∀ {Q : List (List α × ρ)} (t : Tree α ρ), (∀ e ∈ Q, ∀ s ∈ seqSubs e.1, (lookup P s).isSome = true) →
      (buildFrom P A Q t).isSome = true
  | [], _, _ => rfl
  | e :: Q, t, h => by
    obtain ⟨c, hc⟩ := Option.isSome_iff_exists.mp (chainFrom_isSome A (h e List.mem_cons_self))
    simp only [buildFrom, chainOf, hc]
    exact buildFrom_isSome A _ fun e' he' => h e' (List.mem_cons_of_mem _ he')

end Annet.Hw.Lemmas
