/-
C14: the united community lists of Arista and Cumulus.  `get_used_united_community_lists` holds the unions of the key
lists of the program (`Tracks`); where a reference of a policy row comes from (`CondRefA`: `has_any(A, B)` refers to
`A_OR_B`), and from such a reference to the key list it is stored under.
-/
import AnnetModel.Lemmas.RplRow
import AnnetModel.Spec.RplKeys

namespace Annet.Rpl.Lemmas
open Annet.Rpl.Spec

/-- the kind of Arista (and FRR) list that holds the community lists of a type -/
def kindA : CType → Option RefKindA
  | .basic => some .communityList
  | .rt => some .extcommunityList
  | .soo => some .extcommunityList
  | .large => some .largeCommunityList
  | .cost => none

/-- where a reference in an Arista policy row comes from: a condition of the program; `has_any(A, B)` refers to the
united list `A_OR_B` -/
inductive CondRefA (inp : Input) (c : Cond) : RefKindA × Str → Prop
  | comm {t : CType} {k : RefKindA} {l : List Str} {x : Str} (hf : fieldCType c.field = some t)
      (hk : kindA t = some k) (hv : c.val = .names l) (hx : x ∈ if c.op == .hasAny then [mangle l] else l) :
      CondRefA inp c (k, x)
  | pfx {names : List Str} {a b : Option Str} {nm : Str} {pl : PrefixList}
      (hf : c.field = .ipPrefix ∨ c.field = .ipv6Prefix) (hv : c.val = .pfx names a b) (hn : nm ∈ names)
      (hg : getPrefix inp.plists nm a b = .ok pl) : CondRefA inp c (.prefixList, pl.name)
  | asPath {v : Str} (hf : c.field = .asPathFilter) (hv : c.val = .scalar v) : CondRefA inp c (.asPathList, v)

/-- the dictionary `d` holds the unions of the key lists `K`: every entry is
`mangle ns ↦ [communities_dict[n] for n in ns]` for some `ns` in `K`, and every `ns` in `K` has its entry
(`Keyed.Built`: `assocSet` is `Keyed.upsert`) -/
def Tracks (cl : List CommList) (K : List (List Str)) (d : UnitedDict) : Prop :=
  Keyed.Built Prod.fst (fun e K => ∃ ns ∈ K, e.1 = mangle ns ∧ lookupAll cl ns = .ok e.2) (fun _ => True) mangle d K

theorem assocSet_eq {α : Type} (d : List (Str × α)) (k : Str) (v : α) :
    assocSet d k v = Keyed.upsert Prod.fst k (fun _ => (k, v)) (k, v) d := rfl

namespace Tracks
-- Trap: the lemmas `assocSet`, `setSingles`, `unitedCond`, `unitedAct`, `foldExcept`, `unitedStmt` shadow the model
-- functions of these names; after each of them the function needs its namespace (`Annet.Rpl.…`).
variable {cl : List CommList} {K : List (List Str)} {d d' : UnitedDict}

theorem entries (h : Tracks cl K d) : ∀ e ∈ d, ∃ ns ∈ K, e.1 = mangle ns ∧ lookupAll cl ns = .ok e.2 := h.2.1

theorem keys (h : Tracks cl K d) (ns : List Str) (hns : ns ∈ K) : ∃ e ∈ d, e.1 = mangle ns :=
  List.mem_map.mp (h.2.2 ns hns trivial)

theorem assocSet (h : Tracks cl K d) {ns : List Str} {v : List CommList} (hl : lookupAll cl ns = .ok v) :
    Tracks cl (K ++ [ns]) (assocSet d (mangle ns) v) := by
  have hns : ns ∈ K ++ [ns] := List.mem_append_right _ (List.mem_singleton_self _)
  rw [assocSet_eq]
  exact Keyed.Built.upsert h ns _ _ (fun _ _ => rfl) rfl (fun _ _ ⟨ns', h', r⟩ => ⟨ns', List.mem_append_left _ h', r⟩)
    (fun _ _ _ => ⟨ns, hns, rfl, hl⟩) fun _ => ⟨ns, hns, rfl, hl⟩

theorem setSingles (ns : List Str) : ∀ {K d d'}, Tracks cl K d → setSingles cl ns d = .ok d' →
    Tracks cl (K ++ ns.map ([·])) d' := by
  induction ns with
  | nil =>
    intro K d d' h hs
    cases hs
    rwa [List.map_nil, List.append_nil]
  | cons n ns ih =>
    intro K d d' h hs
    unfold Annet.Rpl.setSingles at hs
    split at hs
    · cases hs
    next c hc =>
      -- `mangle [n]` is `n`
      have := ih (h.assocSet (ns := [n]) (by simp only [lookupAll, hc])) hs
      rwa [List.append_assoc] at this

theorem unitedCond (c : Cond) (h : Tracks cl K d) (hs : unitedCond cl c d = .ok d') :
    Tracks cl (K ++ condKeys c) d' := by
  unfold Annet.Rpl.unitedCond at hs
  unfold condKeys
  cases hv : c.val with
  | names ns =>
    simp only [hv] at hs ⊢
    split at hs
    next hany =>
      rw [if_pos hany]
      split at hs
      · cases hs
      · cases hs
      next u us hl =>
        split at hs
        · cases hs
        · split at hs
          · cases hs
          · cases hs
            exact h.assocSet hl
    next hany =>
      rw [if_neg hany]
      exact h.setSingles ns hs
  | _ => simp [hv] at hs

theorem unitedAct (a : Action) (h : Tracks cl K d) (hs : unitedAct cl a d = .ok d') :
    Tracks cl (K ++ actKeys a) d' := by
  unfold Annet.Rpl.unitedAct at hs
  unfold actKeys
  cases hv : a.val with
  | comm c =>
    simp only [hv] at hs ⊢
    split at hs
    · cases hs
    next d1 h1 =>
      split at hs
      · cases hs
      next d2 h2 =>
        simpa only [CommAct.names, List.map_append, List.append_assoc] using
          ((h.setSingles _ h1).setSingles _ h2).setSingles _ hs
  | _ => simp [hv] at hs

theorem foldExcept {α : Type} {f : α → UnitedDict → Except Err UnitedDict} {keys : α → List (List Str)}
    (hf : ∀ x {K d d'}, Tracks cl K d → f x d = .ok d' → Tracks cl (K ++ keys x) d') (l : List α) :
    ∀ {K d d'}, Tracks cl K d → foldExcept f l d = .ok d' → Tracks cl (K ++ l.flatMap keys) d' := by
  induction l with
  | nil =>
    intro K d d' h hs
    cases hs
    rwa [List.flatMap_nil, List.append_nil]
  | cons x xs ih =>
    intro K d d' h hs
    unfold Annet.Rpl.foldExcept at hs
    split at hs
    · cases hs
    next d1 h1 =>
      rw [List.flatMap_cons, ← List.append_assoc]
      exact ih (hf x h h1) hs

theorem unitedStmt (st : Stmt) (h : Tracks cl K d) (hs : unitedStmt cl st d = .ok d') :
    Tracks cl (K ++ ((commConds st).flatMap condKeys ++ (commActs st).flatMap actKeys)) d' := by
  unfold Annet.Rpl.unitedStmt at hs
  split at hs
  · cases hs
  next d1 h1 =>
    have s1 := foldExcept (keys := fun f => (st.conds.filter (·.field == f)).flatMap condKeys)
      (fun f => foldExcept (fun c => unitedCond c) _) commMatchFields h h1
    have s2 := foldExcept (keys := fun f => (st.acts.filter (·.field == f)).flatMap actKeys)
      (fun f => foldExcept (fun a => unitedAct a) _) commThenFields s1 hs
    simpa only [commConds, commActs, List.flatMap_assoc, List.append_assoc] using s2

end Tracks

theorem usedUnited_tracks {inp : Input} {ud : UnitedDict} (h : usedUnited inp = .ok ud) :
    (∀ e ∈ ud, ∃ ns ∈ keyLists inp, e.1 = mangle ns ∧ lookupAll inp.clists ns = .ok e.2) ∧
      ∀ ns ∈ keyLists inp, ∃ e ∈ ud, e.1 = mangle ns := by
  unfold usedUnited at h
  split at h
  · cases h
  next d hd =>
    cases h
    have ht : Tracks inp.clists ([] ++ keyLists inp) d :=
      Tracks.foldExcept (fun st => Tracks.unitedStmt st) _ (show Tracks inp.clists [] [] from ⟨.nil, nofun, nofun⟩) hd
    have key := fun e => mem_foldl_insert mem_insertByKey e d []
    exact ⟨fun e he => ht.entries e (((key e).mp he).resolve_left (fun h => nomatch h)),
      fun ns hns => (ht.keys ns hns).imp fun e he => ⟨(key e).mpr (.inr he.1), he.2⟩⟩

theorem lookupAll_spec (cl : List CommList) (ns : List Str) (us : List CommList) (h : lookupAll cl ns = .ok us) :
    us.map (·.name) = ns ∧ ∀ u ∈ us, getComm cl u.name = some u := by
  induction ns generalizing us with
  | nil => cases h; exact ⟨rfl, nofun⟩
  | cons n ns ih =>
    unfold lookupAll at h
    split at h
    · cases h
    next c hc =>
      split at h
      · cases h
      next us' hus' =>
        cases h
        obtain ⟨i1, i2⟩ := ih us' hus'
        obtain rfl := getComm_name _ _ _ hc
        exact ⟨congrArg _ i1, List.forall_mem_cons.mpr ⟨hc, i2⟩⟩

/-- every list of every union is one of the given community lists -/
def FromInput (cl : List CommList) (d : UnitedDict) : Prop := ∀ u ∈ d, ∀ c ∈ u.2, c ∈ cl

theorem usedUnited_fromInput (inp : Input) (ud : UnitedDict) (h : usedUnited inp = .ok ud) :
    FromInput inp.clists ud := fun u hu c hc =>
  let ⟨_, _, _, hl⟩ := (usedUnited_tracks h).1 u hu
  getComm_mem _ _ _ ((lookupAll_spec _ _ _ hl).2 c hc)

theorem usedUnited_head {inp : Input} {ud : UnitedDict} (hud : usedUnited inp = .ok ud) (hinj : MangleInj inp)
    {ns : List Str} (hns : ns ∈ keyLists inp) (hnn : ns ≠ []) {t : CType} (hty : typesIn inp.clists [t] ns = true) :
    ∃ e ∈ ud, e.2.map (·.name) = ns ∧ ∃ u0 us, e.2 = u0 :: us ∧ u0 ∈ inp.clists ∧ u0.type = t := by
  obtain ⟨hinv, hkeys⟩ := usedUnited_tracks hud
  obtain ⟨e, he, hek⟩ := hkeys ns hns
  obtain ⟨ns', hns', hek', hl⟩ := hinv e he
  have : ns' = ns := hinj ns' hns' ns hns (by rw [← hek', hek])
  subst this
  obtain ⟨hnames, hmem⟩ := lookupAll_spec _ _ _ hl
  obtain ⟨u0, us, hus⟩ := List.exists_cons_of_ne_nil fun h0 : e.2 = [] => hnn (by rw [← hnames, h0]; rfl)
  have hu0 : u0 ∈ e.2 := hus ▸ List.mem_cons_self
  obtain ⟨c0, hgc, hct⟩ := typesIn_mem hty (n := u0.name) (hnames ▸ List.mem_map_of_mem hu0)
  cases (hmem u0 hu0).symm.trans hgc
  exact ⟨e, he, hnames, u0, us, hus, getComm_mem _ _ _ hgc, List.mem_singleton.mp hct⟩

theorem typesIn_sub {cl : List CommList} {ts : List CType} {l l' : List Str} (h : typesIn cl ts l = true)
    (hsub : ∀ n ∈ l', n ∈ l) : typesIn cl ts l' = true :=
  List.all_eq_true.mpr fun n hn => List.all_eq_true.mp h n (hsub n hn)

theorem condKey_mem (inp : Input) (p : Policy) (hp : p ∈ inp.policies) (st : Stmt) (hst : st ∈ p.stmts) (c : Cond)
    (hc : c ∈ st.conds) (hf : c.field ∈ commMatchFields) (ns : List Str) (hns : ns ∈ condKeys c) : ns ∈ keyLists inp := by
  unfold keyLists
  simp only [List.mem_flatMap, List.mem_append]
  refine ⟨st, ⟨p, hp, hst⟩, .inl ⟨c, ?_, hns⟩⟩
  unfold commConds
  simp only [List.mem_flatMap, List.mem_filter]
  exact ⟨c.field, hf, hc, by simp⟩

theorem actKey_mem (inp : Input) (p : Policy) (hp : p ∈ inp.policies) (st : Stmt) (hst : st ∈ p.stmts) (a : Action)
    (ha : a ∈ st.acts) (hf : a.field ∈ commThenFields) (ns : List Str) (hns : ns ∈ actKeys a) : ns ∈ keyLists inp := by
  unfold keyLists
  simp only [List.mem_flatMap, List.mem_append]
  refine ⟨st, ⟨p, hp, hst⟩, .inr ⟨a, ?_, hns⟩⟩
  unfold commActs
  simp only [List.mem_flatMap, List.mem_filter]
  exact ⟨a.field, hf, ha, by simp⟩

-- from a reference (`CondRefA.comm`, `ActRef`) to the key list of `used_communities` it is stored under
theorem cond_ref_key (c : Cond) (l : List Str) (hv : c.val = .names l) (hl : l ≠ []) (x : Str)
    (hx : x ∈ if c.op == .hasAny then [mangle l] else l) :
    ∃ ns ∈ condKeys c, ns ≠ [] ∧ mangle ns = x ∧ ∀ n ∈ ns, n ∈ l := by
  unfold condKeys
  simp only [hv]
  by_cases hop : (c.op == .hasAny) = true
  · simp only [hop, if_true, List.mem_singleton] at hx
    by_cases hlen : l.length > 1
    · exact ⟨l, by simp [hop, hlen], hl, hx.symm, fun n hn => hn⟩
    · match l, hl, hlen with
      | [n], _, _ => exact ⟨[n], by simp [hop], by simp, hx.symm, fun m hm => hm⟩
      | _ :: _ :: _, _, hlen => simp at hlen
  · simp only [hop] at hx
    refine ⟨[x], ?_, by simp, rfl, fun n hn => by simp at hn; subst hn; exact hx⟩
    simpa [hop] using hx

theorem cond_ref_keyList {inp : Input} (hty : TypeConsistent inp) (hcn : CondsNamed inp) {p : Policy}
    (hp : p ∈ inp.policies) {st : Stmt} (hst : st ∈ p.stmts) {c : Cond} (hc : c ∈ st.conds) {t : CType} {l : List Str}
    {x : Str} (hf : fieldCType c.field = some t) (hv : c.val = .names l)
    (hx : x ∈ if c.op == .hasAny then [mangle l] else l) :
    ∃ ns ∈ keyLists inp, ns ≠ [] ∧ mangle ns = x ∧ typesIn inp.clists [t] ns = true := by
  obtain ⟨ns, hns, hnn, hm, hsub⟩ := cond_ref_key c l hv (hcn p hp st hst c hc l hv) x hx
  have htyl := condTyped_names hf hv ▸ (hty p hp st hst).1 c hc
  exact ⟨ns, condKey_mem inp p hp st hst c hc (fieldCType_mem hf) ns hns, hnn, hm, typesIn_sub htyl hsub⟩

theorem act_ref_keyList {inp : Input} (hty : TypeConsistent inp) {p : Policy} (hp : p ∈ inp.policies) {st : Stmt}
    (hst : st ∈ p.stmts) {a : Action} (ha : a ∈ st.acts) {t : CType} {ca : CommAct} {n : Str}
    (hf : actCType a.field = some t) (hv : a.val = .comm ca) (hn : n ∈ CommAct.names ca) :
    [n] ∈ keyLists inp ∧ typesIn inp.clists [t] [n] = true :=
  ⟨actKey_mem inp p hp st hst a ha (actCType_mem hf) [n] (by rw [actKeys, hv]; exact List.mem_map.mpr ⟨n, hn, rfl⟩),
    typesIn_sub (actTyped_comm hf hv ▸ (hty p hp st hst).2 a ha) fun _ hm => List.mem_singleton.mp hm ▸ hn⟩

end Annet.Rpl.Lemmas
