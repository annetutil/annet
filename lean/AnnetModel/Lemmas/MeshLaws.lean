/-
The laws of a merge operation as one structure `Laws`, carried through unset
operands (`Laws.opt`), key-wise containers (`Laws.keywise`) and values of one shape (`Laws.shape`); a left
fold of an operation with these laws does not depend on the order of the operands (`Laws.foldlM_perm`).
-/
import AnnetModel.Lemmas.Mesh

namespace Annet.Mesh

section Laws
variable {α ε : Type}

/-- `f` is a partial semigroup on the domain `I` up to the equivalence `R` ("both raise" counts as agreement), and
commutative when `c` holds. -/
structure Laws (f : α → α → Except ε α) (R : α → α → Prop) (I : α → Prop) (c : Prop) : Prop where
  eqv : Equivalence R
  closed : ∀ a b r, I a → I b → f a b = .ok r → I r
  cong : ∀ a a' b b', I a → I a' → I b → I b' → R a a' → R b b' → RE R (f a b) (f a' b')
  assoc : ∀ a b d, I a → I b → I d → RE R (f a b >>= fun r => f r d) (f b d >>= fun r => f a r)
  comm : c → ∀ a b, I a → I b → RE R (f a b) (f b a)

variable {f : α → α → Except ε α} {R : α → α → Prop} {I : α → Prop} {c : Prop}

theorem Laws.congr {R' : α → α → Prop} {I' : α → Prop} {c' : Prop} (h : Laws f R I c)
    (hR : ∀ a b, R' a b ↔ R a b) (hI : ∀ a, I' a ↔ I a) (hc : c' → c) : Laws f R' I' c' := by
  obtain rfl : R' = R := funext fun a => funext fun b => propext (hR a b)
  obtain rfl : I' = I := funext fun a => propext (hI a)
  exact { h with comm := fun x => h.comm (hc x) }

/-- `Laws … True` with reflexivity asked on the domain only, for a relation that respects the domain (`resp`) -/
structure PCS {α ε : Type} (f : α → α → Except ε α) (R : α → α → Prop) (I : α → Prop) : Prop where
  refl : ∀ a, I a → R a a
  symm : ∀ a b, R a b → R b a
  trans : ∀ a b c, R a b → R b c → R a c
  resp : ∀ a b, R a b → I a → I b
  closed : ∀ a b r, I a → I b → f a b = .ok r → I r
  cong : ∀ a a' b b', I a → I b → R a a' → R b b' → RE R (f a b) (f a' b')
  comm : ∀ a b, I a → I b → RE R (f a b) (f b a)
  assoc : ∀ a b c, I a → I b → I c → RE R (f a b >>= fun r => f r c) (f b c >>= fun r => f a r)

def OptI (I : α → Prop) : Option α → Prop
  | none => True
  | some a => I a

theorem OptI_resp (h : PCS f R I) {o o' : Option α} (ho : OptRel R o o') (hi : OptI I o) : OptI I o' := by
  cases o <;> cases o' <;> simp at ho <;> simp_all [OptI]
  exact h.resp _ _ ho hi

theorem Laws.foldlM_cong (h : Laws f R I c) (l : List α) (hl : ∀ v ∈ l, I v) :
    ∀ {a a' : α}, R a a' → I a → I a' → RE R (l.foldlM f a) (l.foldlM f a') := by
  induction l with
  | nil => intro a a' haa _ _; exact haa
  | cons v vs ih =>
    intro a a' haa ia ia'
    rw [List.foldlM_cons, List.foldlM_cons]
    have hv := hl v List.mem_cons_self
    refine RE.bind' (h.cong _ _ _ _ ia ia' hv hv haa (h.eqv.refl v)) fun r r' hr hr' hrr => ?_
    exact ih (fun w hw => hl w (List.mem_cons_of_mem _ hw)) hrr (h.closed _ _ _ ia hv hr) (h.closed _ _ _ ia' hv hr')

theorem Laws.foldlM_perm (h : Laws f R I c) (hc : c) {l l' : List α} (hp : l.Perm l') :
    (∀ v ∈ l, I v) → ∀ a, I a → RE R (l.foldlM f a) (l'.foldlM f a) := by
  induction hp with
  | nil => intro _ a _; exact h.eqv.refl a
  | cons x _ ih =>
    intro hl a ia
    rw [List.foldlM_cons, List.foldlM_cons]
    cases hf : f a x with
    | error e => trivial
    | ok r => exact ih (fun w hw => hl w (List.mem_cons_of_mem _ hw)) r (h.closed _ _ _ ia (hl x List.mem_cons_self) hf)
  | swap x y l =>
    intro hl a ia
    have hy := hl y List.mem_cons_self
    have hx := hl x (List.mem_cons_of_mem _ List.mem_cons_self)
    simp only [List.foldlM_cons, ← bind_assoc]
    -- (a ⊕ y) ⊕ x  ≈  a ⊕ (y ⊕ x)  ≈  a ⊕ (x ⊕ y)  ≈  (a ⊕ x) ⊕ y
    have e2 : RE R (f y x >>= fun r => f a r) (f x y >>= fun r => f a r) :=
      RE.bind' (h.comm hc y x hy hx) fun r r' hr hr' hrr =>
        h.cong a a r r' ia ia (h.closed _ _ _ hy hx hr) (h.closed _ _ _ hx hy hr') (h.eqv.refl a) hrr
    have tr : ∀ a b d, R a b → R b d → R a d := fun _ _ _ => h.eqv.trans
    have e := RE.trans tr (RE.trans tr (h.assoc a y x ia hy hx) e2)
      (RE.symm (fun _ _ => h.eqv.symm) (h.assoc a x y ia hx hy))
    refine RE.bind' e fun r r' hr hr' hrr => ?_
    obtain ⟨_, h1, h2⟩ := Except.bind_eq_ok.mp hr
    obtain ⟨_, h1', h2'⟩ := Except.bind_eq_ok.mp hr'
    exact h.foldlM_cong l (fun w hw => hl w (List.mem_cons_of_mem _ (List.mem_cons_of_mem _ hw))) hrr
      (h.closed _ _ _ (h.closed _ _ _ ia hy h1) hx h2) (h.closed _ _ _ (h.closed _ _ _ ia hx h1') hy h2')
  | trans hp1 _ ih1 ih2 =>
    intro hl a ia
    exact RE.trans (R := R) (fun _ _ _ => h.eqv.trans) (ih1 hl a ia) (ih2 (fun v hv => hl v (hp1.mem_iff.mpr hv)) a ia)

theorem optOp_none_right (o : Option α) : optOp f o none = .ok o := by
  cases o <;> rfl

theorem optOp_closed (h : Laws f R I c) {a b r : Option α} (ia : OptI I a) (ib : OptI I b)
    (hr : optOp f a b = .ok r) : OptI I r := by
  cases a with
  | none => cases hr; exact ib
  | some x =>
    cases b with
    | none => cases hr; exact ia
    | some y =>
      obtain ⟨v, hv, rfl⟩ := map_ok_iff.mp hr
      exact h.closed _ _ _ ia ib hv

theorem Laws.opt (h : Laws f R I c) : Laws (optOp f) (OptRel R) (OptI I) c where
  eqv := OptRel.equivalence h.eqv
  closed := fun _ _ _ => optOp_closed h
  cong := by
    intro a a' b b' ia ia' ib ib' haa hbb
    cases a <;> cases a' <;> try exact haa.elim
    · exact hbb
    · cases b <;> cases b' <;> try exact hbb.elim
      · exact haa
      · exact RE.map (h.cong _ _ _ _ ia ia' ib ib' haa hbb) fun _ _ r => r
  comm := by
    intro hc a b ia ib
    cases a <;> cases b
    · trivial
    · exact h.eqv.refl _
    · exact h.eqv.refl _
    · exact RE.map (h.comm hc _ _ ia ib) fun _ _ r => r
  assoc := by
    intro ox oy oz ix iy iz
    -- an unset operand is a unit: only the last case calls `f`
    have rf := (OptRel.equivalence h.eqv).refl
    cases ox with
    | none => exact RE.of_eq rf (bind_pure _).symm
    | some x =>
      cases oy with
      | none => exact RE.refl rf _
      | some y =>
        cases oz with
        | none =>
          simp only [optOp_none_right, ok_bind]
          exact RE.of_eq rf (bind_pure _)
        | some z =>
          simp only [optOp, Except.map_bind, Except.bind_map]
          exact RE.map (h.assoc x y z ix iy iz) fun _ _ r => r

section Keywise
variable {S J : Type} {get : J → S → Option α} {V : S → Prop}

theorem Laws.keywise {X : S → S → Except ε S} {op : J → Option α → Option α → Except ε (Option α)}
    {R : J → Option α → Option α → Prop} {I : J → Option α → Prop} {c : J → Prop}
    (hK : ∀ a b, V a → V b → Keywise get V (X a b) fun j => op j (get j a) (get j b))
    (h : ∀ j, Laws (op j) (R j) (I j) (c j)) :
    Laws X (fun a b => ∀ j, R j (get j a) (get j b)) (fun a => V a ∧ ∀ j, I j (get j a)) (∀ j, c j) where
  eqv := ⟨fun _ j => (h j).eqv.refl _, fun hab j => (h j).eqv.symm (hab j),
    fun h1 h2 j => (h j).eqv.trans (h1 j) (h2 j)⟩
  closed := fun a b r ia ib hr =>
    have ⟨vr, hk⟩ := (hK a b ia.1 ib.1).ok r hr
    ⟨vr, fun j => (h j).closed _ _ _ (ia.2 j) (ib.2 j) (hk j)⟩
  cong := fun a a' b b' ia ia' ib ib' haa hbb =>
    (hK a b ia.1 ib.1).rel (hK a' b' ia'.1 ib'.1) R fun j =>
      (h j).cong _ _ _ _ (ia.2 j) (ia'.2 j) (ib.2 j) (ib'.2 j) (haa j) (hbb j)
  assoc := fun _ _ _ ia ib id =>
    Keywise.assoc hK R ia.1 ib.1 id.1 fun j => (h j).assoc _ _ _ (ia.2 j) (ib.2 j) (id.2 j)
  comm := fun hc a b ia ib =>
    (hK a b ia.1 ib.1).rel (hK b a ib.1 ia.1) R fun j => (h j).comm (hc j) _ _ (ia.2 j) (ib.2 j)

end Keywise
end Laws

theorem Laws.shape {β : Type} (sh : Shape β) {g : β → β → Except MergeErr β} {R : β → β → Prop} {I : β → Prop}
    {c : Prop} (h : Laws g R I c) :
    Laws (shapeOp sh g) (shapeEqv sh R) (fun x => ∀ a, sh.view x = some a → I a) c where
  eqv := shapeEqv.equivalence h.eqv
  closed := fun x y r ix iy hr a ha => by
    obtain ⟨u, v, w, hx, hy, hg, rfl⟩ := shapeOp_ok hr
    rw [sh.view_make] at ha
    cases ha
    exact h.closed _ _ _ (ix u hx) (iy v hy) hg
  cong := fun x x' y y' ix ix' iy iy' hx hy =>
    shapeOp.cong hx hy fun a a' b b' va va' vb vb' ra rb =>
      h.cong _ _ _ _ (ix a va) (ix' a' va') (iy b vb) (iy' b' vb') ra rb
  assoc := fun x y z ix iy iz =>
    shapeOp.assoc (fun _ _ => shapeEqv.of_mk) fun a b d va vb vd => h.assoc _ _ _ (ix a va) (iy b vb) (iz d vd)
  comm := fun hc x y ix iy => shapeOp.comm fun a b va vb => h.comm hc _ _ (ix a va) (iy b vb)

/-- exact associativity alone, as `Laws` for `=` (to be lifted through `Laws.opt`, `Laws.keywise`) -/
theorem Laws.of_assoc_eq {α ε : Type} {f : α → α → Except ε α}
    (h : ∀ x y z, RE Eq (f x y >>= fun r => f r z) (f y z >>= fun r => f x r)) : Laws f Eq (fun _ => True) False where
  eqv := ⟨fun _ => rfl, Eq.symm, Eq.trans⟩
  closed := fun _ _ _ _ _ _ => trivial
  cong := fun _ _ _ _ _ _ _ _ haa hbb => haa ▸ hbb ▸ RE.refl (fun _ => rfl) _
  assoc := fun x y z _ _ _ => h x y z
  comm := False.elim

end Annet.Mesh
