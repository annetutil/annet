/-
Non-vacuity of `nested_converges`: over the rulebook of `ConvergeNestedRulebook`, an ordering rulebook and a pair of
three-level configurations mixing removed, added, affected and unchanged blocks, satisfying every hypothesis of the
theorem (the instance of the theorem on them is `C01_nested_converges_nonvacuous`, Props/C01.lean).  The hypotheses on
the configurations are evaluated by the kernel through boolean checkers (`goodCB_sound`).
-/
import AnnetModel.Lemmas.ConvergeNestedRulebook
import AnnetModel.Lemmas.ConvergeNestedSecond

namespace Annet.ConvergeNested.Example
open Annet Annet.Rules Annet.Device Annet.Device.Abs Annet.Converge Annet.ConvergeNested
open Annet.ConvergeNested.Lemmas (ruleMatches)

def ordering : List ORule :=
  [.mk "interface *" "interface *" false false none [.mk "mtu" "mtu" false false none []]]

def old : Cfg := .mk [
  ("interface a", .mk [("mtu 1500", .mk []), ("description x", .mk []), ("sub 1", .mk [("ip 1", .mk [])])]),
  ("interface b", .mk [("mtu 1", .mk [])]),
  ("sysname foo", .mk []),
  ("interface d", .mk [("sub 1", .mk [("ip 1", .mk [])])])]

def new : Cfg := .mk [
  ("interface a", .mk [("mtu 9000", .mk []), ("sub 1", .mk [("ip 2", .mk [])]), ("sub 2", .mk [("ip 3", .mk [])])]),
  ("interface c", .mk [("description y", .mk []), ("sub 7", .mk [])]),
  ("sysname foo", .mk []),
  ("interface d", .mk [("sub 1", .mk [("ip 1", .mk [])])])]

theorem noPin : NoPin ordering := by
  simp [ordering, NoPin, NoPinRule]

def wfB (rules : PRules) (ks : List (String × Cfg)) : Bool :=
  ks.all (fun e => (slotOf rules e.1).isSome) && decide ((ks.map fun e => slotOf rules e.1).Nodup)

theorem wfB_sound {rules : PRules} {ks : List (String × Cfg)} (h : wfB rules ks = true) : WF rules ks := by
  simp only [wfB, Bool.and_eq_true, List.all_eq_true, decide_eq_true_eq] at h
  exact ⟨h.1, h.2⟩

mutual
  def goodLB : PRules → List (String × Cfg) → Bool
    | _, [] => true
    | rules, (row, c) :: rest =>
      (match classify rules row with
        | some (_, cr) => decide ((rules.loc.filter (ruleMatches row)).length = 1) && goodCB cr c
        | none => false) && goodLB rules rest
  def goodCB : PRules → Cfg → Bool
    | rules, .mk ks => wfB rules ks && goodLB rules ks
end

mutual
  theorem goodLB_sound : ∀ (rules : PRules) (ks : List (String × Cfg)), goodLB rules ks = true → GoodL rules ks
    | _, [], _ => by rw [GoodL]; trivial
    | rules, (row, c) :: rest, h => by
      rw [goodLB, Bool.and_eq_true] at h
      rw [GoodL]
      refine ⟨?_, goodLB_sound rules rest h.2⟩
      have h1 := h.1
      split at h1
      · rename_i m cr hcl
        rw [Bool.and_eq_true, decide_eq_true_eq] at h1
        simp only [hcl]
        exact ⟨h1.1, goodCB_sound cr c h1.2⟩
      · cases h1
  theorem goodCB_sound : ∀ (rules : PRules) (c : Cfg), goodCB rules c = true → GoodC rules c
    | rules, .mk ks, h => by
      rw [goodCB, Bool.and_eq_true] at h
      rw [GoodC]
      exact ⟨wfB_sound h.1, goodLB_sound rules ks h.2⟩
end

-- (`decide +kernel`: the kernel evaluates the checker; plain `decide` runs out of memory on these terms)
theorem goodOld : GoodC rules old := goodCB_sound rules old (by decide +kernel)
theorem goodNew : GoodC rules new := goodCB_sound rules new (by decide +kernel)

theorem chainOk : (Lemmas.deployChain v env rules ordering old [new, old]).isSome = true := by decide +kernel

theorem patchOk : ∃ r, Api.deviceMode Patch.runLogic v rules ordering true old new = .ok r := by
  have h := chainOk
  rw [Lemmas.deployChain, Lemmas.deployStep] at h
  cases hr : Api.deviceMode Patch.runLogic v rules ordering true old new with
  | ok r => exact ⟨r, rfl⟩
  | error e => rw [hr] at h; cases h

open Annet.ConvergeNested.Lemmas (deployChain chain_converges)

/-- non-vacuity of `chain_converges`: the two-step chain `old → new → old` on the closed instance: both steps are
accepted by the pipeline and the device ends up agreeing with `old` again -/
example : ∃ final, deployChain v env rules ordering old [new, old] = some final ∧
    GoodC rules final ∧ SameC rules final old := by
  obtain ⟨final, hf⟩ := Option.isSome_iff_exists.1 chainOk
  refine ⟨final, hf, ?_⟩
  refine chain_converges v env rules ordering nestedRules cmdsOKAll noPin old [new] old final goodOld ?_ hf
  intro t ht
  simp only [List.cons_append, List.nil_append, List.mem_cons, List.not_mem_nil, or_false] at ht
  rcases ht with rfl | rfl
  · exact goodNew
  · exact goodOld

end Annet.ConvergeNested.Example
