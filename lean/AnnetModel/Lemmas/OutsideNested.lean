/-
C02 clause (b), END TO END at EVERY DEPTH of the device, for the tree executor of C01 (`ConvergeNested.applyTree`).

For a path `p = [row_1, …, row_n]` of blocks of the device and a slot `s` of the level below `row_n` (`n = 0`: the top
level), if

  * at the last level no entry of the shown diff (the ACL-filtered diff, below the entries of `row_1 … row_n`) addresses
    `s`, and
  * at every level above, the entries of the shown diff that address the slot of `row_i` are entries of the line `row_i`
    itself that do not remove it (not REMOVED, not MOVED), and `row_i` is not read by the device as the removal of its own
    slot (if NO entry addresses the slot of `row_i`, nothing is asked of the levels below: nothing below is touched),

then the patch `_diff_and_patch` builds under the ACL, executed on ANY device that has the blocks `row_1 … row_n`, leaves
the lines of slot `s` below `p` exactly as they were (text, subtrees, relative order): `outside_nested`.

The proof: an item leaves the lines of every slot but the one it acts on alone (`itemStep_frame`, a fact of the device);
`item_cases` (an item that acts on a slot of its level stems from a changed diff entry that addresses the slot, and how);
then `applyItems_outside`, down `p` for any list of items that stem from a diff `d` with `ClassN rules d`.  Its case
`p = []`, at leaf items, is the flat theorem of `Lemmas/OutsideFlat.lean`.  The walks along `p` go by the functional
induction of the definition they take apart (`PathOK`, `slotLinesAt`, `rulesAt`).

The hypothesis on the shown diff is `Outside env rules diff p s` (decidable; a statement about `res.diff`, the rulebook
and the negation word — not about the commands of the patch).  `PathOK` follows from the `…All` versions over every rule
set reachable through `classify` (`pathOK_of_all`; never instantiated: they quantify over every row), and along a
uniquely matched path from the rulebook hypotheses of C01's `nested_converges` (`NestedRules`, `CmdsOKAll`:
`pathOK_of_nested`).  `outside_subtree` is the row-path form, `outside_nested_applyCmds` the form on the path-based device
`Device.applyCmds ∘ treePaths`.

Why the clauses of `Outside` above the last level: a diff entry of ANOTHER line of the block's slot (same rule and key,
other text) makes the device replace the block and discard its subtree (`putLine`); a REMOVED / MOVED entry sends the
removal command of the slot; a row the device reads as the removal of its own slot removes the block when sent.

Non-vacuity: `Lemmas/OutsideNestedExample.lean`.

Not done here: an input-only form of `Outside` (on `old`, `new` and the ACL, the nested `AclSlotClosed`).
-/
import AnnetModel.Lemmas.OutsideNestedBase
import AnnetModel.Lemmas.Provenance
import AnnetModel.Lemmas.ConvergeNestedPaths

namespace Annet.AclDiff.OutsideNested
open Annet Annet.Rules Annet.Diff Annet.Device Annet.Device.Abs Annet.ConvergeNested
open Annet.AclDiff.OutsideFlat
open Annet.ConvergeNested.Lemmas (itemStep itemSlot itemStep_frame applyItems_foldl applyTree_eq TItem)

/-- `cr` is reached from `rules` by classifying a row and going to its child rules, any number of times -/
inductive Reach : PRules → PRules → Prop
  | refl (rules : PRules) : Reach rules rules
  | step {rules cr cr' : PRules} {row : String} {m : PMatch} :
      classify rules row = some (m, cr) → Reach cr cr' → Reach rules cr'

def ReverseInSlotAll (pv : Vendor) (env : Env) (rules : PRules) : Prop := ∀ cr, Reach rules cr → ReverseInSlot pv env cr
def RawDetRowAll (rules : PRules) : Prop := ∀ cr, Reach rules cr → RawDetRow cr
def NoForceCommitAll (rules : PRules) : Prop := ∀ cr, Reach rules cr → NoForceCommit cr

theorem slotLinesAt_cons {rules cr : PRules} {r : String} {m : PMatch} (hcl : classify rules r = some (m, cr))
    (kids : List (String × Cfg)) (p : List String) (s : Slot) :
    slotLinesAt rules kids (r :: p) s =
      (kids.find? (fun e => e.1 == r)).bind fun e => slotLinesAt cr e.2.kids p s := by
  rw [slotLinesAt]
  simp only [hcl]
  cases kids.find? (fun e => e.1 == r) <;> rfl

theorem pathOK_of_all {pv : Vendor} {env : Env} {p : List String} {rules : PRules} {s : Slot}
    {kids ls : List (String × Cfg)}
    (h1 : ReverseInSlotAll pv env rules) (h2 : RawDetRowAll rules) (h3 : NoForceCommitAll rules)
    (h : slotLinesAt rules kids p s = some ls) : PathOK pv env rules p s := by
  fun_induction slotLinesAt rules kids p s with
  | case1 => exact ⟨h1 _ (.refl _), h2 _ (.refl _), .inl (h3 _ (.refl _))⟩
  | case2 rules kids r p s m cr e _ hcl ih =>
    rw [PathOK]
    simp only [hcl]
    exact ⟨h1 _ (.refl _), h2 _ (.refl _), .inl (h3 _ (.refl _)),
      ih (fun c hc => h1 c (.step hcl hc)) (fun c hc => h2 c (.step hcl hc)) (fun c hc => h3 c (.step hcl hc)) h⟩
  | case3 => cases h

theorem outside_entry {env : Env} {rules : PRules} {d : List DItem} {r : String} {p : List String} {s : Slot}
    {m : PMatch} {cr : PRules} (hcl : classify rules r = some (m, cr))
    (hout : Outside env rules (stripUnchanged d) (r :: p) s) {e : DItem} (he : e ∈ d) (hop : e.op ≠ .unchanged)
    (ha : addresses env rules e.row (m.rawRule, m.key) = true) :
    e.row = r ∧ e.op ≠ .removed ∧ e.op ≠ .moved ∧
      (stripReverse env r).bind (slotOf rules) ≠ some (m.rawRule, m.key) ∧
      Outside env cr (stripUnchanged e.children) p s := by
  rw [Outside] at hout
  simp only [hcl] at hout
  have := hout (stripItem e) (Diff.Lemmas.stripItem_mem d e he hop) (by rw [Diff.Lemmas.stripItem_row e]; exact ha)
  rwa [Diff.Lemmas.stripItem_row e, Diff.Lemmas.stripItem_op, stripItem_children] at this

/-- An item of the patch that acts on slot `s` of its level (`itemSlot`; any other item leaves the lines of `s` alone:
`itemStep_frame`) stems from a changed diff entry `e` of that level that addresses `s`; `e` is REMOVED / MOVED (the item
may be its removal command), or the item is `e`'s own row: a leaf, or a block whose tree stems from the children of `e`. -/
theorem item_cases {pv : Vendor} {env : Env} {rules : PRules} {d : List DItem} {s : Slot}
    (hcl : Classified rules d) (hrev : ReverseInSlot pv env rules) (hraw : RawDetRow rules)
    (hcommit : NoForceCommit rules ∨ addresses env rules "commit" s = false)
    {it : TItem} (hit : Patch.ProvI pv d it) (hs : itemSlot env rules it = some s) :
    ∃ e ∈ d, e.op ≠ .unchanged ∧ addresses env rules e.row s = true ∧
      ((e.op = .removed ∨ e.op = .moved) ∨ (it.1 = e.row ∧ ∀ T, it.2.1 = some T → Patch.ProvT pv e.children T)) := by
  have own : ∀ {r : String}, slotOf rules r = some s → addresses env rules r s = true := fun h => by
    rw [addresses, h, beq_self_eq_true, Bool.true_or]
  cases hit with
  | @leaf _ e k he hop => exact ⟨e, he, hop, addresses_of_den hs, .inr ⟨rfl, nofun⟩⟩
  | @block _ e T k he hop hT => exact ⟨e, he, hop, own hs, .inr ⟨rfl, fun T' h => Option.some.inj h ▸ hT⟩⟩
  | @reverse _ e e' row k he hop he' hrr hrc =>
    exact ⟨e, he, fun hu => (hu ▸ hop).elim nofun nofun, own (reverse_slot hcl hrev hraw he he' hrr hrc hs), .inl hop⟩
  | @commit _ e' k he' hfc =>
    rcases hcommit with hno | hc
    · obtain ⟨cr', hce'⟩ := hcl e' he'
      obtain ⟨f', hf', _, hf2'⟩ := Device.Lemmas.classify_rule hce'
      rw [hf2', hno f' (List.mem_append.2 hf')] at hfc
      cases hfc
    · rw [addresses_of_den hs] at hc
      cases hc

theorem applyItems_outside (pv : Vendor) (env : Env) (p : List String) (rules : PRules) (d : List DItem) (s : Slot)
    (items : List TItem) (kids ls : List (String × Cfg))
    (hcn : ClassN rules d) (hok : PathOK pv env rules p s) (hout : Outside env rules (stripUnchanged d) p s)
    (hprov : ∀ it ∈ items, Patch.ProvI pv d it) (hl : slotLinesAt rules kids p s = some ls) :
    slotLinesAt rules (applyItems env rules items kids) p s = some ls := by
  rw [applyItems_foldl]
  fun_induction PathOK pv env rules p s generalizing d items kids ls with
  | case1 rules s =>
    obtain ⟨hrev, hraw, hcommit⟩ := hok
    rw [Outside] at hout
    refine List.foldlRecOn (motive := fun k => slotLinesAt rules k [] s = some ls) items _ hl ?_
    intro k hk it hit
    rw [slotLinesAt] at hk ⊢
    by_cases hs : itemSlot env rules it = some s
    · obtain ⟨e, he, hop, ha, -⟩ := item_cases hcn.classified hrev hraw hcommit (hprov _ hit) hs
      rw [changed_outside hout e he hop] at ha
      cases ha
    · rw [itemStep_frame env rules it s hs k, hk]
  | case2 => exact hok.elim
  | case3 rules r p s m cr hcl ih =>
    obtain ⟨hrev, hraw, hcommit, hok'⟩ := hok
    have hinv : ∀ k : List (String × Cfg), slotLinesAt rules k (r :: p) s = some ls ↔
        ∃ e0, k.find? (fun e => e.1 == r) = some e0 ∧ slotLinesAt cr e0.2.kids p s = some ls :=
      fun k => by rw [slotLinesAt_cons hcl, Option.bind_eq_some_iff]
    refine List.foldlRecOn (motive := fun k => slotLinesAt rules k (r :: p) s = some ls) items _ hl ?_
    intro k hk it hit
    obtain ⟨e0, hf, hl0⟩ := (hinv k).1 hk
    by_cases hs : itemSlot env rules it = some (m.rawRule, m.key)
    · obtain ⟨e, he, hop, ha, h⟩ := item_cases hcn.classified hrev hraw hcommit (hprov _ hit) hs
      obtain ⟨hrow, h1, h2, hnr, hout'⟩ := outside_entry hcl hout he hop ha
      obtain ⟨hit1, hT⟩ := h.resolve_left fun h => h.elim h1 h2
      obtain ⟨row, o, key⟩ := it
      obtain rfl : row = r := hit1.trans hrow
      cases o with
      | none => exact (hinv _).2 ⟨e0, Device.Lemmas.execLeaf_find_self env rules row m cr k e0 hcl hnr hf, hl0⟩
      | some T =>
        obtain ⟨cr', hce, hcn'⟩ := classN_iff.1 hcn e he
        rw [hrow, hcl] at hce
        cases hce
        refine (hinv _).2 ⟨(e0.1, .mk (applyTree env cr T e0.2.kids)), ?_, ?_⟩
        · show (itemStep env rules (row, some T, key) k).find? (fun e => e.1 == row) = _
          rw [ConvergeNested.Lemmas.itemStep_block]
          simp only [hcl]
          exact Device.Lemmas.inBlock_find_self _ row _ e0 (Device.Lemmas.putLine_find_self rules _ row k e0 hf)
        · simp only [Cfg.kids]
          rw [applyTree_eq, applyItems_foldl]
          exact ih e.children T.items e0.2.kids ls hcn' hok' hout' (Patch.Prov.provT_iff.1 (hT T rfl)) hl0
    · -- the item leaves the lines of the block's slot alone, so the block line is found as before
      exact (hinv _).2 ⟨e0, by rw [Device.Lemmas.find_of_filter_eq (Device.Lemmas.slotOf_of_classify hcl)
        (itemStep_frame env rules it _ hs k), hf], hl0⟩

/-- **C02 (b), end to end, every depth**: the theorem of the file head, for the patch of `_diff_and_patch`. -/
theorem outside_nested {pv : Vendor} {av : Acl.Vendor} {acl : Acl.Rules} {rules : PRules} {ordering : List ORule}
    {old new : Cfg} {res : Api.Result} {env : Env} {p : List String} {s : Slot}
    (h : deviceModeAcl Patch.runLogic pv av acl rules ordering old new = .ok res)
    (hok : PathOK pv env rules p s)
    (hs : Outside env rules res.diff p s)
    (dev : Cfg) (ls : List (String × Cfg)) (hdev : slotLinesAt rules dev.kids p s = some ls) :
    slotLinesAt rules (applyTree env rules res.patch dev.kids) p s = some ls := by
  obtain ⟨d, hdiff, hp, -, hcn, -⟩ := deviceModeAcl_inv h
  have hprov := Patch.patch_provenance pv ordering true d _ hp
  rw [hdiff] at hs
  rw [applyTree_eq]
  exact applyItems_outside pv env p rules d s res.patch.items dev.kids ls hcn hok hs (Patch.Prov.provT_iff.1 hprov) hdev

theorem outside_nested_all (pv : Vendor) (av : Acl.Vendor) (acl : Acl.Rules) (rules : PRules) (ordering : List ORule)
    (old new : Cfg) (res : Api.Result) (env : Env) (p : List String) (s : Slot)
    (h : deviceModeAcl Patch.runLogic pv av acl rules ordering old new = .ok res)
    (hrev : ReverseInSlotAll pv env rules) (hraw : RawDetRowAll rules) (hcommit : NoForceCommitAll rules)
    (hs : Outside env rules res.diff p s)
    (dev : Cfg) (ls : List (String × Cfg)) (hdev : slotLinesAt rules dev.kids p s = some ls) :
    slotLinesAt rules (applyTree env rules res.patch dev.kids) p s = some ls :=
  outside_nested h (pathOK_of_all hrev hraw hcommit hdev) hs dev ls hdev

theorem subtreeAt_snoc {s : Slot} {r : String} {p : List String} {rules cr : PRules} (kids : List (String × Cfg))
    (hr : rulesAt rules p = some cr) (hs : slotOf cr r = some s) :
    subtreeAt kids (p ++ [r]) =
      (slotLinesAt rules kids p s).bind fun ls => (ls.find? (fun e => e.1 == r)).map fun e => .mk e.2.kids := by
  fun_induction rulesAt rules p generalizing kids with
  | case1 rules =>
    cases hr
    rw [slotLinesAt, Option.bind_some, Device.Lemmas.find_of_filter_eq hs (l' := kids) (by rw [List.filter_filter]; simp),
      List.nil_append, subtreeAt]
    cases kids.find? (fun e => e.1 == r) <;> rfl
  | case2 rules r0 p m cr0 hcl ih =>
    rw [List.cons_append, subtreeAt, slotLinesAt_cons hcl]
    cases kids.find? (fun e => e.1 == r0) with
    | none => rfl
    | some e => exact ih e.2.kids hr
  | case3 => cases hr

/-- **C02 (b), every depth, row-path form.**  For `r` a line of slot `s` under the rules reached along `p`: the subtree of
the device at `p ++ [r]` is the same after the patch. -/
theorem outside_subtree {pv : Vendor} {av : Acl.Vendor} {acl : Acl.Rules} {rules : PRules} {ordering : List ORule}
    {old new : Cfg} {res : Api.Result} {env : Env} {p : List String} {r : String} {s : Slot}
    (h : deviceModeAcl Patch.runLogic pv av acl rules ordering old new = .ok res)
    (hok : PathOK pv env rules p s) (hs : Outside env rules res.diff p s)
    (hr : (rulesAt rules p).bind (fun cr => slotOf cr r) = some s)
    (dev c : Cfg) (hdev : subtreeAt dev.kids (p ++ [r]) = some c) :
    subtreeAt (applyTree env rules res.patch dev.kids) (p ++ [r]) = some c := by
  obtain ⟨cr, hcr, hr⟩ := Option.bind_eq_some_iff.1 hr
  rw [subtreeAt_snoc _ hcr hr] at hdev ⊢
  obtain ⟨ls, hls, -⟩ := Option.bind_eq_some_iff.1 hdev
  rw [outside_nested h hok hs dev ls hls, ← hls]
  exact hdev

/-- `outside_nested` on the path-based device.  `hpaths` (`PathOKT`: no command of the tree is a line of a `%rewrite` rule
at its level, block rows are proper lines) is the hypothesis of `applyCmds_treePaths`; `pipeline_pathOK`
(Lemmas/ConvergeNestedPaths.lean) proves it for the patches of nested rulebooks. -/
theorem outside_nested_applyCmds (pv : Vendor) (av : Acl.Vendor) (acl : Acl.Rules) (rules : PRules)
    (ordering : List ORule) (old new : Cfg) (res : Api.Result) (env : Env) (exit : String) (p : List String) (s : Slot)
    (h : deviceModeAcl Patch.runLogic pv av acl rules ordering old new = .ok res)
    (hok : PathOK pv env rules p s) (hs : Outside env rules res.diff p s)
    (hex : env.exits.contains exit = true) (hpaths : Lemmas.PathOKT env exit rules res.patch)
    (dev : Cfg) (ls : List (String × Cfg)) (hdev : slotLinesAt rules dev.kids p s = some ls) :
    slotLinesAt rules (applyCmds env rules (treePaths exit res.patch) dev).kids p s = some ls := by
  rw [ConvergeNested.Lemmas.applyCmds_treePaths env exit rules res.patch dev hex hpaths]
  exact outside_nested h hok hs dev ls hdev

/-- every row of `p` is matched by exactly one rule of the level it is classified at -/
def UniquePath : PRules → List String → Prop
  | _, [] => True
  | rules, r :: p =>
    uniqueMatch rules r ∧
    match classify rules r with
    | none => False
    | some (_, cr) => UniquePath cr p

instance (rules : PRules) (row : String) : Decidable (uniqueMatch rules row) := by
  unfold uniqueMatch; infer_instance

instance decUniquePath : ∀ (p : List String) (rules : PRules), Decidable (UniquePath rules p)
  | [], rules => by unfold UniquePath; infer_instance
  | r :: p, rules => by
    unfold UniquePath
    have := fun cr => decUniquePath p cr
    exact instDecidableAnd (dq := by split <;> infer_instance)

theorem level_of_nested {pv : Vendor} {env : Env} {rules : PRules} (hn : NestedRules rules)
    (hc : CmdsOKAll pv env rules) : ReverseInSlot pv env rules ∧ RawDetRow rules ∧ NoForceCommit rules := by
  refine ⟨reverseInSlot_of_cmdsOK hc.1, ?_, ?_⟩
  · intro r hr r' hr' he
    rw [hn.1, List.append_nil] at hr hr'
    rw [ConvergeNested.Lemmas.distinctRawL_inj hn.2.2 r hr r' hr' he]
  · intro r hr
    rw [hn.1, List.append_nil] at hr
    exact (ConvergeNested.Lemmas.nestedRule_unpack (ConvergeNested.Lemmas.nestedRulesL_mem hn.2.1 r hr)).2.2.2.1

theorem pathOK_of_nested {pv : Vendor} {env : Env} {p : List String} {rules : PRules} {s : Slot}
    (hn : NestedRules rules) (hc : CmdsOKAll pv env rules) (hu : UniquePath rules p) : PathOK pv env rules p s := by
  fun_induction PathOK pv env rules p s with
  | case1 =>
    obtain ⟨h1, h2, h3⟩ := level_of_nested hn hc
    exact ⟨h1, h2, .inl h3⟩
  | case2 rules r p s hcl =>
    rw [UniquePath, hcl] at hu
    exact hu.2
  | case3 rules r p s m cr hcl ih =>
    rw [UniquePath, hcl] at hu
    obtain ⟨h1, h2, h3⟩ := level_of_nested hn hc
    obtain ⟨hn', hc'⟩ := ConvergeNested.Lemmas.child_rules hn hu.1 hcl
    exact ⟨h1, h2, .inl h3, ih hn' (hc' pv env hc) hu.2⟩

end Annet.AclDiff.OutsideNested
