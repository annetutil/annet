/-
Worker pool (C12): the sequential pieces - `single` (pool_size == 1), `Parallel.run`'s dictionaries, `invoke_retry`
(`invokeRetry_spec` is a kept result: no property theorem of C12 rests on it).
-/
import AnnetModel.Spec.Pool
import AnnetModel.Spec.PoolObservables

namespace Annet.Pool

theorem single_cons (c : Cfg) (id : Id) (rest : List Id) :
    single c (id :: rest) =
      if c.fatal id then ([], true) else (c.res id :: (single c rest).1, (single c rest).2) := by
  simp only [single, Cfg.fatal]
  split <;> simp_all

theorem single_spec (c : Cfg) (ids : List Id) :
    single c ids = ((ids.takeWhile fun id => !c.fatal id).map c.res, ids.any c.fatal) := by
  induction ids with
  | nil => rfl
  | cons id rest ih =>
    rw [single_cons, ih]
    by_cases h : c.fatal id = true
    · simp [h]
    · simp [h]

theorem single_tolerant (c : Cfg) (h : Tolerant c) : single c c.ids = (c.submitted, false) := by
  have hf : ∀ id ∈ c.ids, c.fatal id = false := fun id hid => by
    rcases h with h | h
    · simp [Cfg.fatal, h]
    · simp [Cfg.fatal, h id hid]
  rw [Cfg.submitted]
  generalize c.ids = ids at hf
  induction ids with
  | nil => rfl
  | cons id rest ih =>
    rw [single_cons, hf id List.mem_cons_self, ih fun x hx => hf x (List.mem_cons_of_mem _ hx)]
    rfl

theorem okOf_eq_some {r : Res} {k : Id} {v : Int} : okOf r = some (k, v) ↔ r = ⟨k, .ok v⟩ := by
  obtain ⟨id, o⟩ := r
  cases o <;> simp [okOf]

theorem excOf_eq_some {r : Res} {k : Id} {e : Nat} : excOf r = some (k, e) ↔ ∃ s, r = ⟨k, .exc e s⟩ := by
  obtain ⟨id, o⟩ := r
  cases o <;> simp [excOf]

theorem dictSet_fresh {α} (d : List (Id × α)) (k : Id) (v : α) (h : k ∉ d.map Prod.fst) :
    dictSet d k v = d ++ [(k, v)] := by
  induction d with
  | nil => rfl
  | cons p d ih =>
    obtain ⟨k', v'⟩ := p
    simp only [List.map_cons, List.mem_cons, not_or] at h
    simp only [dictSet]
    rw [if_neg (fun hk => h.1 hk.symm), ih h.2]
    rfl

theorem runSplit_nodup (rs : List Res) (su : List (Id × Int)) (fa : List (Id × Nat))
    (hnd : (rs.map (·.id)).Nodup)
    (hsu : ∀ r ∈ rs, r.id ∉ su.map Prod.fst) (hfa : ∀ r ∈ rs, r.id ∉ fa.map Prod.fst) :
    runSplit rs (su, fa) = (su ++ rs.filterMap okOf, fa ++ rs.filterMap excOf) := by
  induction rs generalizing su fa with
  | nil => simp [runSplit]
  | cons r rs ih =>
    obtain ⟨hr, hnd⟩ := List.nodup_cons.mp hnd
    obtain ⟨hsu0, hsu⟩ := List.forall_mem_cons.mp hsu
    obtain ⟨hfa0, hfa⟩ := List.forall_mem_cons.mp hfa
    -- the key filed for `r`, in whichever dictionary, is none of the later ones
    have hnew : ∀ {α : Type} (d : List (Id × α)) (v : α), (∀ x ∈ rs, x.id ∉ d.map Prod.fst) →
        ∀ x ∈ rs, x.id ∉ (d ++ [(r.id, v)]).map Prod.fst := fun d v hd x hx => by
      simp only [List.map_append, List.map_cons, List.map_nil, List.mem_append, List.mem_singleton, not_or]
      exact ⟨hd x hx, fun e => hr (List.mem_map.mpr ⟨x, hx, e⟩)⟩
    cases ho : r.out with
    | ok v =>
      simp only [runSplit, ho]
      rw [dictSet_fresh _ _ _ hsu0, ih _ _ hnd (hnew su v hsu) hfa]
      simp [okOf, excOf, ho]
    | exc e s =>
      simp only [runSplit, ho]
      rw [dictSet_fresh _ _ _ hfa0, ih _ _ hnd hsu (hnew fa e hfa)]
      simp [okOf, excOf, ho]

theorem run_spec (rs : List Res) (hnd : (rs.map (·.id)).Nodup) (strict : Bool) :
    run rs strict =
      if strict && !(rs.filterMap excOf).isEmpty then .runtimeError (rs.filterMap excOf).length
      else .ok (rs.filterMap okOf) (rs.filterMap excOf) := by
  simp only [run]
  rw [runSplit_nodup rs [] [] hnd (by simp) (by simp)]
  simp

theorem keys_perm (rs : List Res) :
    ((rs.filterMap okOf).map Prod.fst ++ (rs.filterMap excOf).map Prod.fst).Perm (rs.map (·.id)) := by
  induction rs with
  | nil => simp
  | cons r rs ih =>
    cases hr : r.out with
    | ok v =>
      simp only [okOf, excOf, hr, List.filterMap_cons, List.map_cons, List.cons_append]
      exact ih.cons _
    | exc e s =>
      simp only [List.filterMap_cons, okOf, excOf, hr, List.map_cons]
      exact List.perm_middle.trans (ih.cons _)

theorem mem_submitted {c : Cfg} {r : Res} (h : r ∈ c.submitted) : ∃ id ∈ c.ids, r = c.res id := by
  simp only [Cfg.submitted, List.mem_map] at h
  obtain ⟨id, hid, rfl⟩ := h
  exact ⟨id, hid, rfl⟩

theorem run_partition {c : Cfg} {rs : List Res} (hp : rs.Perm c.submitted) (hnd : c.ids.Nodup) :
    (rs.map (·.id)).Nodup ∧
    ((rs.filterMap okOf).map Prod.fst ++ (rs.filterMap excOf).map Prod.fst).Perm c.ids ∧
    (∀ k v, (k, v) ∈ rs.filterMap okOf → c.out k = .ok v) ∧
    (∀ k e, (k, e) ∈ rs.filterMap excOf → ∃ s, c.out k = .exc e s) := by
  have hids : (rs.map (·.id)).Perm c.ids := by
    simpa [Cfg.submitted, Cfg.res, Function.comp_def] using hp.map (·.id)
  refine ⟨hids.nodup_iff.mpr hnd, (keys_perm rs).trans hids, ?_, ?_⟩
  · intro k v hkv
    obtain ⟨r, hr, hro⟩ := List.mem_filterMap.mp hkv
    obtain ⟨id, _, hid⟩ := mem_submitted (hp.mem_iff.mp hr)
    obtain ⟨rfl, ho⟩ := Res.mk.inj ((okOf_eq_some.mp hro).symm.trans hid)
    exact ho.symm
  · intro k e hke
    obtain ⟨r, hr, hro⟩ := List.mem_filterMap.mp hke
    obtain ⟨id, _, hid⟩ := mem_submitted (hp.mem_iff.mp hr)
    obtain ⟨s, hs⟩ := excOf_eq_some.mp hro
    obtain ⟨rfl, ho⟩ := Res.mk.inj (hs.symm.trans hid)
    exact ⟨s, ho.symm⟩

/-- `invoke_retry`: the outcome is that of the first attempt that is not a network error, if
it comes within `net_retry + 1` calls; otherwise the network error of the last call. -/
theorem invokeRetry_spec (call : Nat → Att) (left a : Nat) :
    (∃ k, k ≤ left ∧ (∀ j, j < k → call (a + j) = .netErr) ∧ call (a + k) ≠ .netErr ∧
        invokeRetry call left a = (call (a + k)).final) ∨
    ((∀ j, j ≤ left → call (a + j) = .netErr) ∧ invokeRetry call left a = .exc netTag true) := by
  induction left generalizing a with
  | zero =>
    by_cases h : call a = .netErr
    · exact .inr ⟨fun j hj => by rwa [Nat.le_zero.mp hj], by rw [invokeRetry, h]; rfl⟩
    · exact .inl ⟨0, Nat.le_refl 0, nofun, h, rfl⟩
  | succ n ih =>
    by_cases h : call a = .netErr
    · -- the first call fails: what is left is the statement for `a + 1`, with every index shifted by one
      have hrun : invokeRetry call (n + 1) a = invokeRetry call n (a + 1) := by rw [invokeRetry, h]
      have shift : ∀ j, a + 1 + j = a + (j + 1) := fun j => Nat.add_right_comm a 1 j
      rcases ih (a + 1) with ⟨k, hk, hall, hne, heq⟩ | ⟨hall, heq⟩
      · refine .inl ⟨k + 1, Nat.succ_le_succ hk, fun j hj => ?_, shift k ▸ hne, hrun.trans (shift k ▸ heq)⟩
        cases j with
        | zero => exact h
        | succ j => exact shift j ▸ hall j (Nat.lt_of_succ_lt_succ hj)
      · refine .inr ⟨fun j hj => ?_, hrun.trans heq⟩
        cases j with
        | zero => exact h
        | succ j => exact shift j ▸ hall j (Nat.le_of_succ_le_succ hj)
    · exact .inl ⟨0, Nat.zero_le _, nofun, h, by simp only [invokeRetry, Nat.add_zero]⟩

end Annet.Pool
