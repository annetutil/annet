/-
The compiled form of a plain ACL text is a well-formed dictionary whose denotation is the set of row paths of the text
(`InDR`), whatever merging happened.
-/
import AnnetModel.Lemmas.Basic
import AnnetModel.Lemmas.AclMergeDefs
import AnnetModel.Lemmas.AclMergeDict

namespace Annet.Acl.Lemmas
open Annet Annet.Acl Annet.Acl.Spec

def rawRow : RawRule → String | .mk r _ _ _ _ _ _ => r
def rawKids : RawRule → List RawRule | .mk _ _ _ _ _ _ ch => ch

/-- `InDR l p`: `p` is a path of rule rows through the raw ACL text `l` -/
def InDR : List RawRule → List String → Prop
  | _, [] => True
  | l, r :: p => ∃ x ∈ l, rawRow x = r ∧ InDR (rawKids x) p

theorem inDR_mono {l l' : List RawRule} (h : ∀ x ∈ l, x ∈ l') (p : List String) : InDR l p → InDR l' p := by
  cases p with
  | nil => exact fun _ => trivial
  | cons r q =>
    rintro ⟨x, hx, hr, hq⟩
    exact ⟨x, h x hx, hr, hq⟩

theorem plainRawL_iff (l : List RawRule) : PlainRawL l = true ↔ ∀ x ∈ l, PlainRaw x = true := by
  induction l with
  | nil => simp [PlainRawL]
  | cons x xs ih => simp [PlainRawL, ih]

theorem plainRaw_inv {x : RawRule} (h : PlainRaw x = true) :
    (Merged.ofRaw x).id = rawRow x ∧ (Merged.ofRaw x).row = rawRow x ∧ (Merged.ofRaw x).ignore = false ∧
    (Merged.ofRaw x).isGlobal = false ∧ PlainRawL (rawKids x) = true ∧
    (∀ q, q ∈ (Merged.ofRaw x).children.flatten ↔ q ∈ rawKids x) := by
  match x, h with
  | .mk row ign g cd prio names ch, h =>
    simp only [PlainRaw, Bool.and_eq_true, Bool.not_eq_true'] at h
    obtain ⟨⟨h1, h2⟩, h3⟩ := h
    subst h1 h2
    refine ⟨by simp [Merged.ofRaw, rawRow], rfl, rfl, rfl, h3, ?_⟩
    intro q
    simp only [Merged.ofRaw, rawKids]
    split
    · rename_i he; simp [List.isEmpty_iff.1 he]
    · simp

theorem depthList_le {l : List RawRule} {x : RawRule} (h : x ∈ l) : depthRaw x ≤ depthRaw.depthList l := by
  induction l with
  | nil => cases h
  | cons y ys ih =>
    simp only [depthRaw.depthList]
    rcases List.mem_cons.1 h with rfl | h
    · exact Nat.le_max_left ..
    · exact Nat.le_trans (ih h) (Nat.le_max_right ..)

theorem depthRaw_kids {x q : RawRule} (h : q ∈ rawKids x) : depthRaw q + 1 ≤ depthRaw x := by
  match x, h with
  | .mk _ _ _ _ _ _ ch, h =>
    simp only [rawKids] at h
    have := depthList_le h
    simp only [depthRaw]; omega

/-- invariant of the `mergeInto` fold over the raw rules `L` seen so far (proved in the shape `MFold`) -/
structure MInv (L : List RawRule) (acc : List Merged) : Prop where
  distinct : acc.Pairwise (fun a b => a.id ≠ b.id)
  plain : ∀ m ∈ acc, m.isGlobal = false ∧ m.ignore = false ∧ m.id = m.row ∧ ∃ x ∈ L, rawRow x = m.id
  cover : ∀ x ∈ L, ∃ m ∈ acc, m.id = rawRow x
  kids : ∀ m ∈ acc, ∀ q, q ∈ m.children.flatten ↔ ∃ x ∈ L, rawRow x = m.id ∧ q ∈ rawKids x

theorem absorb_fields (m : Merged) (r : RawRule) (hr : PlainRaw r = true) :
    (m.absorb r).id = m.id ∧ (m.absorb r).row = m.row ∧ (m.absorb r).ignore = m.ignore ∧
    (m.absorb r).isGlobal = m.isGlobal ∧
    (∀ q, q ∈ (m.absorb r).children.flatten ↔ (q ∈ m.children.flatten ∨ q ∈ rawKids r)) := by
  match r, hr with
  | .mk row ign g cd prio names ch, hr =>
    simp only [PlainRaw, Bool.and_eq_true, Bool.not_eq_true'] at hr
    obtain ⟨⟨h1, h2⟩, h3⟩ := hr
    subst h1 h2
    refine ⟨rfl, rfl, rfl, by simp [Merged.absorb], ?_⟩
    intro q
    simp only [Merged.absorb, rawKids]
    split
    · rename_i he; simp [List.isEmpty_iff.1 he]
    · simp

theorem exists_mem_snoc {α : Type} (P : α → Prop) (l : List α) (a : α) :
    (∃ x ∈ l ++ [a], P x) ↔ (∃ x ∈ l, P x) ∨ P a := by
  simp only [List.mem_append, List.mem_singleton, or_and_right, exists_or, exists_eq_left]

theorem mergeInto_eq_upsert (acc : List Merged) (r : RawRule) :
    mergeInto acc r = Keyed.upsert Merged.id (Merged.ofRaw r).id (·.absorb r) (Merged.ofRaw r) acc := rfl

/-- what the fold of `mergeInto` keeps true of one merged record, given the raw rules `L` seen so far -/
def MOk (m : Merged) (L : List RawRule) : Prop :=
  (m.isGlobal = false ∧ m.ignore = false ∧ m.id = m.row ∧ ∃ x ∈ L, rawRow x = m.id) ∧
  ∀ q, q ∈ m.children.flatten ↔ ∃ x ∈ L, rawRow x = m.id ∧ q ∈ rawKids x

/-- `MInv` as a keyed list built from the rules seen: distinct ids, every record good, every rule has its record -/
def MFold (L : List RawRule) (acc : List Merged) : Prop :=
  Keyed.Built Merged.id MOk (fun _ => True) rawRow acc L

theorem MFold.inv {L : List RawRule} {acc : List Merged} (h : MFold L acc) : MInv L acc :=
  ⟨List.pairwise_map.1 h.1, fun m hm => (h.2.1 m hm).1, fun x hx =>
    (List.mem_map.1 (h.2.2 x hx trivial)).elim fun m hm => ⟨m, hm.1, hm.2⟩, fun m hm => (h.2.1 m hm).2⟩

theorem mergeInto_inv {L : List RawRule} {acc : List Merged} (h : MFold L acc) (r : RawRule)
    (hr : PlainRaw r = true) : MFold (L ++ [r]) (mergeInto acc r) := by
  obtain ⟨oid, orow, oign, oglob, _, okids⟩ := plainRaw_inv hr
  rw [mergeInto_eq_upsert, oid]
  refine Keyed.Built.upsert h r _ _ (fun x hx => (absorb_fields x r hr).1.trans hx) oid (fun m hne hm => ?_) (fun m he hm => ?_)
    (fun hfresh => ?_)
  · -- another row: `r` adds nothing to it
    obtain ⟨⟨p1, p2, p3, x, hx, hxr⟩, hk⟩ := hm
    refine ⟨⟨p1, p2, p3, x, List.mem_append_left _ hx, hxr⟩, fun q => ?_⟩
    rw [hk q, exists_mem_snoc, or_iff_left fun hq => hne hq.1.symm]
  · -- the row is there already: it absorbs `r`
    obtain ⟨⟨p1, p2, p3, _⟩, hk⟩ := hm
    obtain ⟨f1, f2, f3, f4, f5⟩ := absorb_fields m r hr
    refine ⟨⟨f4.trans p1, f3.trans p2, by rw [f1, f2]; exact p3, r, by simp, by rw [f1, he]⟩, fun q => ?_⟩
    rw [f5 q, hk q, f1, exists_mem_snoc, he, and_iff_right rfl]
  · -- a new row
    refine ⟨⟨oglob, oign, by rw [oid, orow], r, by simp, oid.symm⟩, fun q => ?_⟩
    rw [okids q, exists_mem_snoc, oid, and_iff_right rfl, or_iff_right]
    rintro ⟨x, hx, hxr, _⟩
    exact hfresh (hxr ▸ h.2.2 x hx trivial)

theorem foldl_mergeInto_inv (l : List RawRule) (hl : ∀ x ∈ l, PlainRaw x = true) :
    ∀ (L : List RawRule) (acc : List Merged), MFold L acc → MFold (L ++ l) (l.foldl mergeInto acc) := by
  induction l with
  | nil => intro L acc h; simpa using h
  | cons r rs ih =>
    intro L acc h
    have := ih (fun x hx => hl x (List.mem_cons_of_mem _ hx)) (L ++ [r]) (mergeInto acc r)
      (mergeInto_inv h r (hl r (List.mem_cons_self ..)))
    simpa using this

theorem mergeToplevel_inv (trees : List (List RawRule)) (hl : ∀ x ∈ trees.flatten, PlainRaw x = true) :
    MInv trees.flatten (mergeToplevel trees) := by
  have h0 : MFold [] [] := ⟨List.nodup_nil, by simp, by simp⟩
  have := (foldl_mergeInto_inv trees.flatten hl [] [] h0).inv
  rw [List.foldl_flatten] at this
  simpa [mergeToplevel] using this


def mkRule (fuel : Nat) (m : Merged) : Rule :=
  Rule.mk m.id m.row m.ignore m.cantDelete m.prio m.genNames
    (if !m.isGlobal && !m.ignore then
      some ((compileAclFuel fuel m.children).loc, (compileAclFuel fuel m.children).glob)
    else none)

theorem compileAclFuel_succ (fuel : Nat) (trees : List (List RawRule)) :
    compileAclFuel (fuel + 1) trees =
      ⟨((mergeToplevel trees).filter (!·.isGlobal)).map (mkRule fuel),
       ((mergeToplevel trees).filter (·.isGlobal)).map (mkRule fuel)⟩ := by
  rw [compileAclFuel]; rfl

theorem depthRaw_pos (x : RawRule) : 1 ≤ depthRaw x := by
  match x with
  | .mk _ _ _ _ _ _ ch => simp only [depthRaw]; omega

theorem compileAclFuel_spec : ∀ (fuel : Nat) (trees : List (List RawRule)),
    (∀ x ∈ trees.flatten, PlainRaw x = true ∧ depthRaw x ≤ fuel) →
    (compileAclFuel fuel trees).glob = [] ∧ WFRules (compileAclFuel fuel trees).loc ∧
    ∀ p, InD (compileAclFuel fuel trees).loc p ↔ InDR trees.flatten p := by
  intro fuel
  induction fuel with
  | zero =>
    intro trees h
    have he : trees.flatten = [] := List.eq_nil_iff_forall_not_mem.mpr fun x hx => by
      have := (h x hx).2
      have := depthRaw_pos x
      omega
    rw [he]
    refine ⟨rfl, wfRules_nil, fun p => ?_⟩
    cases p <;> simp [compileAclFuel, InD, InDR]
  | succ fuel ih =>
    intro trees h
    have inv := mergeToplevel_inv trees (fun x hx => (h x hx).1)
    rw [compileAclFuel_succ]
    have hg : (mergeToplevel trees).filter (·.isGlobal) = [] := by
      rw [List.filter_eq_nil_iff]
      intro m hm; rw [(inv.plain m hm).1]; simp
    have hl : (mergeToplevel trees).filter (!·.isGlobal) = mergeToplevel trees := by
      rw [List.filter_eq_self]
      intro m hm; rw [(inv.plain m hm).1]; rfl
    simp only [hg, hl, List.map_nil]
    have hkid : ∀ m ∈ mergeToplevel trees,
        (mkRule fuel m).id = m.id ∧ (mkRule fuel m).row = m.id ∧ (mkRule fuel m).ignore = false ∧
        (mkRule fuel m).children = some ((compileAclFuel fuel m.children).loc, []) ∧
        WFRules (compileAclFuel fuel m.children).loc ∧
        ∀ p, InD (compileAclFuel fuel m.children).loc p ↔ InDR m.children.flatten p := by
      intro m hm
      obtain ⟨p1, p2, p3, _⟩ := inv.plain m hm
      have hch : ∀ q ∈ m.children.flatten, PlainRaw q = true ∧ depthRaw q ≤ fuel := by
        intro q hq
        obtain ⟨x, hx, _, hqx⟩ := (inv.kids m hm q).1 hq
        obtain ⟨hp, hd⟩ := h x hx
        have := depthRaw_kids hqx
        exact ⟨(plainRawL_iff _).1 (plainRaw_inv hp).2.2.2.2.1 q hqx, by omega⟩
      obtain ⟨i1, i2, i3⟩ := ih m.children hch
      refine ⟨rfl, p3.symm, p2, ?_, i2, i3⟩
      simp [mkRule, p1, p2, i1, Rule.children]
    refine ⟨trivial, ⟨?_, ?_⟩, ?_⟩
    · rw [wfList_iff]
      intro z hz
      obtain ⟨m, hm, rfl⟩ := List.mem_map.1 hz
      obtain ⟨k1, k2, k3, k4, k5, _⟩ := hkid m hm
      exact wfRule_of_fields (by rw [k1, k2]) k3 k4 k5
    · rw [DistinctIds, List.pairwise_map]
      exact inv.distinct
    · intro p
      cases p with
      | nil => simp [InD, InDR]
      | cons r q =>
        constructor
        · rintro ⟨z, hz, hzr, c, g, hzc, hq⟩
          obtain ⟨m, hm, rfl⟩ := List.mem_map.1 hz
          obtain ⟨k1, k2, k3, k4, k5, k6⟩ := hkid m hm
          rw [k4] at hzc
          simp only [Option.some.injEq, Prod.mk.injEq] at hzc
          obtain ⟨rfl, rfl⟩ := hzc
          rw [k2] at hzr
          have hq' := (k6 q).1 hq
          cases q with
          | nil =>
            obtain ⟨x, hx, hxr⟩ := (inv.plain m hm).2.2.2
            exact ⟨x, hx, by rw [hxr, hzr], trivial⟩
          | cons r' q' =>
            obtain ⟨y, hy, hyr, hyq⟩ := hq'
            obtain ⟨x, hx, hxr, hyx⟩ := (inv.kids m hm y).1 hy
            exact ⟨x, hx, by rw [hxr, hzr], y, hyx, hyr, hyq⟩
        · rintro ⟨x, hx, hxr, hq⟩
          obtain ⟨m, hm, hmid⟩ := inv.cover x hx
          obtain ⟨k1, k2, k3, k4, k5, k6⟩ := hkid m hm
          refine ⟨mkRule fuel m, List.mem_map.2 ⟨m, hm, rfl⟩, by rw [k2, hmid, hxr], _, _, k4, (k6 q).2 ?_⟩
          exact inDR_mono (fun y hy => (inv.kids m hm y).2 ⟨x, hx, hmid.symm, hy⟩) q hq

theorem compileAcl_single_spec (A : List RawRule) (hA : PlainRawL A = true) :
    (compileAcl [A]).glob = [] ∧ WFRules (compileAcl [A]).loc ∧
    ∀ p, InD (compileAcl [A]).loc p ↔ InDR A p := by
  have := compileAclFuel_spec (depthRaw.depthList A + 1) [A] (by
    intro x hx
    simp only [List.flatten_cons, List.flatten_nil, List.append_nil] at hx
    exact ⟨(plainRawL_iff _).1 hA x hx, Nat.le_succ_of_le (depthList_le hx)⟩)
  simpa [compileAcl] using this

theorem plainRawL_append {A B : List RawRule} (hA : PlainRawL A = true) (hB : PlainRawL B = true) :
    PlainRawL (A ++ B) = true :=
  (plainRawL_iff _).2 fun x hx => (List.mem_append.1 hx).elim ((plainRawL_iff _).1 hA x) ((plainRawL_iff _).1 hB x)

end Annet.Acl.Lemmas
