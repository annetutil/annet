/-
What `make_pre(d)` builds (`Model/Patch.lean`): the diff items bucketed by raw rule, key and operation.  `InvR`
(`makePre_inv`) fixes the keys and the contents of the buckets, not their order; both of its levels are `Keyed.Built`, kept
by `Keyed.Built.upsert`.

`make_patch` over the buckets: the raw items of a patch are the concatenation of those of its buckets (`Concat`,
`itemsOfPre_mem`), each bucket's items are its yields one by one (`NRel`), and `makePatchWith_induct` is the induction
over the recursion into the children (`PatchStep`: one level, arbitrary recursion).
-/
import AnnetModel.Spec.DeviceAbs
import AnnetModel.Lemmas.Basic

namespace Annet.Patch.PreLemmas
open Annet Annet.Rules Annet.Diff Annet.Patch Annet.Device.Abs

theorem entryOf_children (i : DItem) : (entryOf i).children = makePre i.children := by
  cases i; rw [entryOf]; rfl

theorem entryOf_row (i : DItem) : (entryOf i).row = i.row := by
  cases i; rw [entryOf]; rfl

/-- the diff item belongs to slot `s` (`make_pre` groups by raw rule and key) -/
def slotIs (s : Slot) (i : DItem) : Bool := (i.m.rawRule, i.m.key) == s

def rAttrs : PreRule → PAttrs | .mk _ a _ => a
def rItems : PreRule → List PreItem | .mk _ _ i => i

def iGet : PreItem → Op → List PreEntry
  | .mk _ a r m f u, op =>
    match op with
    | .added => a | .removed => r | .moved => m | .affected => f | .unchanged => u

theorem push_key (op : Op) (e : PreEntry) (it : PreItem) : (it.push op e).key = it.key := by
  obtain ⟨k, a, r, m, f, u⟩ := it
  cases op <;> rfl

theorem push_get (op op' : Op) (e : PreEntry) (it : PreItem) :
    iGet (it.push op e) op' = iGet it op' ++ (if op' = op then [e] else []) := by
  obtain ⟨k, a, r, m, f, u⟩ := it
  cases op <;> cases op' <;> simp [PreItem.push, iGet]

def sel (s : Slot) (op : Op) (i : DItem) : Bool := (i.op == op) && slotIs s i

theorem filter_sel (d : List DItem) (s : Slot) (op : Op) :
    d.filter (sel s op) = (d.filter (slotIs s)).filter (·.op == op) := by
  rw [List.filter_filter]; rfl

/-- what `make_pre` has built for the rule `raw` from the diff items `ds` -/
def InvI (raw : String) : List PreItem → List DItem → Prop :=
  Keyed.Built PreItem.key (fun it ds => ∀ op, iGet it op = (ds.filter (sel (raw, it.key) op)).map entryOf)
    (·.m.rawRule = raw) (·.m.key)

theorem sel_miss {s : Slot} {i : DItem} (h : (i.m.rawRule, i.m.key) ≠ s) (op : Op) (ds : List DItem) :
    (ds ++ [i]).filter (sel s op) = ds.filter (sel s op) := by
  have : sel s op i = false := by
    rw [sel, slotIs, beq_eq_false_iff_ne.2 h, Bool.and_false]
  rw [List.filter_append, List.filter_cons, this]
  exact List.append_nil _

theorem sel_hit (i : DItem) (op : Op) (ds : List DItem) :
    ((ds ++ [i]).filter (sel (i.m.rawRule, i.m.key) op)).map entryOf =
      (ds.filter (sel (i.m.rawRule, i.m.key) op)).map entryOf ++ if op = i.op then [entryOf i] else [] := by
  have : sel (i.m.rawRule, i.m.key) op i = decide (op = i.op) := by
    rw [sel, slotIs, beq_self_eq_true, Bool.and_true, Bool.eq_iff_iff, beq_iff_eq, decide_eq_true_iff, eq_comm]
  rw [List.filter_append, List.filter_cons, this, List.map_append]
  by_cases h : op = i.op <;> simp [h]

theorem invI_miss {raw : String} {items : List PreItem} {ds : List DItem} (h : InvI raw items ds)
    (i : DItem) (hi : i.m.rawRule ≠ raw) : InvI raw items (ds ++ [i]) := by
  refine ⟨h.1, fun it hit op => ?_, fun i' hi' hr => ?_⟩
  · rw [sel_miss (fun hs => hi (Prod.mk.inj hs).1), h.2.1 it hit op]
  · rcases List.mem_append.1 hi' with hi' | hi'
    · exact h.2.2 i' hi' hr
    · rw [List.mem_singleton.1 hi'] at hr; exact (hi hr).elim

theorem invI_hit {raw : String} {items : List PreItem} {ds : List DItem} (h : InvI raw items ds)
    (i : DItem) (hi : i.m.rawRule = raw) :
    InvI raw (pushItem i.m.key i.op (entryOf i) items) (ds ++ [i]) := by
  subst hi
  refine Keyed.Built.upsert h i _ _ (fun it hk => (push_key _ _ it).trans hk) (push_key _ _ _) ?_ ?_ ?_
  · intro it hk hq op
    rw [sel_miss (fun hs => hk (Prod.mk.inj hs).2.symm), hq op]
  · intro it hk hq op
    rw [push_key, push_get, hq op, hk, sel_hit]
  · intro hnk op
    have hnone : ds.filter (sel (i.m.rawRule, i.m.key) op) = [] := List.filter_eq_nil_iff.2 fun i' hi' hs => by
      simp only [sel, slotIs, Bool.and_eq_true, beq_iff_eq, Prod.mk.injEq] at hs
      exact hnk (hs.2.2 ▸ h.2.2 i' hi' hs.2.1)
    rw [push_get, push_key]
    show _ = List.map entryOf (List.filter (sel (i.m.rawRule, i.m.key) op) (ds ++ [i]))
    rw [sel_hit, hnone]
    cases op <;> rfl

def InvR : List PreRule → List DItem → Prop :=
  Keyed.Built PreRule.raw (fun R ds => InvI R.raw (rItems R) ds ∧ ∃ i ∈ ds, i.m.rawRule = R.raw ∧ i.m.attrs = rAttrs R)
    (fun _ => True) (·.m.rawRule)

theorem pushRule_eq (m : PMatch) (op : Op) (e : PreEntry) (P : List PreRule) :
    pushRule m op e P = Keyed.upsert PreRule.raw m.rawRule (fun R => .mk R.raw (rAttrs R) (pushItem m.key op e (rItems R)))
      (.mk m.rawRule m.attrs (pushItem m.key op e [])) P := by
  unfold pushRule Keyed.upsert
  congr 1
  refine List.map_congr_left fun R _ => ?_
  cases R
  rfl

theorem invR_step {P : List PreRule} {ds : List DItem} (h : InvR P ds) (i : DItem) :
    InvR (pushRule i.m i.op (entryOf i) P) (ds ++ [i]) := by
  have keep : ∀ R : PreRule, (∃ i' ∈ ds, i'.m.rawRule = R.raw ∧ i'.m.attrs = rAttrs R) →
      ∃ i' ∈ ds ++ [i], i'.m.rawRule = R.raw ∧ i'.m.attrs = rAttrs R := fun R =>
    Exists.imp fun i' hi' => ⟨List.mem_append_left _ hi'.1, hi'.2⟩
  have h0 : i.m.rawRule ∉ P.map (·.raw) → InvI i.m.rawRule [] ds := fun hnr =>
    ⟨List.nodup_nil, fun _ hit => (nomatch hit), fun i' hi' hr => (hnr (hr ▸ h.2.2 i' hi' trivial)).elim⟩
  rw [pushRule_eq]
  exact Keyed.Built.upsert h i _ _ (fun _ hk => hk) rfl
    (fun R hk hq => ⟨invI_miss hq.1 i (Ne.symm hk), keep R hq.2⟩)
    (fun R hk hq => ⟨invI_hit hq.1 i hk.symm, keep R hq.2⟩)
    (fun hnr => ⟨invI_hit (h0 hnr) i rfl, i, List.mem_append_right _ List.mem_cons_self, rfl, rfl⟩)

theorem makePreAcc_inv : ∀ (rest : List DItem) (acc : List PreRule) (ds : List DItem),
    InvR acc ds → InvR (makePreAcc rest acc) (ds ++ rest)
  | [], acc, ds, h => by rw [makePreAcc]; simpa using h
  | i :: rest, acc, ds, h => by
    rw [makePreAcc]
    have := makePreAcc_inv rest _ _ (invR_step h i)
    simpa using this

theorem makePre_inv (d : List DItem) : InvR (makePre d).rules d := by
  have := makePreAcc_inv d [] [] ⟨List.nodup_nil, fun _ h => (nomatch h), fun _ h => (nomatch h)⟩
  simpa [makePre, Pre.rules] using this

/-! ### `make_patch` over the buckets -/

theorem preDepthE_mem : ∀ (l : List PreEntry) (e : PreEntry), e ∈ l → 1 + preDepth e.children ≤ preDepthE l
  | [], e, h => by cases h
  | .mk r c :: rest, e, h => by
    rw [preDepthE, Std.le_max]
    rcases List.mem_cons.1 h with rfl | h
    · exact Or.inl (Nat.le_refl _)
    · exact Or.inr (preDepthE_mem rest e h)

theorem preDepthI_mem : ∀ (items : List PreItem) (it : PreItem) (op : Op), it ∈ items →
    preDepthE (iGet it op) ≤ preDepthI items
  | [], it, op, h => by cases h
  | .mk k a r m f u :: rest, it, op, h => by
    rw [preDepthI, Std.le_max]
    rcases List.mem_cons.1 h with rfl | h
    · left
      cases op <;> simp only [iGet, Std.le_max, Nat.le_refl, true_or, or_true]
    · exact Or.inr (preDepthI_mem rest it op h)

theorem preDepthR_mem : ∀ (P : List PreRule) (R : PreRule), R ∈ P → preDepthI (rItems R) ≤ preDepthR P
  | [], R, h => by cases h
  | .mk raw attrs items :: rest, R, h => by
    rw [preDepthR, Std.le_max]
    rcases List.mem_cons.1 h with rfl | h
    · exact Or.inl (Nat.le_refl _)
    · exact Or.inr (preDepthR_mem rest R h)

theorem preDepth_rules (p : Pre) : preDepth p = preDepthR p.rules := by
  cases p; rw [preDepth]; rfl

/-- the entries of a bucket are those of the diff items of its rule, key and operation -/
theorem InvR.mem_bucket {P : List PreRule} {d : List DItem} (hP : InvR P d) {R : PreRule} (hR : R ∈ P) {it : PreItem}
    (hit : it ∈ rItems R) {op : Op} {x : PreEntry} :
    x ∈ iGet it op ↔ ∃ i ∈ d, i.op = op ∧ i.m.rawRule = R.raw ∧ i.m.key = it.key ∧ entryOf i = x := by
  rw [(hP.2.1 R hR).1.2.1 it hit op]
  simp only [List.mem_map, List.mem_filter, sel, slotIs, Bool.and_eq_true, beq_iff_eq, Prod.mk.injEq, and_assoc]

theorem item_in_bucket {d : List DItem} {i : DItem} (hi : i ∈ d) :
    ∃ R ∈ (makePre d).rules, R.raw = i.m.rawRule ∧ ∃ it ∈ rItems R, it.key = i.m.key ∧ entryOf i ∈ iGet it i.op := by
  have hP := makePre_inv d
  obtain ⟨R, hR, hraw⟩ := List.mem_map.1 (hP.2.2 i hi trivial)
  obtain ⟨it, hit, hk⟩ := List.mem_map.1 ((hP.2.1 R hR).1.2.2 i hi hraw.symm)
  exact ⟨R, hR, hraw, it, hit, hk, (hP.mem_bucket hR hit).2 ⟨i, hi, rfl, hraw.symm, hk.symm, rfl⟩⟩

theorem preDepth_child {d : List DItem} {i : DItem} (hi : i ∈ d) :
    1 + preDepth (makePre i.children) ≤ preDepth (makePre d) := by
  obtain ⟨R, hR, -, it, hit, -, he⟩ := item_in_bucket hi
  have h1 := preDepthE_mem _ _ he
  have h2 := preDepthI_mem _ it i.op hit
  have h3 := preDepthR_mem _ R hR
  rw [entryOf_children] at h1
  rw [preDepth_rules (makePre d)]
  omega

/-- the raw items of one bucket (one `PreItem` of one rule) -/
def bucketRun (lg : LogicFn) (rec : PRec) (v : Vendor) (ord : List ORule) (dc : Bool) (raw : String) (attrs : PAttrs)
    (it : PreItem) : Except Patch.Err (List RawItem) :=
  match lg v attrs it with
  | .error e => .error e
  | .ok ys => yieldsToItems rec v ord dc raw attrs ys

/-- `F` runs `f` on every element of a list and concatenates the results: the shape of `itemsOfRule` (over the
buckets of a rule) and of `itemsOfPre` (over the rules) -/
def Concat {α β ε : Type} (F : List α → Except ε (List β)) (f : α → Except ε (List β)) : Prop :=
  F [] = .ok [] ∧ ∀ a l out, F (a :: l) = .ok out → ∃ x y, f a = .ok x ∧ F l = .ok y ∧ out = x ++ y

theorem Concat.mem {α β ε : Type} {F : List α → Except ε (List β)} {f : α → Except ε (List β)} (hF : Concat F f) :
    ∀ (l : List α) (out : List β), F l = .ok out → ∀ x ∈ out, ∃ a ∈ l, ∃ chunk, f a = .ok chunk ∧ x ∈ chunk
  | [], out, h, x, hx => by
    rw [hF.1] at h; cases h; cases hx
  | a :: l, out, h, x, hx => by
    obtain ⟨c, d, hc, hd, rfl⟩ := hF.2 a l out h
    rcases List.mem_append.1 hx with hx | hx
    · exact ⟨a, List.mem_cons_self, c, hc, hx⟩
    · obtain ⟨a', ha', chunk, h1, h2⟩ := hF.mem l d hd x hx
      exact ⟨a', List.mem_cons_of_mem _ ha', chunk, h1, h2⟩

/-- with distinct keys, a predicate that is false on the results of all elements but the one of key `k` selects from
the whole what it selects from that element's result -/
theorem Concat.filter {α β ε κ : Type} {F : List α → Except ε (List β)} {f : α → Except ε (List β)} (hF : Concat F f)
    (key : α → κ) (k : κ) (q : β → Bool) : ∀ (l : List α) (out : List β), F l = .ok out → (l.map key).Nodup →
    (∀ a ∈ l, key a ≠ k → ∀ chunk, f a = .ok chunk → ∀ x ∈ chunk, q x = false) →
    (k ∉ l.map key ∧ out.filter q = []) ∨ (∃ a ∈ l, key a = k ∧ ∃ o, f a = .ok o ∧ out.filter q = o.filter q)
  | [], out, h, _, _ => by
    rw [hF.1] at h; cases h
    exact Or.inl ⟨List.not_mem_nil, rfl⟩
  | a :: l, out, h, hn, hq => by
    obtain ⟨c, d, hc, hd, rfl⟩ := hF.2 a l out h
    rw [List.map_cons, List.nodup_cons] at hn
    have ih := hF.filter key k q l d hd hn.2 fun a' ha' => hq a' (List.mem_cons_of_mem _ ha')
    rw [List.filter_append]
    by_cases hk : key a = k
    · refine Or.inr ⟨a, List.mem_cons_self, hk, c, hc, ?_⟩
      rcases ih with ⟨-, h2⟩ | ⟨a', ha', hk', -⟩
      · rw [h2, List.append_nil]
      · exact (hn.1 (hk.trans hk'.symm ▸ List.mem_map_of_mem ha')).elim
    · rw [List.filter_eq_nil_iff.2 fun x hx => by rw [hq a List.mem_cons_self hk c hc x hx]; exact Bool.false_ne_true,
        List.nil_append]
      rcases ih with ⟨h1, h2⟩ | ⟨a', ha', hk', o, h1, h2⟩
      · exact Or.inl ⟨fun hm => (List.mem_cons.1 hm).elim (fun h => hk h.symm) h1, h2⟩
      · exact Or.inr ⟨a', List.mem_cons_of_mem _ ha', hk', o, h1, h2⟩

theorem itemsOfRule_concat (lg : LogicFn) (rec : PRec) (v : Vendor) (ord : List ORule) (dc : Bool) (raw : String)
    (attrs : PAttrs) : Concat (itemsOfRule lg rec v ord dc raw attrs) (bucketRun lg rec v ord dc raw attrs) := by
  refine ⟨by rw [itemsOfRule], fun it rest out h => ?_⟩
  rw [itemsOfRule] at h
  unfold bucketRun
  split at h
  · cases h
  · next ys hys =>
    rw [hys]
    split at h
    · cases h
    · next a ha =>
      split at h
      · cases h
      · next b hb =>
        cases h
        exact ⟨a, b, ha, hb, rfl⟩

theorem itemsOfPre_concat (lg : LogicFn) (rec : PRec) (v : Vendor) (ord : List ORule) (dc : Bool) :
    Concat (itemsOfPre lg rec v ord dc) fun R => itemsOfRule lg rec v ord dc R.raw (rAttrs R) (rItems R) := by
  refine ⟨by rw [itemsOfPre], fun R rest out h => ?_⟩
  obtain ⟨raw, attrs, items⟩ := R
  rw [itemsOfPre] at h
  split at h
  · cases h
  · next a ha =>
    split at h
    · cases h
    · next b hb =>
      cases h
      exact ⟨a, b, ha, hb, rfl⟩

theorem itemsOfPre_mem (lg : LogicFn) (rec : PRec) (v : Vendor) (ord : List ORule) (dc : Bool) :
    ∀ (P : List PreRule) (out : List RawItem),
    itemsOfPre lg rec v ord dc P = .ok out → ∀ x ∈ out,
    ∃ R ∈ P, ∃ it ∈ rItems R, ∃ chunk, bucketRun lg rec v ord dc R.raw (rAttrs R) it = .ok chunk ∧ x ∈ chunk := by
  intro P out h x hx
  obtain ⟨R, hR, o, ho, hxo⟩ := (itemsOfPre_concat lg rec v ord dc).mem P out h x hx
  exact ⟨R, hR, (itemsOfRule_concat lg rec v ord dc R.raw (rAttrs R)).mem _ o ho x hxo⟩

/-- If every item of the bucket of `R` and `it` carries the slot `(R.raw, it.key)` under `σ`, the items of a slot are, in
order, the chunk of the one bucket of that slot; a slot that no diff item has gets none. -/
theorem chunk_of_slot {lg : LogicFn} {rec : PRec} {v : Vendor} {ord : List ORule} {dc : Bool} {P : List PreRule}
    {d : List DItem} {out : List RawItem} (σ : RawItem → Option Slot) (hP : InvR P d)
    (hσ : ∀ R ∈ P, ∀ it ∈ rItems R, ∀ chunk, bucketRun lg rec v ord dc R.raw (rAttrs R) it = .ok chunk →
      ∀ x ∈ chunk, σ x = some (R.raw, it.key))
    (hout : itemsOfPre lg rec v ord dc P = .ok out) (s : Slot) :
    (d.filter (slotIs s) = [] ∧ out.filter (σ · == some s) = []) ∨
    ∃ R ∈ P, R.raw = s.1 ∧ ∃ it ∈ rItems R, it.key = s.2 ∧
      ∃ chunk, bucketRun lg rec v ord dc R.raw (rAttrs R) it = .ok chunk ∧ out.filter (σ · == some s) = chunk := by
  obtain ⟨s1, s2⟩ := s
  have noitem : (∀ i ∈ d, i.m.rawRule = s1 → i.m.key ≠ s2) → d.filter (slotIs (s1, s2)) = [] := fun h =>
    List.filter_eq_nil_iff.2 fun i hi hs => by
      simp only [slotIs, beq_iff_eq, Prod.mk.injEq] at hs
      exact h i hi hs.1 hs.2
  rcases (itemsOfPre_concat lg rec v ord dc).filter (·.raw) s1 (σ · == some (s1, s2)) P out hout hP.1
      (fun R hR hne o ho x hx => by
        obtain ⟨it, hit, chunk, hc, hxc⟩ := (itemsOfRule_concat lg rec v ord dc R.raw (rAttrs R)).mem _ o ho x hx
        simp [hσ R hR it hit chunk hc x hxc, hne]) with ⟨h1, h2⟩ | ⟨R, hR, hraw, o, ho, h2⟩
  · exact .inl ⟨noitem fun i hi hr => (h1 (hr ▸ hP.2.2 i hi trivial)).elim, h2⟩
  · subst hraw
    rcases (itemsOfRule_concat lg rec v ord dc R.raw (rAttrs R)).filter (·.key) s2 (σ · == some (R.raw, s2)) (rItems R)
        o ho (hP.2.1 R hR).1.1 (fun it hit hne chunk hc x hx => by simp [hσ R hR it hit chunk hc x hx, hne])
      with ⟨h3, h4⟩ | ⟨it, hit, hkey, chunk, hc, h4⟩
    · exact .inl ⟨noitem fun i hi hr hk => h3 (hk ▸ (hP.2.1 R hR).1.2.2 i hi hr), h2.trans h4⟩
    · refine .inr ⟨R, hR, rfl, it, hit, hkey, chunk, hc, h2.trans (h4.trans (List.filter_eq_self.2 fun x hx => ?_))⟩
      simp [hσ R hR it hit chunk hc x hx, hkey]

def sortKeyOf (x : RawItem) : SortKey := ⟨signed x.order x.orderDirect, x.rawRule, x.orderDirect⟩

/-- `buildTree` makes a leaf of the item: nothing below it and no `parent` flag, or a removal command -/
def isLeaf (x : RawItem) : Bool := (x.children.items.isEmpty && !x.parent) || !x.direct

def treeOf (x : RawItem) : String × Option PTree × SortKey :=
  (x.row, if isLeaf x then none else some x.children, sortKeyOf x)

theorem buildTree_eq (out : List RawItem) :
    buildTree out =
      .mk (out.flatMap fun x => treeOf x :: if x.forceCommit then [("commit", none, sortKeyOf x)] else []) := by
  unfold buildTree
  congr 2
  funext x
  unfold treeOf isLeaf sortKeyOf
  split <;> split <;> rfl

theorem buildTree_flat (out : List RawItem) (h : ∀ x ∈ out, x.forceCommit = false) :
    buildTree out = .mk (out.map treeOf) := by
  rw [buildTree_eq, List.map_eq_flatMap, List.flatMap_def, List.flatMap_def]
  congr 2
  exact List.map_congr_left fun x hx => by rw [h x hx]; rfl

/-- the recursion of `make_patch` into a sub-`Pre` -/
def subTree (rec : PRec) (oc : List ORule) : Option Pre → Except Patch.Err PTree
  | none => .ok (.mk [])
  | some p => if p.isEmpty then .ok (.mk []) else rec oc p

/-- `x` is the raw item `yieldsToItems` makes of the yield `y` -/
def NItemOf (rec : PRec) (v : Vendor) (ord : List ORule) (raw : String) (attrs : PAttrs) (y : Yield) (x : RawItem) : Prop :=
  x.row = y.row ∧ x.rawRule = raw ∧ x.forceCommit = attrs.forceCommit ∧ x.direct = y.direct ∧
  x.parent = attrs.parent ∧
  ∃ o, getOrder v ord y.row y.direct (some "patch") = some o ∧ x.order = o.order ∧ x.orderDirect = o.direct ∧
    subTree rec o.children y.sub = .ok x.children

/-- the raw items of a bucket are those of its yields, one by one -/
abbrev NRel (rec : PRec) (v : Vendor) (ord : List ORule) (raw : String) (attrs : PAttrs) :
    List Yield → List RawItem → Prop :=
  Deploy.Lemmas.Forall2 (NItemOf rec v ord raw attrs)

/-- without `do_commit` the yields of a `force_commit` rule give no item -/
theorem yields_nrel (rec : PRec) (v : Vendor) (ord : List ORule) (dc : Bool) (raw : String) (attrs : PAttrs) :
    ∀ (ys : List Yield) (chunk : List RawItem),
    yieldsToItems rec v ord dc raw attrs ys = .ok chunk →
    NRel rec v ord raw attrs (if (!dc && attrs.forceCommit) = true then [] else ys) chunk
  | [], chunk, h => by
    rw [yieldsToItems] at h; cases h; rw [ite_self]; exact .nil
  | y :: ys, chunk, h => by
    have ih := yields_nrel rec v ord dc raw attrs ys
    rw [yieldsToItems] at h
    split at h
    · cases h
    · rename_i o ho
      by_cases hc : (!dc && attrs.forceCommit) = true
      · rw [if_pos hc] at h ih ⊢
        exact ih chunk h
      · rw [if_neg hc] at ih ⊢
        simp only [if_neg hc] at h
        split at h
        · cases h
        · rename_i ch hch
          split at h
          · cases h
          · rename_i more hmore
            cases h
            refine .cons ⟨rfl, rfl, rfl, rfl, rfl, o, ho, rfl, rfl, ?_⟩ (ih more hmore)
            simp only [subTree]
            rw [← hch]
            cases y.sub <;> rfl

theorem subTree_inv {lg : LogicFn} {v : Vendor} {dc : Bool} {n : Nat} {oc : List ORule} {p : Pre} {T : PTree}
    (h : subTree (makePatchUnsorted lg (n + 1) v dc) oc (some p) = .ok T) :
    ∃ out, itemsOfPre lg (makePatchUnsorted lg n v dc) v oc dc p.rules = .ok out ∧ T = buildTree out := by
  simp only [subTree] at h
  split at h
  · rename_i hemp
    cases h
    simp only [Pre.isEmpty, List.isEmpty_iff] at hemp
    rw [hemp]
    exact ⟨[], by rw [itemsOfPre], rfl⟩
  · rw [makePatchUnsorted] at h
    split at h
    · cases h
    · rename_i items hitems
      cases h
      exact ⟨items, hitems, rfl⟩

/-- `T` is the tree `make_patch` builds below the diff item `i`, under the ordering rules `get_order` hands down in `o` -/
def ChildTree (rec : PRec) (v : Vendor) (ord : List ORule) (i : DItem) (o : OrderRes) (T : PTree) : Prop :=
  (∃ row dir, getOrder v ord row dir (some "patch") = some o) ∧ subTree rec o.children (some (makePre i.children)) = .ok T

/-- One level of `make_patch` establishes `motive ord d T` (ordering rules, diff, unsorted tree), for an arbitrary recursion
`rec`, from the motive for the tree of every item's children under the ordering rules `get_order` hands down. -/
def PatchStep (lg : LogicFn) (v : Vendor) (dc : Bool) (motive : List ORule → List DItem → PTree → Prop) : Prop :=
  ∀ (ord : List ORule) (d : List DItem) (rec : PRec) (out : List RawItem),
    itemsOfPre lg rec v ord dc (makePre d).rules = .ok out →
    (∀ i ∈ d, ∀ o T, ChildTree rec v ord i o T → motive o.children i.children T) →
    motive ord d (buildTree out)

/-- Induction over the recursion of `make_patch`: a proof that goes through it sees neither the fuel of
`makePatchUnsorted` nor the depth of the `Pre`. -/
theorem makePatchWith_induct {lg : LogicFn} {v : Vendor} {dc : Bool} {motive : List ORule → List DItem → PTree → Prop}
    (step : PatchStep lg v dc motive) {ord : List ORule} {d : List DItem} {p : PTree}
    (h : makePatchWith lg v ord dc (makePre d) = .ok p) : ∃ T, motive ord d T ∧ p = sortTree T := by
  have fuel : ∀ (n : Nat) (ord : List ORule) (d : List DItem) (out : List RawItem), preDepth (makePre d) ≤ n →
      itemsOfPre lg (makePatchUnsorted lg n v dc) v ord dc (makePre d).rules = .ok out →
      motive ord d (buildTree out) := by
    intro n
    induction n with
    | zero =>
      intro ord d out hdep hout
      refine step ord d _ out hout fun i hi _ _ _ => ?_
      have := preDepth_child hi
      omega
    | succ m ih =>
      intro ord d out hdep hout
      refine step ord d _ out hout fun i hi o T ⟨_, hsub⟩ => ?_
      have := preDepth_child hi
      obtain ⟨out', hout', rfl⟩ := subTree_inv hsub
      exact ih o.children i.children out' (by omega) hout'
  rw [makePatchWith, Except.map_eq_ok] at h
  obtain ⟨T, hT, rfl⟩ := h
  have e : preDepth (makePre d) + 2 = (preDepth (makePre d) + 1) + 1 := rfl
  rw [e, makePatchUnsorted] at hT
  split at hT
  · cases hT
  · rename_i out hout
    cases hT
    exact ⟨_, fuel _ ord d out (Nat.le_succ _) hout, rfl⟩

end Annet.Patch.PreLemmas
