/-
Non-vacuity of `flat_converges`: a concrete vendor, device, rulebook (two flat rules), ordering rulebook and
configuration pair satisfying every hypothesis.
-/
import AnnetModel.Lemmas.ExampleVendor

namespace Annet.Converge.Example
open Annet Annet.Rules Annet.Device Annet.Device.Abs Annet.Converge

def v : Vendor := { reverse := "undo", exit := "quit" }
def env : Env := { reverse := "undo", exits := ["quit"] }

def mtuAttrs : PAttrs :=
  { row := "mtu", logic := "common.undo_redo", diffLogic := "common.default_diff", parent := false, forceCommit := false }
def descAttrs : PAttrs :=
  { row := "description", logic := "common.default", diffLogic := "common.default_diff", parent := false,
    forceCommit := false }
def mtuRule : PRule := .mk "mtu" false mtuAttrs (some ([], []))
def descRule : PRule := .mk "description" false descAttrs (some ([], []))
def rules : PRules := ⟨[mtuRule, descRule], []⟩
def ordering : List ORule := [.mk "mtu" "mtu" false false none []]
def old : Cfg := .mk [("mtu 1500", .mk []), ("description a", .mk [])]
def new : Cfg := .mk [("mtu 9000", .mk [])]

theorem flatRules : FlatRules rules := by
  refine ⟨rfl, ?_, ?_⟩
  · intro r hr
    simp only [rules, List.mem_cons, List.not_mem_nil, or_false] at hr
    rcases hr with rfl | rfl
    · exact ⟨rfl, rfl, rfl, Or.inr rfl, rfl⟩
    · exact ⟨rfl, rfl, rfl, Or.inl rfl, rfl⟩
  · intro r hr r' hr' h
    simp only [rules, List.mem_cons, List.not_mem_nil, or_false] at hr hr'
    rcases hr with rfl | rfl <;> rcases hr' with rfl | rfl
    · rfl
    · exact absurd h (by decide)
    · exact absurd h (by decide)
    · rfl

theorem flatOld : FlatCfg old := by
  intro e he
  simp only [old, Cfg.kids, List.mem_cons, List.not_mem_nil, or_false] at he
  rcases he with rfl | rfl <;> rfl

theorem flatNew : FlatCfg new := by
  intro e he
  simp only [new, Cfg.kids, List.mem_cons, List.not_mem_nil, or_false] at he
  rcases he with rfl <;> rfl

theorem knownOld : AllKnown rules old := by
  intro e he
  simp only [old, Cfg.kids, List.mem_cons, List.not_mem_nil, or_false] at he
  rcases he with rfl | rfl <;> decide +kernel

theorem knownNew : AllKnown rules new := by
  intro e he
  simp only [new, Cfg.kids, List.mem_cons, List.not_mem_nil, or_false] at he
  rcases he with rfl <;> decide +kernel

theorem wfOld : WF rules old.kids := ⟨knownOld, by decide +kernel⟩
theorem wfNew : WF rules new.kids := ⟨knownNew, by decide +kernel⟩

theorem noPin : NoPin ordering := by
  simp [ordering, NoPin, NoPinRule]

theorem patchOk : ∃ r, Api.deviceMode Patch.runLogic v rules ordering true old new = .ok r := by
  have h : Except.isOk (Api.deviceMode Patch.runLogic v rules ordering true old new) = true := by decide +kernel
  cases hr : Api.deviceMode Patch.runLogic v rules ordering true old new with
  | ok r => exact ⟨r, rfl⟩
  | error e => rw [hr] at h; cases h

theorem cmdsOK : CmdsOK v env rules :=
  ConvergeNested.Example.cmdsOK_simple
    (spec := [(mtuRule, 'm', "tu".toList, false), (descRule, 'd', "escription".toList, false)]) (by decide +kernel)
    (by decide +kernel)

/-- the commands of the patch (non-trivial: a removal followed by the re-creation of its slot, and the removal
of another rule's line) -/
def patchCmds : List (List String) :=
  match Api.deviceMode Patch.runLogic v rules ordering true old new with
  | .ok r => flatPaths r.patch
  | .error _ => []

-- it is `[["undo description"], ["undo mtu"], ["mtu 9000"]]` (`decide +kernel` evaluates it; plain `decide` does not terminate)

end Annet.Converge.Example
