/-
C14, Cumulus: one theorem per condition and action generator (`gen_*`), and every named list a route-map row refers to is
defined by the list sections of the same `generate_cumulus_rpl` stream.
-/
import AnnetModel.Lemmas.RplUnited
import AnnetModel.Spec.RplKeys
import AnnetModel.Spec.RplCumulus

namespace Annet.Rpl.Lemmas
open Annet.Rpl.Spec

/-! `RefKindC` is an abbreviation of `RefKindA`: the lemmas about kinds (`kindA`, `CondRefA`) apply as they are. -/

/-- the references of a row yielded behind `FRR_INDENT` -/
abbrev refsOfRowCI (row : List Str) : List (RefKindC × Str) := refsOfRowC (indentRow row)

/-- the first items after which `refsOfRowC` reads the name of a list, and the kind of the list -/
def headKindsC : List (String × RefKindC) :=
  [("match community", .communityList), ("match large-community-list", .largeCommunityList),
   ("match extcommunity", .extcommunityList), ("set comm-list", .communityList)]

theorem refsC_head {kw : String} {K : RefKindC} (h : (kw, K) ∈ headKindsC) (n : Str) (rest : List Str) :
    refsOfRowCI (s kw :: n :: rest) = [(K, n)] := by
  simp only [headKindsC, List.mem_cons, Prod.mk.injEq, List.not_mem_nil, or_false] at h
  rcases h with ⟨rfl, rfl⟩ | ⟨rfl, rfl⟩ | ⟨rfl, rfl⟩ | ⟨rfl, rfl⟩ <;>
    simp only [refsOfRowCI, refsOfRowC, indentRow, namedA, bne_self_eq_false, s_beq, String.reduceBEq,
      Bool.false_eq_true, ↓reduceIte, List.head?_cons]

theorem refsC_pfx {kw : String} (h : kw = "ip address prefix-list" ∨ kw = "ipv6 address prefix-list") (n : Str) :
    refsOfRowCI [s "match", s kw, n] = [(.prefixList, n)] := by
  rcases h with rfl | rfl <;>
    simp only [refsOfRowCI, refsOfRowC, indentRow, namedA, bne_self_eq_false, s_beq, String.reduceBEq,
      Bool.false_eq_true, ↓reduceIte, Bool.or_false, Bool.or_true, List.head?_cons]

theorem plainC_set {Q : RefKindC × Str → Prop} (rest : List Str) : Row refsOfRowCI Q (s "set" :: rest) :=
  plain_of_nil (rowNE_of_head (s_ne_nil (by decide +kernel)) rest) (by
    simp only [refsOfRowCI, refsOfRowC, indentRow, bne_self_eq_false, s_beq, String.reduceBEq, Bool.false_eq_true,
      ↓reduceIte])
theorem plainC_onmatch {Q : RefKindC × Str → Prop} : Row refsOfRowC Q (indentRow [s "on-match next"]) :=
  plain2 (by simp only [refsOfRowC, bne_self_eq_false, s_beq, String.reduceBEq, Bool.false_eq_true, ↓reduceIte])

/-- a two-item `match` row whose second item is no prefix-list keyword is read as `match as-path N` -/
theorem refsC_match_other (tok : Str) (h4 : tok ≠ s "ip address prefix-list")
    (h5 : tok ≠ s "ipv6 address prefix-list") :
    refsOfRowCI [s "match", tok] = namedA .asPathList (dropPrefix (s "as-path ") tok) := by
  simp only [refsOfRowCI, refsOfRowC, indentRow, bne_self_eq_false, s_beq, String.reduceBEq, Bool.false_eq_true,
    ↓reduceIte, Bool.or_eq_true, beq_iff_eq, h4, h5, or_self, List.isEmpty_nil]

/-- the row of a `FRR_MATCH_COMMAND_MAP` field refers to a list only for `as_path_filter` -/
theorem refsC_matchCmd {f : MField} {cmd : Str} (h : frrMatchCmd f = some cmd) (v : Str) :
    refsOfRowCI [s "match", cmd ++ v] = if f = .asPathFilter then [(.asPathList, v)] else [] := by
  cases f <;> simp only [frrMatchCmd, reduceCtorEq, Option.some.injEq] at h <;> subst h <;>
    exact (refsC_match_other _ (s_append_ne (by decide +kernel) _) (s_append_ne (by decide +kernel) _)).trans
      (by rw [dropPrefix_cmd v (by decide +kernel)]; rfl)

/-- the rows as yielded, before `FRR_INDENT` -/
abbrev GenC (Q : RefKindC × Str → Prop) (L : Prop) : Out (List Str) → Prop := Gen (Row refsOfRowCI Q) L

/-- the community-like branches of `_cumulus_policy_match` -/
theorem gen_cumMatchComm {kw : String} {K : RefKindC} (c : Cond) {Q : RefKindC × Str → Prop}
    (hq : ∀ l, c.val = .names l → ∀ x ∈ (if c.op == .hasAny then [mangle l] else l), Q (K, x))
    (hK : (kw, K) ∈ headKindsC) : GenC Q False (cumMatchComm (s kw) c) := by
  unfold cumMatchComm
  split
  next l hv =>
    exact .emit (refsIn_rowsFor (refsC_head hK · []) (hq l hv))
  · exact .fail

/-- `_cumulus_policy_match`: the references of a condition's rows are those of `CondRefA` (the kinds and names are
the Arista ones: united names for `has_any`, derived prefix-list names, the as-path filter name) -/
theorem gen_cumMatch (inp : Input) (c : Cond) :
    GenC (CondRefA inp c) (¬ condNamesKnown inp c = true) (cumMatch inp c) := by
  unfold cumMatch
  split
  next hf => exact .weaken (gen_cumMatchComm c (fun l hv x hx => .comm (by rw [hf]; rfl) rfl hv hx) (by decide +kernel))
  next hf => exact .weaken (gen_cumMatchComm c (fun l hv x hx => .comm (by rw [hf]; rfl) rfl hv hx) (by decide +kernel))
  next hf => exact .weaken (gen_cumMatchComm c (fun l hv x hx => .comm (by rw [hf]; rfl) rfl hv hx) (by decide +kernel))
  next hf => exact .weaken (gen_cumMatchComm c (fun l hv x hx => .comm (by rw [hf]; rfl) rfl hv hx) (by decide +kernel))
  next hf =>
    split
    next names a b hv =>
      exact .ofPart (part_pfxRows (refsC_pfx (.inl rfl)) _ a b names (fun nm hnm pl hpl => .pfx (.inl hf) hv hnm hpl)
        fun nm hnm e he => pfx_unknown (.inl hf) hv hnm he)
    · exact .fail
  next hf =>
    split
    next names a b hv =>
      exact .ofPart (part_pfxRows (refsC_pfx (.inr rfl)) _ a b names (fun nm hnm pl hpl => .pfx (.inr hf) hv hnm hpl)
        fun nm hnm e he => pfx_unknown (.inr hf) hv hnm he)
    · exact .fail
  · refine .ite .fail ?_
    split
    · exact .fail
    next cmd hcmd =>
      split
      next v hv =>
        refine .emit_one ⟨rowNE_cons2 _ _ _, fun r hr => ?_⟩
        rw [refsC_matchCmd hcmd] at hr
        split at hr
        next hf => exact List.mem_singleton.mp hr ▸ .asPath hf hv
        · cases hr
      · exact .fail

theorem Row.indent {Q Q' : RefKindC × Str → Prop} {row : List Str} (h : Row refsOfRowCI Q row)
    (hq : ∀ r, Q r → Q' r) : Row refsOfRowC Q' (indentRow row) :=
  ⟨rowNE_of_head (List.cons_ne_nil _ _) row, fun r hr => hq r (h.refs r hr)⟩

theorem gen_cumThenAddOnly (kind : Str) (c : CommAct) {Q : RefKindC × Str → Prop} :
    GenC Q False (cumThenAddOnly kind c) := by
  unfold cumThenAddOnly
  exact .ite .fail (.after_check (.emit (List.forall_mem_map.mpr fun _ _ => plainC_set _)))

theorem extTypeStr_ok {t : CType} (h : t ∈ [CType.rt, CType.soo]) : ∃ ts, extTypeStr t = .ok ts := by
  simp only [List.mem_cons, List.not_mem_nil, or_false] at h
  rcases h with rfl | rfl <;> exact ⟨_, rfl⟩

/-- `set` yields one row per type group and then checks `added` / `removed`, which are empty on this path: it raises
after a row only if the replaced lists are not all RT/SOO lists -/
theorem gen_cumThenExt (cl : List CommList) (c : CommAct) {Q : RefKindC × Str → Prop} :
    GenC Q (¬ ∀ r, c.replaced = some r →
      (!c.added.isEmpty || !c.removed.isEmpty || r.isEmpty || typesIn cl [.rt, .soo] r) = true) (cumThenExt cl c) := by
  unfold cumThenExt
  split
  next r hr =>
    split
    · exact .fail
    next hne =>
      split
      · exact .emit_one (plainC_set _)
      next hre =>
        split
        · exact .fail
        next groups hgs =>
          obtain ⟨ha, hrm⟩ := Bool.or_eq_false_iff.mp (Bool.eq_false_iff.mpr hne)
          rw [ha, hrm]
          refine .ofPart (.seq (.seqAll_map fun g hg => ?_) (.seq .emit_nil .emit_nil))
          unfold cumExtGroup
          split
          next e he =>
            refine .fail (fun hs => ?_)
            have hs := hs r hr
            simp only [Bool.eq_false_iff.mpr hre, Bool.false_or] at hs
            obtain ⟨gs, hgs', hall⟩ := groupMembers_types cl [.rt, .soo] r [] (fun _ h => nomatch h) hs
            cases hgs.symm.trans hgs'
            obtain ⟨ts, hts⟩ := extTypeStr_ok (hall g hg)
            rw [hts] at he; cases he
          · exact .emit_one (plainC_set _)
  · exact .rowless (fst_seq_nil _ _ (raiseIf_fst _ _) (raiseIf_fst _ _))

theorem gen_cumThenAsPath (p : AsPathAct) {Q : RefKindC × Str → Prop} : GenC Q False (cumThenAsPath p) := by
  unfold cumThenAsPath
  refine .after_check (.ofPart (.seq (.emit_map fun _ _ => plainC_set _) (.seq (.emit_map fun _ _ => plainC_set _)
    (.seq ?_ (.ite (.emit_one (plainC_set _)) .emit_nil)))))
  split
  · exact .emit (List.forall_mem_cons.mpr ⟨plainC_set _, List.forall_mem_map.mpr fun _ _ => plainC_set _⟩)
  · exact .emit_nil

theorem gen_cumThenNextHop (n : NextHop) {Q : RefKindC × Str → Prop} : GenC Q False (cumThenNextHop n) := by
  unfold cumThenNextHop
  exact .ite (.emit_one (plainC_set _)) (.ite .emit_nil (.ite .emit_nil (.ite (.emit_one (plainC_set _))
    (.ite (.emit_one (plainC_set _)) (.ite (.emit_one (plainC_set _)) .fail)))))

/-- `set comm-list N delete` for the removed lists is the only reference `_cumulus_then_community` makes -/
theorem gen_cumThenCommunity (cl : List CommList) (c : CommAct) {Q : RefKindC × Str → Prop}
    (hq : ∀ n ∈ c.removed, Q (.communityList, n)) : GenC Q (Unknown cl c) (cumThenCommunity cl c) := by
  unfold cumThenCommunity
  refine .seq ?_ (.seq (.ite ?_ .emit_nil)
    (.emit_map fun n hn => row_single (refsC_head (by decide +kernel) _ _) (hq n hn)))
  · split
    · refine .ite .fail ?_
      split
      · exact .fail
      · exact .ite (.emit_one (plainC_set _)) (.emit_one (plainC_set _))
    · exact .emit_nil
  · split
    next he => exact .fail (unknown_added he)
    · exact .emit_one (plainC_set _)

theorem gen_cumThen (cl : List CommList) (a : Action) :
    GenC (ActRef kindA a) (¬ (actNamesKnown cl a = true ∧ safeActC cl a = true)) (cumThen cl a) := by
  unfold cumThen
  split
  next hf =>
    split
    next c hv =>
      exact (gen_cumThenCommunity cl c fun n hn => .intro (by rw [hf]; rfl) rfl hv (mem_names_removed hn)).imp
        fun hu h => hu (actNamesKnown_comm hv h.1)
    · exact .fail
  · split
    · exact (gen_cumThenAddOnly _ _).weaken
    · exact .fail
  next hf =>
    split
    next c hv =>
      refine (gen_cumThenExt cl c).imp fun hl h => hl ?_
      intro r hr
      have hs := h.2
      unfold safeActC at hs
      rw [hf, hv] at hs
      simp only [hr] at hs
      exact hs
    · exact .fail
  · split
    · exact (gen_cumThenAddOnly _ _).weaken
    · exact .fail
  · split
    · exact (gen_cumThenAddOnly _ _).weaken
    · exact .fail
  · split
    · exact .fail
    · exact .ite (.emit_one (plainC_set _)) (.ite (.emit_one (plainC_set _)) (.ite (.emit_one (plainC_set _)) .fail))
  · split
    · exact (gen_cumThenAsPath _).weaken
    · exact .fail
  · split
    · exact (gen_cumThenNextHop _).weaken
    · exact .fail
  · refine .ite .fail ?_
    split
    · exact .fail
    · split
      · exact .emit_one (plainC_set _)
      · exact .fail

/-- rows that are not behind `FRR_INDENT` refer to nothing -/
theorem refsC_top (row : List Str) (h : row.head? ≠ some [' ']) : refsOfRowC row = [] := by
  match row with
  | [] => rfl
  | [_] => rfl
  | ind :: h' :: rest =>
    simp only [List.head?_cons, ne_eq, Option.some.injEq] at h
    simp [refsOfRowC, h]

theorem top_of_lit {tok : String} (h : tok ≠ " ") (rest : List Str) : (s tok :: rest).head? ≠ some [' '] :=
  fun e => s_ne h (Option.some.inj e)

theorem plainC_header {Q : RefKindC × Str → Prop} (name res num : Str) :
    Row refsOfRowC Q [s "route-map", name, res, num] :=
  plain2 (refsC_top _ (top_of_lit (by decide +kernel) _))

theorem plainC_bang {Q : RefKindC × Str → Prop} : Row refsOfRowC Q [s "!"] := plain_of_nil (rowNE_of_head (s_ne_nil (by decide +kernel)) []) rfl

theorem allRows_cumStmts {P : List Str → Prop} (inp : Input) (p : Policy) :
    ∀ (sts : List Stmt) (applied : List Str), (∀ st ∈ sts, ∀ num, AllRows P (cumStatement inp p st num)) →
      AllRows P (cumStmts inp p sts applied) := by
  intro sts
  induction sts with
  | nil => exact fun _ _ => .emit_nil
  | cons st sts ih =>
    intro applied h
    unfold cumStmts
    split
    · exact .fail
    · exact .ite .fail (.seq (h st List.mem_cons_self _) (ih _ fun st' hst' => h st' (List.mem_cons_of_mem _ hst')))

theorem origin_refsC (inp : Input) (r : RefKindC × Str) (h : r ∈ refsC (cumPolicyConfig inp).1) :
    Origin inp (CondRefA inp) (ActRef kindA) r := by
  obtain ⟨row, hrow, hr⟩ := List.mem_flatMap.mp h
  obtain ⟨o, ho, hro⟩ := seqAll_rows_mem _ _ hrow
  obtain ⟨p, hp, rfl⟩ := List.mem_map.mp ho
  have hp' : RefsIn refsOfRowC (fun r => ∃ st ∈ p.stmts,
      (∃ c ∈ st.conds, CondRefA inp c r) ∨ (∃ a ∈ st.acts, ActRef kindA a r)) (cumStmts inp p p.stmts []) := by
    refine allRows_cumStmts inp p _ _ fun st hst num => ?_
    unfold cumStatement
    split
    · exact .fail
    · exact .seq (.emit_one (plainC_header _ _ _))
        (.seq (.mapRows ((refsIn_elems (fun c => (gen_cumMatch inp c).rows) _).mono
            fun _ h => h.indent fun _ hr => ⟨st, hst, .inl hr⟩))
          (.seq (.mapRows ((refsIn_elems (fun a => (gen_cumThen _ a).rows) _).mono
              fun _ h => h.indent fun _ hr => ⟨st, hst, .inr hr⟩))
            (.seq (.ite (.emit_one plainC_onmatch) .emit_nil) (.emit_one plainC_bang))))
  obtain ⟨st, hst, h⟩ := (hp' row hro).refs r hr
  exact ⟨p, hp, st, hst, h⟩

theorem defsC_head (row : List Str) (rest : List (List Str)) (r : RefKindC × Str) (h : r ∈ defsOfRowC row) :
    r ∈ defsC (row :: rest) := by
  unfold defsC; simp only [List.flatMap_cons, List.mem_append]; exact .inl h

-- `cum_or`: a list with logic OR yields one row per member; the first of them (`hm`) defines the name (`lem`).
macro "cum_or" hm:ident lem:ident : tactic => `(tactic| (
  simp only [$hm:ident, emit_seq, List.length_cons, List.range_succ_eq_map, List.map_cons, List.zip_cons_cons,
    List.cons_append]
  exact defsC_head _ _ _ ($lem _ _ _ _)))

-- `cum_and`: a list with logic AND yields one row of all members, unless it raises (`use_regex`, more than one member: `hok`).
macro "cum_and" u:ident m0:ident ms:ident hm:ident hok:ident lem:ident : tactic => `(tactic| (
  by_cases hrx : ($u).useRegex = true
  · simp only [hrx, if_true, $hm:ident] at $hok:ident ⊢
    by_cases hlen : ($m0 :: $ms).length > 1
    · simp only [hlen, if_true] at $hok:ident
      simp [fail] at $hok:ident
    · simp only [hlen, if_false, emit_seq, List.cons_append, List.nil_append]
      exact defsC_head _ _ _ ($lem _ _ _ _)
  · simp only [if_neg hrx, emit_seq, List.cons_append, List.nil_append]
    exact defsC_head _ _ _ ($lem _ _ _ _)))

theorem cumUnion_head_def (name : Str) (u0 : CommList) (us : List CommList) (n : Nat)
    (hok : (cumUnion name (u0 :: us) n).2 = none) (hne : u0.members ≠ []) (K : RefKindC)
    (hk : kindA u0.type = some K) : (K, name) ∈ defsC (cumUnion name (u0 :: us) n).1 := by
  obtain ⟨m0, ms, hm⟩ := List.exists_cons_of_ne_nil hne
  unfold cumUnion at hok ⊢
  simp only [] at hok ⊢
  split at hok
  · cases hok
  next pre cmd hhdr =>
    -- whichever row comes first, its command word is that of the type of `u0`, and so is the kind of list it defines
    have key : ∀ name m rx q, (K, name) ∈ defsOfRowC (cumCommunityRow name cmd m rx q) := by
      intro name m rx q
      cases ht : u0.type <;> rw [ht] at hhdr hk <;> cases hhdr <;> cases hk <;>
        simp only [defsOfRowC, cumCommunityRow, namedA, s_beq, String.reduceBEq, Bool.false_eq_true, ↓reduceIte,
          List.tail_cons, List.head?_cons, List.mem_singleton]
    cases hl : u0.logic <;> simp only [hl] at hok ⊢
    · cum_and u0 m0 ms hm hok key
    · cum_or hm key

theorem community_defined_C (inp : Input) (hok : (cumCommunities inp).2 = none)
    (hne : ∀ c ∈ inp.clists, c.members ≠ []) (hinj : MangleInj inp) (ns : List Str) (hns : ns ∈ keyLists inp)
    (hnn : ns ≠ []) (t : CType) (K : RefKindC) (hk : kindA t = some K) (hty : typesIn inp.clists [t] ns = true) :
    (K, mangle ns) ∈ defsC (cumCommunities inp).1 := by
  unfold cumCommunities at hok ⊢
  split at hok
  · cases hok
  next ud hud =>
    obtain ⟨e, he, hnames, u0, us, hus, hu0, hct⟩ := usedUnited_head hud hinj hns hnn hty
    have hnonempty : ud.isEmpty = false := List.isEmpty_eq_false_iff.mpr (List.ne_nil_of_mem he)
    simp only [hnonempty, Bool.false_eq_true, if_false] at hok ⊢
    rw [seq_ok_rows _ _ hok]
    subst hnames
    obtain ⟨heok, hsub⟩ := seqAll_map_ok (seq_ok_left _ _ hok) he
    rw [hus] at heok hsub ⊢
    exact mem_flatMap_mono (cumUnion_head_def _ u0 us 0 heok (hne u0 hu0) K (hct ▸ hk))
      fun l hl => List.mem_append_left _ (hsub l hl)

theorem cumPrefixRows_defines (ptype : Str) (hp : ptype = s "ip" ∨ ptype = s "ipv6") (pl : PrefixList)
    (hne : pl.members ≠ []) :
    (RefKindA.prefixList, pl.name) ∈ (cumPrefixRows ptype pl).flatMap fun l => defsOfRowC l.toks := by
  obtain ⟨m0, hz⟩ := enum_head hne
  refine List.mem_flatMap.mpr ⟨_, List.mem_map.mpr ⟨(0, m0), hz, rfl⟩, ?_⟩
  rcases hp with rfl | rfl <;>
    simp only [defsOfRowC, namedA, s_beq, String.reduceBEq, Bool.false_eq_true, ↓reduceIte, Bool.or_true, Bool.or_false,
      List.cons_append, List.nil_append, List.head?_cons, List.mem_singleton]

theorem prefix_defined_C (inp : Input) (hok : (cumPrefixLists inp).2 = none) (hne : ∀ pl ∈ inp.plists, pl.members ≠ [])
    {p : Policy} (hp : p ∈ inp.policies) {st : Stmt} (hst : st ∈ p.stmts) {c : Cond} (hc : c ∈ st.conds)
    (hf : c.field = .ipPrefix ∨ c.field = .ipv6Prefix) {names : List Str} {a b : Option Str}
    (hv : c.val = .pfx names a b) {nm : Str} (hnm : nm ∈ names) {pl : PrefixList}
    (hg : getPrefix inp.plists nm a b = .ok pl) : (RefKindA.prefixList, pl.name) ∈ defsC (cumPrefixLists inp).1 := by
  unfold cumPrefixLists at hok ⊢
  rw [seq_ok_rows _ _ hok]
  have hok1 := seq_ok_left _ _ hok
  obtain ⟨l, hl, hr⟩ := List.mem_flatMap.mp (runPrefix_defined inp hne defsOfRowC (RefKindA.prefixList, ·)
    (cumPrefixRows_defines _ (.inl rfl)) (cumPrefixRows_defines _ (.inr rfl)) hok1 hp hst hc hf hv hnm hg)
  exact List.mem_flatMap.mpr ⟨l.toks, List.mem_append_left _ (List.mem_map_of_mem hl), hr⟩

theorem aspath_defined_C (inp : Input) (hok : (cumAsPath inp).2 = none) (p : Policy) (hp : p ∈ inp.policies)
    (st : Stmt) (hst : st ∈ p.stmts) (c : Cond) (hc : c ∈ st.conds) (hf : c.field = .asPathFilter) (v : Str)
    (hv : c.val = .scalar v) : (RefKindA.asPathList, v) ∈ defsC (cumAsPath inp).1 := by
  unfold cumAsPath at hok ⊢
  split at hok
  · cases hok
  next fs hfs =>
    obtain ⟨f, hfm, rfl⟩ := usedAsPath_mem hfs hp hst hc hf hv
    refine List.mem_flatMap.mpr ⟨_, List.mem_map.mpr ⟨f, hfm, rfl⟩, ?_⟩
    simp only [defsOfRowC, namedA, s_beq, String.reduceBEq, Bool.false_eq_true, ↓reduceIte, List.head?_cons,
      List.mem_singleton]

/-- rows that do not start behind `FRR_INDENT`: the list sections yield only such rows, and by `refsC_top` these make no
references -/
abbrev TopRows : Out (List Str) → Prop := AllRows fun row => row.head? ≠ some [' ']

theorem topRows_cumAsPath (inp : Input) : TopRows (cumAsPath inp) := by
  unfold cumAsPath
  split
  · exact .fail
  · exact .emit_map fun _ _ => top_of_lit (by decide +kernel) _

theorem topRows_cumUnion (name : Str) (us : List CommList) : ∀ n, TopRows (cumUnion name us n) := by
  induction us with
  | nil => exact fun _ => .emit_nil
  | cons c cs ih =>
    intro n
    unfold cumUnion
    simp only []
    split
    · exact .fail
    next pre cmd hhdr =>
      -- `cmd` is one of three `bgp …` literals, none of them the indent
      have row : ∀ m q, (cumCommunityRow name cmd m c.useRegex q).head? ≠ some [' '] := by
        intro m q
        cases ht : c.type <;> rw [ht] at hhdr <;> cases hhdr <;> exact top_of_lit (by decide +kernel) _
      split
      · split
        · exact .fail
        · exact .seq (.emit_one (row _ _)) (ih _)
      · exact .seq (.emit_map fun _ _ => row _ _) (ih _)

theorem topRows_cumCommunities (inp : Input) : TopRows (cumCommunities inp) := by
  unfold cumCommunities
  split
  · exact .fail
  · exact .ite .emit_nil (.seq (.seqAll_map fun _ _ => topRows_cumUnion _ _ _) (.emit_one (top_of_lit (by decide +kernel) _)))

theorem topRows_cumPrefixLists (inp : Input) : TopRows (cumPrefixLists inp) := by
  unfold cumPrefixLists
  refine .seq (.mapRows (prefixStmts_rows (fun pl l hl => ?_) (fun pl l hl => ?_) _ _))
    (.emit_one (top_of_lit (by decide +kernel) _))
  all_goals
    obtain ⟨im, _, rfl⟩ := List.mem_map.mp hl
    exact top_of_lit (by decide +kernel) _

end Annet.Rpl.Lemmas
