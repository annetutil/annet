/-
One level of the specification device (C01, C02).

* `sameSlot` is `slotOf … == some (rule, key)` (`sameSlot_eq`).
* Under `WF` a level is an ordered dictionary slot ↦ entry (line with its sub-block, `entryAt`), a put is the
  insert-or-update of that dictionary (`putLine_eq_upsert`: the same `Keyed.upsert` as the buckets of `make_pre`), a removal
  its erase (`putLine_entry`, `del_entry`).
* The leaf executor reads the word as an abstract command (`den`, the only use of `env`) and then acts on the level (`run`):
  `execLeaf_eq_run`, with no hypothesis.  What a command does is then said about `run`, by cases on the three commands: on
  any level it leaves the lines of every slot but its own (`cmdSlot`) as they are (`run_frame`; `replaceFirst … false`
  splits the level at its first holder, `rf_false_split`); on a well-formed level it updates the entry of its slot
  (`run_entry`) and refines `absStep` (`run_refines`).  A word that `Denotes` a command is read as it (`den_of_denotes`),
  so a list of leaf commands acts on the map as the fold of `absStep` (`cmds_refine`); two well-formed levels with the same
  map hold the same rows up to order (`same_map_perm`).  `leaf_preserves_others` and `put_keeps_same_line` are stated
  for well-formed levels like the refinement lemmas, though they hold of any level.
* A level without `%rewrite` matches has no rewrite command, and the device on one-word paths is then the fold of
  `execLeaf` (`applyCmds_words`).
* Under `CmdsOK` a line of the rulebook is read as its put, a removal command as the removal of its slot (`den_line`,
  `den_removal`).
-/
import AnnetModel.Spec.Converge
import AnnetModel.Spec.DeviceDenotes
import AnnetModel.Lemmas.Basic
import AnnetModel.Lemmas.Rules

namespace Annet.Device.Lemmas
open Annet Annet.Rules Annet.Device Annet.Device.Abs

theorem sameSlot_eq (rules : PRules) (m : PMatch) (row : String) :
    sameSlot rules m row = (slotOf rules row == some (m.rawRule, m.key)) := by
  unfold sameSlot slotOf
  cases classify rules row with
  | none => simp
  | some mc =>
    obtain ⟨m', cr⟩ := mc
    rw [Bool.eq_iff_iff]; simp

theorem rf_true (rules : PRules) (m : PMatch) (c : String) : (l : List (String × Cfg)) →
    replaceFirst rules m c true l = l.filter (fun e => !sameSlot rules m e.1)
  | [] => by simp [replaceFirst]
  | e :: rest => by
    rw [replaceFirst, rf_true rules m c rest]
    cases h : sameSlot rules m e.1 <;> simp [h]

theorem wf_iff (rules : PRules) (l : List (String × Cfg)) :
    WF rules l ↔ (∀ o ∈ l.map (fun e => slotOf rules e.1), o.isSome = true) ∧
      (l.map fun e => slotOf rules e.1).Nodup := by
  rw [WF, List.forall_mem_map]

theorem wf_of_map_eq {rules : PRules} {a b : List (String × Cfg)}
    (h : b.map (fun e => slotOf rules e.1) = a.map (fun e => slotOf rules e.1)) (hwf : WF rules a) :
    WF rules b := by
  rw [wf_iff] at hwf ⊢; rw [h]; exact hwf

theorem wf_filter {rules : PRules} {kids : List (String × Cfg)} (p : String × Cfg → Bool)
    (hwf : WF rules kids) : WF rules (kids.filter p) :=
  ⟨fun e he => hwf.1 e (List.mem_filter.1 he).1, hwf.2.sublist (List.filter_sublist.map _)⟩

/-- `replaceFirst … false` in closed form: nothing to replace, or the level splits at its first holder, which becomes
`(c, {})` while the later holders go -/
theorem rf_false_split (rules : PRules) (m : PMatch) (c : String) : ∀ l : List (String × Cfg),
    ((∀ e ∈ l, sameSlot rules m e.1 = false) ∧ replaceFirst rules m c false l = l) ∨
    ∃ pre h rest, l = pre ++ h :: rest ∧ (∀ e ∈ pre, sameSlot rules m e.1 = false) ∧ sameSlot rules m h.1 = true ∧
      replaceFirst rules m c false l = pre ++ (c, .mk []) :: rest.filter fun e => !sameSlot rules m e.1
  | [] => .inl ⟨nofun, rfl⟩
  | e :: l => by
    rw [replaceFirst]
    cases h : sameSlot rules m e.1 with
    | true => exact .inr ⟨[], e, l, rfl, nofun, h, by simp [rf_true]⟩
    | false =>
      rcases rf_false_split rules m c l with ⟨h1, h2⟩ | ⟨pre, x, rest, rfl, h1, h2, h3⟩
      · exact .inl ⟨List.forall_mem_cons.2 ⟨h, h1⟩, by simp [h2]⟩
      · exact .inr ⟨e :: pre, x, rest, rfl, List.forall_mem_cons.2 ⟨h, h1⟩, h2, by simp [h3]⟩

def entryAt (rules : PRules) (kids : List (String × Cfg)) (s : Slot) : Option (String × Cfg) :=
  kids.find? fun e => slotOf rules e.1 == some s

theorem holder_entryAt (rules : PRules) (kids : List (String × Cfg)) (s : Slot) :
    holder rules kids s = (entryAt rules kids s).map (·.1) := rfl

theorem entryAt_of_mem {rules : PRules} {kids : List (String × Cfg)} (hwf : WF rules kids)
    {e : String × Cfg} (he : e ∈ kids) {s : Slot} (hs : slotOf rules e.1 = some s) :
    entryAt rules kids s = some e := by
  have : e ∈ (entryAt rules kids s).toList := by
    rw [entryAt, ← Keyed.filter_unique (fun e : String × Cfg => slotOf rules e.1) (some s) kids hwf.2]
    exact List.mem_filter.2 ⟨he, beq_iff_eq.2 hs⟩
  exact Option.mem_toList.1 this

theorem holder_of_mem {rules : PRules} {kids : List (String × Cfg)} (hwf : WF rules kids)
    {e : String × Cfg} (he : e ∈ kids) {s : Slot} (hs : slotOf rules e.1 = some s) :
    holder rules kids s = some e.1 := by
  rw [holder_entryAt, entryAt_of_mem hwf he hs]; rfl

theorem entryAt_some {rules : PRules} {kids : List (String × Cfg)} {s : Slot} {e : String × Cfg}
    (h : entryAt rules kids s = some e) : e ∈ kids ∧ slotOf rules e.1 = some s :=
  ⟨List.mem_of_find?_eq_some h, by simpa using List.find?_some h⟩

theorem wf_nil (rules : PRules) : WF rules [] := ⟨fun _ h => (by cases h), List.nodup_nil⟩

theorem rows_nodup {rules : PRules} {kids : List (String × Cfg)} (hwf : WF rules kids) : (kids.map (·.1)).Nodup := by
  refine List.Pairwise.of_map (S := (· ≠ ·)) (slotOf rules) (fun _ _ hne e => hne (congrArg _ e)) ?_
  rw [List.map_map]
  exact hwf.2

theorem rows_filter_slot (rules : PRules) (kids : List (String × Cfg)) (hwf : WF rules kids) (s : Slot) :
    (kids.map (·.1)).filter (fun r => slotOf rules r == some s) = (holder rules kids s).toList := by
  rw [List.filter_map]
  show List.map (·.1) (kids.filter fun e => slotOf rules e.1 == some s) = _
  rw [Keyed.filter_unique (fun e : String × Cfg => slotOf rules e.1) (some s) kids hwf.2, holder]
  cases kids.find? (fun e => slotOf rules e.1 == some s) <;> rfl

theorem holder_some {rules : PRules} {kids : List (String × Cfg)} {s : Slot} {r : String}
    (h : holder rules kids s = some r) : r ∈ kids.map (·.1) ∧ slotOf rules r = some s := by
  unfold holder at h
  obtain ⟨e, he, rfl⟩ := Option.map_eq_some_iff.1 h
  exact ⟨List.mem_map_of_mem (List.mem_of_find?_eq_some he), by simpa using List.find?_some he⟩

theorem holder_of_row {rules : PRules} {kids : List (String × Cfg)} (hwf : WF rules kids) {s : Slot} {r : String}
    (hr : r ∈ kids.map (·.1)) (hs : slotOf rules r = some s) : holder rules kids s = some r := by
  obtain ⟨e, he, rfl⟩ := List.mem_map.1 hr
  exact holder_of_mem hwf he hs

theorem holder_eq_some_iff {rules : PRules} {kids : List (String × Cfg)} (hwf : WF rules kids) {s : Slot} {r : String}
    (hs : slotOf rules r = some s) : holder rules kids s = some r ↔ r ∈ kids.map (·.1) :=
  ⟨fun h => (holder_some h).1, fun h => holder_of_row hwf h hs⟩

theorem holder_none_iff {rules : PRules} {kids : List (String × Cfg)} {s : Slot} :
    holder rules kids s = none ↔ entryAt rules kids s = none := by
  rw [holder_entryAt]; simp

theorem entry_of_holder {rules : PRules} {kids : List (String × Cfg)} {s : Slot} {r : String}
    (h : holder rules kids s = some r) : ∃ c, entryAt rules kids s = some (r, c) := by
  rw [holder_entryAt] at h
  obtain ⟨⟨r', c⟩, he, rfl⟩ := Option.map_eq_some_iff.1 h
  exact ⟨c, he⟩

/-- a `put` keeps the entry if it has the same text, else starts a fresh line -/
def keepOrNew (c : String) : Option (String × Cfg) → String × Cfg
  | some (c', sub) => if c' = c then (c, sub) else (c, .mk [])
  | none => (c, .mk [])

theorem keepOrNew_fst (c : String) (x : Option (String × Cfg)) : (keepOrNew c x).1 = c := by
  cases x with
  | none => rfl
  | some e =>
    obtain ⟨c', sub⟩ := e
    simp only [keepOrNew]
    split <;> rfl

theorem keepOrNew_some (c : String) (e : String × Cfg) :
    keepOrNew c (some e) = if e.1 = c then e else (c, .mk []) := by
  obtain ⟨c', sub⟩ := e
  simp only [keepOrNew]
  split
  · next h => rw [h]
  · rfl

theorem putLine_eq_upsert (rules : PRules) (m : PMatch) (c : String) (kids : List (String × Cfg))
    (hwf : WF rules kids) (hc : slotOf rules c = some (m.rawRule, m.key)) :
    putLine rules m c kids = Keyed.upsert (fun e => slotOf rules e.1) (some (m.rawRule, m.key))
      (fun e => keepOrNew c (some e)) (c, .mk []) kids := by
  have hss : ∀ e : String × Cfg, sameSlot rules m e.1 = (slotOf rules e.1 == some (m.rawRule, m.key)) :=
    fun e => sameSlot_eq rules m e.1
  unfold putLine Keyed.upsert
  simp only [← hss]
  by_cases h1 : kids.any (fun e => e.1 == c) = true
  · obtain ⟨e0, he0, hec⟩ := List.any_eq_true.1 h1
    rw [beq_iff_eq] at hec
    have h0 : sameSlot rules m e0.1 = true := by rw [hss, hec, hc]; exact beq_self_eq_true _
    have huniq : ∀ e ∈ kids, sameSlot rules m e.1 = true → e = e0 := fun e he hs =>
      List.inj_of_nodup_map _ kids hwf.2 e he e0 he0 (by rw [hss, beq_iff_eq] at hs h0; rw [hs, h0])
    rw [if_pos h1, if_pos (List.any_eq_true.2 ⟨e0, he0, h0⟩)]
    rw [List.filter_eq_self.2 fun e he => by
      cases hs : sameSlot rules m e.1 with
      | false => simp
      | true => simp [huniq e he hs, hec]]
    conv => lhs; rw [← List.map_id kids]
    refine List.map_congr_left fun e he => ?_
    split
    · next hs => rw [huniq e he hs, keepOrNew_some, if_pos hec]; rfl
    · rfl
  · rw [if_neg h1]
    split
    · rcases rf_false_split rules m c kids with ⟨h, -⟩ | ⟨pre, x, rest, rfl, hpre, hx, heq⟩
      · rename_i h2
        obtain ⟨e, he, hs⟩ := List.any_eq_true.1 h2
        rw [h e he] at hs; cases hs
      · have hn := hwf.2
        simp only [List.map_append, List.map_cons] at hn
        have hrest : ∀ e ∈ rest, sameSlot rules m e.1 = false := fun e he => by
          cases hs : sameSlot rules m e.1 with
          | false => rfl
          | true =>
            rw [hss, beq_iff_eq] at hs hx
            exact ((List.nodup_cons.1 (List.nodup_append.1 hn).2.1).1
              (by rw [hx, ← hs]; exact List.mem_map_of_mem (f := fun e => slotOf rules e.1) he)).elim
        have hxc : x.1 ≠ c := fun h => h1 (List.any_eq_true.2 ⟨x, by simp, by simp [h]⟩)
        rw [heq, List.filter_eq_self.2 fun e he => by simp [hrest e he], List.map_append, List.map_cons]
        congr 1
        · conv => lhs; rw [← List.map_id pre]
          exact List.map_congr_left fun e he => by simp [hpre e he]
        · rw [if_pos hx, keepOrNew_some, if_neg hxc]
          congr 1
          conv => lhs; rw [← List.map_id rest]
          exact List.map_congr_left fun e he => by simp [hrest e he]
    · rfl

theorem putLine_entry (rules : PRules) (m : PMatch) (c : String) (kids : List (String × Cfg))
    (hwf : WF rules kids) (hc : slotOf rules c = some (m.rawRule, m.key)) :
    WF rules (putLine rules m c kids) ∧
    ∀ s, entryAt rules (putLine rules m c kids) s =
      if slotOf rules c = some s then some (keepOrNew c (entryAt rules kids s)) else entryAt rules kids s := by
  have hf : ∀ e : String × Cfg, slotOf rules e.1 = some (m.rawRule, m.key) →
      slotOf rules (keepOrNew c (some e)).1 = some (m.rawRule, m.key) := fun e _ => by rw [keepOrNew_fst, hc]
  rw [putLine_eq_upsert rules m c kids hwf hc]
  refine ⟨⟨fun e he => ?_, Keyed.nodup_upsert hf hc hwf.2⟩, fun s => ?_⟩
  · rcases Keyed.mem_upsert he with ⟨he, -⟩ | ⟨x, -, -, rfl⟩ | ⟨-, rfl⟩
    · exact hwf.1 e he
    · rw [keepOrNew_fst, hc]; rfl
    · rw [hc]; rfl
  · unfold entryAt
    rw [Keyed.find?_upsert hf hc (some s), hc]
    by_cases hs : some (m.rawRule, m.key) = some s
    · rw [if_pos (beq_iff_eq.2 hs.symm), if_pos hs, ← hs]
      cases kids.find? (fun e => slotOf rules e.1 == some (m.rawRule, m.key)) <;> rfl
    · rw [if_neg (mt beq_iff_eq.1 (Ne.symm hs)), if_neg hs]

theorem del_entry (rules : PRules) (m : PMatch) (kids : List (String × Cfg)) (hwf : WF rules kids) :
    WF rules (kids.filter fun e => !sameSlot rules m e.1) ∧
    entryAt rules (kids.filter fun e => !sameSlot rules m e.1) (m.rawRule, m.key) = none := by
  refine ⟨wf_filter _ hwf, ?_⟩
  simp only [entryAt, List.find?_filter]
  rw [List.find?_eq_none]
  intro e he
  rw [sameSlot_eq]
  simp

theorem exit_noop (env : Env) (rules : PRules) (c : String) (kids : List (String × Cfg))
    (h : env.exits.contains c = true) : execLeaf env rules c kids = kids := by
  unfold execLeaf
  rw [if_pos h]

theorem sameSlot_other {rules : PRules} {m : PMatch} {s : Slot} (hm : some (m.rawRule, m.key) ≠ some s)
    {e : String × Cfg} (he : (slotOf rules e.1 == some s) = true) : sameSlot rules m e.1 = false := by
  rw [sameSlot_eq, beq_iff_eq.1 he, beq_eq_false_iff_ne]
  exact fun h => hm h.symm

theorem putLine_filter_other (rules : PRules) (m : PMatch) (c : String) (s : Slot) (kids : List (String × Cfg))
    (hc : slotOf rules c ≠ some s) (hm : some (m.rawRule, m.key) ≠ some s) :
    (putLine rules m c kids).filter (fun e => slotOf rules e.1 == some s) =
      kids.filter (fun e => slotOf rules e.1 == some s) := by
  have hp : ∀ l : List (String × Cfg), (l.filter fun e => !sameSlot rules m e.1).filter (fun e => slotOf rules e.1 == some s) =
      l.filter (fun e => slotOf rules e.1 == some s) := fun l =>
    List.filter_filter_of_imp _ _ l fun e _ he => by rw [sameSlot_other hm he]; rfl
  have hcf : (slotOf rules c == some s) = false := beq_eq_false_iff_ne.2 hc
  unfold putLine
  split
  · exact List.filter_filter_of_imp _ _ kids fun e _ he => by rw [sameSlot_other hm he, Bool.not_false, Bool.or_true]
  · split
    · rcases rf_false_split rules m c kids with ⟨-, h⟩ | ⟨pre, x, rest, rfl, -, hx, heq⟩
      · rw [h]
      · have hxf : (slotOf rules x.1 == some s) = false := by
          cases hq : slotOf rules x.1 == some s with
          | false => rfl
          | true => rw [sameSlot_other hm hq] at hx; cases hx
        rw [heq]
        simp [List.filter_append, hcf, hxf, hp]
    · simp [List.filter_append, hcf]

/-- the abstract command the device reads a word as -/
def den (env : Env) (rules : PRules) (c : String) : Cmd :=
  if env.exits.contains c then .nop
  else match stripReverse env c with
    | some r' => if (slotOf rules r').isSome then .del r' else .put c
    | none => .put c

/-- what an abstract command does to a level -/
def run (rules : PRules) : Cmd → List (String × Cfg) → List (String × Cfg)
  | .nop, kids => kids
  | .del r, kids =>
    match classify rules r with
    | some (m, _) => kids.filter fun e => !sameSlot rules m e.1
    | none => kids
  | .put r, kids =>
    match classify rules r with
    | some (m, _) => putLine rules m r kids
    | none => kids

def cmdSlot (rules : PRules) : Cmd → Option Slot
  | .put r => slotOf rules r
  | .del r => slotOf rules r
  | .nop => none

def cmdAct : Cmd → Option (String × Cfg) → Option (String × Cfg)
  | .put r, x => some (keepOrNew r x)
  | .del _, _ => none
  | .nop, x => x

/-- the leaf executor reads the word (the only use of `env`), then acts -/
theorem execLeaf_eq_run (env : Env) (rules : PRules) (c : String) (kids : List (String × Cfg)) :
    execLeaf env rules c kids = run rules (den env rules c) kids := by
  unfold execLeaf den
  split
  · rfl
  · cases stripReverse env c with
    | none => rfl
    | some r' =>
      simp only [Option.bind_some, slotOf]
      rcases Option.eq_none_or_eq_some (classify rules r') with hcl | ⟨mc, hcl⟩
      · simp only [hcl, Option.map_none, Option.isSome_none, Bool.false_eq_true, if_false]; rfl
      · simp only [hcl, Option.map_some, Option.isSome_some, if_true, run]

theorem den_exit {env : Env} {rules : PRules} {c : String} (h : env.exits.contains c = true) : den env rules c = .nop :=
  if_pos h

theorem den_put {env : Env} {rules : PRules} {c : String} (hne : ¬ env.exits.contains c = true)
    (hnr : ((stripReverse env c).bind fun r' => slotOf rules r') = none) : den env rules c = .put c := by
  unfold den
  rw [if_neg hne]
  cases hs : stripReverse env c with
  | none => rfl
  | some r' =>
    rw [hs] at hnr
    exact if_neg (by rw [show slotOf rules r' = none from hnr]; nofun)

theorem den_of_denotes {env : Env} {rules : PRules} {c : String} {cmd : Cmd} (h : Denotes env rules c cmd) :
    den env rules c = cmd := by
  cases cmd with
  | nop => exact if_pos h
  | del r' =>
    obtain ⟨h1, h2, h3⟩ := h
    unfold den
    rw [if_neg h1, h2]
    exact if_pos h3
  | put r =>
    obtain ⟨h1, rfl, -, h4⟩ := h
    exact den_put h1 h4

/-- the three readings of a word -/
theorem den_cases (env : Env) (rules : PRules) (c : String) :
    den env rules c = .nop ∨ den env rules c = .put c ∨
      ∃ r', stripReverse env c = some r' ∧ den env rules c = .del r' := by
  unfold den
  split
  · exact .inl rfl
  · split
    · next r' hs =>
      split
      · exact .inr (.inr ⟨r', hs, rfl⟩)
      · exact .inr (.inl rfl)
    · exact .inr (.inl rfl)

/-- a command leaves the lines of every slot but its own as they are, on any level -/
theorem run_frame (rules : PRules) (cmd : Cmd) (s : Slot) (h : cmdSlot rules cmd ≠ some s) (kids : List (String × Cfg)) :
    (run rules cmd kids).filter (fun e => slotOf rules e.1 == some s) =
      kids.filter (fun e => slotOf rules e.1 == some s) := by
  cases cmd with
  | nop => rfl
  | del r =>
    have h : slotOf rules r ≠ some s := h
    simp only [run]
    split
    · next m cr hcl =>
      rw [slotOf_of_classify hcl] at h
      exact List.filter_filter_of_imp _ _ kids fun e _ he => by rw [sameSlot_other h he]; rfl
    · rfl
  | put r =>
    have h : slotOf rules r ≠ some s := h
    simp only [run]
    split
    · next m cr hcl => exact putLine_filter_other rules m r s kids h (by rwa [slotOf_of_classify hcl] at h)
    · rfl

theorem entryAt_of_filter_eq {rules : PRules} {s : Slot} {a b : List (String × Cfg)}
    (h : a.filter (fun e => slotOf rules e.1 == some s) = b.filter (fun e => slotOf rules e.1 == some s)) :
    entryAt rules a s = entryAt rules b s := by
  rw [entryAt, entryAt, ← List.head?_filter, h, List.head?_filter]

/-- on a well-formed level a command updates the entry of its slot -/
theorem run_entry (rules : PRules) (cmd : Cmd) (kids : List (String × Cfg)) (hwf : WF rules kids) :
    WF rules (run rules cmd kids) ∧ ∀ s, cmdSlot rules cmd = some s →
      entryAt rules (run rules cmd kids) s = cmdAct cmd (entryAt rules kids s) := by
  cases cmd with
  | nop => exact ⟨hwf, nofun⟩
  | del r =>
    simp only [run, cmdSlot, cmdAct]
    split
    · next m cr hcl =>
      obtain ⟨hw, he⟩ := del_entry rules m kids hwf
      exact ⟨hw, fun s hs => by rw [← Option.some.inj ((slotOf_of_classify hcl).symm.trans hs), he]⟩
    · next hcl => exact ⟨hwf, fun s hs => by simp [slotOf, hcl] at hs⟩
  | put r =>
    simp only [run, cmdSlot, cmdAct]
    split
    · next m cr hcl =>
      obtain ⟨hw, he⟩ := putLine_entry rules m r kids hwf (slotOf_of_classify hcl)
      exact ⟨hw, fun s hs => by rw [he s, if_pos hs]⟩
    · next hcl => exact ⟨hwf, fun s hs => by simp [slotOf, hcl] at hs⟩

theorem run_refines (rules : PRules) (cmd : Cmd) (kids : List (String × Cfg)) (hwf : WF rules kids) :
    WF rules (run rules cmd kids) ∧
    ∀ s, holder rules (run rules cmd kids) s = absStep rules (holder rules kids) cmd s := by
  obtain ⟨hw, he⟩ := run_entry rules cmd kids hwf
  refine ⟨hw, fun s => ?_⟩
  have hf := fun h => entryAt_of_filter_eq (run_frame rules cmd s h kids)
  rw [holder_entryAt]
  cases cmd with
  | nop => rfl
  | del r =>
    rw [absStep]
    split
    · next h => rw [he s h]; rfl
    · next h => rw [hf h]; rfl
  | put r =>
    rw [absStep]
    split
    · next h => rw [he s h]; exact congrArg some (keepOrNew_fst r _)
    · next h => rw [hf h]; rfl

set_option linter.unusedVariables false in
theorem put_keeps_same_line (env : Env) (rules : PRules) (c : String) (sub : Cfg) (kids : List (String × Cfg))
    (hwf : WF rules kids) (hc : (slotOf rules c).isSome) (hne : ¬ env.exits.contains c = true)
    (hnr : ((stripReverse env c).bind fun r' => slotOf rules r') = none) (hin : (c, sub) ∈ kids) :
    (c, sub) ∈ execLeaf env rules c kids := by
  obtain ⟨m, cr, hcl⟩ := slotOf_isSome.1 hc
  rw [execLeaf_eq_run, den_put hne hnr]
  simp only [run, hcl]
  unfold putLine
  have h1 : kids.any (fun e => e.1 == c) = true := List.any_eq_true.2 ⟨_, hin, by simp⟩
  rw [if_pos h1, List.mem_filter]
  exact ⟨hin, by simp⟩

theorem leaf_preserves_others' (env : Env) (rules : PRules) (c : String) (kids : List (String × Cfg)) (s : Slot)
    (hother : slotOf rules c ≠ some s)
    (hother' : ∀ r', stripReverse env c = some r' → slotOf rules r' ≠ some s) :
    (execLeaf env rules c kids).filter (fun e => slotOf rules e.1 == some s) =
      kids.filter (fun e => slotOf rules e.1 == some s) := by
  rw [execLeaf_eq_run]
  refine run_frame rules _ s ?_ kids
  rcases den_cases env rules c with h | h | ⟨r', hr, h⟩ <;> rw [h]
  · nofun
  · exact hother
  · exact hother' r' hr

set_option linter.unusedVariables false in
theorem leaf_preserves_others (env : Env) (rules : PRules) (c : String) (kids : List (String × Cfg)) (s : Slot)
    (hwf : WF rules kids)
    (hother : slotOf rules c ≠ some s)
    (hother' : ∀ r', stripReverse env c = some r' → slotOf rules r' ≠ some s) :
    (execLeaf env rules c kids).filter (fun e => slotOf rules e.1 == some s) =
      kids.filter (fun e => slotOf rules e.1 == some s) :=
  leaf_preserves_others' env rules c kids s hother hother'


theorem execLeaf_removal_other (env : Env) (rules : PRules) (c r' : String) (kids : List (String × Cfg)) (s s' : Slot)
    (hr : stripReverse env c = some r') (hs' : slotOf rules r' = some s') (hne : s' ≠ s) :
    (execLeaf env rules c kids).filter (fun e => slotOf rules e.1 == some s) =
      kids.filter (fun e => slotOf rules e.1 == some s) := by
  rw [execLeaf_eq_run]
  refine run_frame rules _ s ?_ kids
  unfold den
  split
  · nofun
  · simp only [hr, hs', Option.isSome_some, if_true, cmdSlot]
    exact fun h => hne (Option.some.inj h)

theorem isRewriteCmd_eq_false {rules : PRules}
    (h : ∀ {row : String} {m : PMatch} {cr : PRules}, classify rules row = some (m, cr) → m.attrs.logic ≠ "common.rewrite")
    (c : String) : isRewriteCmd rules c = false := by
  unfold isRewriteCmd
  split
  · rename_i m cr hcl
    exact beq_eq_false_iff_ne.2 (h hcl)
  · rfl

theorem applyCmds_words {rules : PRules} (h : ∀ c, isRewriteCmd rules c = false) (env : Env) (cs : List String)
    (dev : Cfg) :
    applyCmds env rules (cs.map fun c => [c]) dev = .mk (cs.foldl (fun k c => execLeaf env rules c k) dev.kids) := by
  unfold applyCmds
  congr 1
  generalize dev.kids = kids
  suffices h' : ∀ kids, (cs.map fun c => [c]).foldl
      (fun (st : List (String × Cfg) × Visited) p => execPath env p rules [] st.2 st.1) (kids, []) =
      (cs.foldl (fun k c => execLeaf env rules c k) kids, []) by rw [h']
  induction cs with
  | nil => intro kids; rfl
  | cons c rest ih =>
    intro kids
    simp only [List.map_cons, List.foldl_cons, execPath, h, Bool.false_and, Bool.false_eq_true, if_false]
    exact ih _

theorem same_map_perm (rules : PRules) (a b : List (String × Cfg)) (ha : WF rules a) (hb : WF rules b)
    (h : ∀ s, holder rules a s = holder rules b s) : (a.map (·.1)).Perm (b.map (·.1)) := by
  have sub : ∀ a b : List (String × Cfg), WF rules a → WF rules b →
      (∀ s, holder rules a s = holder rules b s) → ∀ r, r ∈ a.map (·.1) → r ∈ b.map (·.1) := by
    intro a b ha hb h r hr
    obtain ⟨e, he, rfl⟩ := List.mem_map.1 hr
    obtain ⟨s, hs⟩ := Option.isSome_iff_exists.1 (ha.1 e he)
    have h2 := holder_of_mem ha he hs
    rw [h] at h2
    exact (holder_some h2).1
  exact (List.perm_ext_iff_of_nodup (rows_nodup ha) (rows_nodup hb)).2
    fun r => ⟨sub a b ha hb h r, sub b a hb ha (fun s => (h s).symm) r⟩

theorem cmds_refine (env : Env) (rules : PRules) (cs : List (String × Cmd)) (kids : List (String × Cfg))
    (hwf : WF rules kids) (hd : ∀ p ∈ cs, Denotes env rules p.1 p.2) :
    WF rules (cs.foldl (fun k p => execLeaf env rules p.1 k) kids) ∧
    ∀ s, holder rules (cs.foldl (fun k p => execLeaf env rules p.1 k) kids) s =
         (cs.foldl (fun f p => absStep rules f p.2) (holder rules kids)) s := by
  induction cs generalizing kids with
  | nil => exact ⟨hwf, fun _ => rfl⟩
  | cons p rest ih =>
    have step := run_refines rules (den env rules p.1) kids hwf
    rw [← execLeaf_eq_run, den_of_denotes (hd p List.mem_cons_self)] at step
    have := ih (execLeaf env rules p.1 kids) step.1 fun q hq => hd q (List.mem_cons_of_mem _ hq)
    refine ⟨this.1, fun s => ?_⟩
    rw [List.foldl_cons, List.foldl_cons, this.2 s, funext step.2]

/-! a line that is already there: a command for it, and a command that leaves its slot alone, keep it the first line with
its text -/

theorem find_of_filter_eq {rules : PRules} {r : String} {s : Slot} (hr : slotOf rules r = some s)
    {l l' : List (String × Cfg)}
    (h : l.filter (fun e => slotOf rules e.1 == some s) = l'.filter (fun e => slotOf rules e.1 == some s)) :
    l.find? (fun e => e.1 == r) = l'.find? (fun e => e.1 == r) := by
  have key : ∀ l : List (String × Cfg),
      (l.filter (fun e => slotOf rules e.1 == some s)).find? (fun e => e.1 == r) = l.find? (fun e => e.1 == r) := by
    intro l
    apply List.find?_filter_of_imp
    intro x _ hx
    rw [beq_iff_eq.1 hx, hr]
    exact beq_self_eq_true _
  rw [← key l, ← key l', h]

theorem putLine_find_self (rules : PRules) (m : PMatch) (r : String) (kids : List (String × Cfg))
    (e0 : String × Cfg) (h : kids.find? (fun e => e.1 == r) = some e0) :
    (putLine rules m r kids).find? (fun e => e.1 == r) = some e0 := by
  unfold putLine
  have hany : kids.any (fun e => e.1 == r) = true :=
    List.any_eq_true.2 ⟨e0, List.mem_of_find?_eq_some h, List.find?_some (p := fun e : String × Cfg => e.1 == r) h⟩
  rw [if_pos hany, List.find?_filter_of_imp _ _ kids, h]
  intro x _ hx
  rw [hx, Bool.true_or]

theorem execLeaf_find_self (env : Env) (rules : PRules) (r : String) (m : PMatch) (cr : PRules)
    (kids : List (String × Cfg)) (e0 : String × Cfg) (hcl : classify rules r = some (m, cr))
    (hnr : (stripReverse env r).bind (slotOf rules) ≠ some (m.rawRule, m.key))
    (h : kids.find? (fun e => e.1 == r) = some e0) :
    (execLeaf env rules r kids).find? (fun e => e.1 == r) = some e0 := by
  rw [execLeaf_eq_run]
  rcases den_cases env rules r with hd | hd | ⟨r', hr, hd⟩ <;> rw [hd]
  · exact h
  · simp only [run, hcl]
    exact putLine_find_self rules m r kids e0 h
  · rw [find_of_filter_eq (slotOf_of_classify hcl) (run_frame rules _ _ (fun hs => hnr (by rw [hr]; exact hs)) kids), h]

end Annet.Device.Lemmas

namespace Annet.Converge.Lemmas
open Annet Annet.Rules Annet.Device Annet.Device.Abs Annet.Device.Lemmas Annet.Converge Annet.Patch

theorem den_line {v : Vendor} {env : Env} {rules : PRules} (hc : CmdsOK v env rules) {c : String}
    (h : (slotOf rules c).isSome) : den env rules c = .put c :=
  den_put (hc.line c h).1 (hc.line c h).2

theorem den_removal {v : Vendor} {env : Env} {rules : PRules} (hc : CmdsOK v env rules) {row c : String}
    {m : PMatch} {cr : PRules} (hcl : classify rules row = some (m, cr))
    (hrev : reverseCmd v m.attrs m.key = some c) :
    ∃ r', den env rules c = .del r' ∧ slotOf rules r' = some (m.rawRule, m.key) := by
  obtain ⟨h1, r', h2, h3⟩ := hc.removal row m cr hcl c hrev
  exact ⟨r', den_of_denotes (cmd := .del r') ⟨h1, h2, by simp [h3]⟩, h3⟩

theorem kids_mk (l : List (String × Cfg)) : (Cfg.mk l).kids = l := rfl

theorem flatPaths_eq (t : PTree) : flatPaths t = (t.items.map (·.1)).map (fun c => [c]) := by
  simp [flatPaths]

end Annet.Converge.Lemmas
