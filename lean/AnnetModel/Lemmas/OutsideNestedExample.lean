/-
The nested theorem of C02 clause (b) on a closed instance (kernel evaluation), over the rulebook of
Lemmas/ConvergeNestedRulebook.lean.  Depth 2: `description uplink` below the covered block `interface a` is covered by no
ACL rule and stays although `new` lacks it; depth 3: `ip 1` below the uncovered block `sub 1`; top level: `sysname foo`.
-/
import AnnetModel.Lemmas.OutsideNested
import AnnetModel.Lemmas.ConvergeNestedRulebook

namespace Annet.AclDiff.OutsideNested
open Annet Annet.Rules Annet.Diff Annet.Device Annet.Device.Abs Annet.ConvergeNested
open Annet.AclDiff.OutsideFlat

namespace Example
open Annet.ConvergeNested.Example (rules v env nestedRules cmdsOKAll)

-- the rulebook of Lemmas/ConvergeNestedRulebook.lean: `interface *` { `sub *` { `ip` }, `mtu`, `description` }, `sysname`
-- (vendor: negation word `undo`, exit word `quit`)

def av : Acl.Vendor := { reverse := "undo" }

def acl : Acl.Rules :=
  Acl.compileAcl [[.mk "interface *" false false [false] 0 ["gen"] [.mk "mtu" false false [false] 0 ["gen"] []]]]

def old : Cfg := .mk [
  ("interface a", .mk [("mtu 1500", .mk []), ("description uplink", .mk []), ("sub 1", .mk [("ip 1", .mk [])])]),
  ("sysname foo", .mk [])]

def new : Cfg := .mk [
  ("interface a", .mk [("mtu 9000", .mk []), ("sub 1", .mk [("ip 2", .mk [])])]),
  ("sysname bar", .mk [])]

def p : List String := ["interface a"]
def s : Slot := ("description", [])

def p3 : List String := ["interface a", "sub 1"]
def s3 : Slot := ("ip", [])

def exRes : Api.Result :=
  match deviceModeAcl Patch.runLogic v av acl rules [] old new with
  | .ok r => r
  | .error _ => ⟨[], .mk []⟩

/-- one evaluation of the pipeline for all the example reads off the run.  `Outside` at depth 2: the entry `interface a`
addresses the slot of the block, is the line itself and does not remove it, and no child addresses `description`; at
depth 3 no entry below `interface a` addresses the slot of `sub 1`, so nothing is asked below. -/
theorem run_evaluated :
    Except.isOk (deviceModeAcl Patch.runLogic v av acl rules [] old new) = true ∧
    (exRes.diff.map (fun e => (e.row, e.op, e.children.map fun c => (c.row, c.op))) =
        [("interface a", .affected, [("mtu 9000", .added), ("mtu 1500", .removed)])] ∧
      exRes.patch.items.map (fun it => (it.1, it.2.1.map fun t => t.items.map (·.1))) =
        [("interface a", some ["undo mtu", "mtu 9000"])]) ∧
    Outside env rules exRes.diff p s ∧
    Outside env rules exRes.diff p3 s3 ∧
    Outside env rules exRes.diff [] ("sysname", []) ∧
    ¬ Outside env rules exRes.diff p ("mtu", []) ∧
    (applyTree env rules exRes.patch old.kids).map
        (fun e => (e.1, e.2.kids.map fun c => (c.1, c.2.kids.map (·.1)))) =
      [("interface a", [("description uplink", []), ("sub 1", ["ip 1"]), ("mtu 9000", [])]), ("sysname foo", [])] := by
  decide +kernel

theorem level_evaluated :
    UniquePath rules p ∧ UniquePath rules p3 ∧
    ((slotLinesAt rules old.kids p s).map (·.map (·.1)) = some ["description uplink"] ∧
      (slotLinesAt rules new.kids p s).map (·.map (·.1)) = some []) ∧
    (rulesAt rules p).bind (fun cr => slotOf cr "description uplink") = some s ∧
    (rulesAt rules p3).bind (fun cr => slotOf cr "ip 1") = some s3 ∧
    (old.kids.filter (fun e => slotOf rules e.1 == some ("sysname", []))).map (·.1) = ["sysname foo"] := by
  decide +kernel

theorem res_ok : deviceModeAcl Patch.runLogic v av acl rules [] old new = .ok exRes := by
  have h := run_evaluated.1
  -- `rw`, not `unfold`: checking the cast that `unfold` leaves, the kernel evaluates the run once more
  rw [exRes]
  cases hr : deviceModeAcl Patch.runLogic v av acl rules [] old new with
  | ok r => rfl
  | error e => rw [hr] at h; cases h

/-- the diff and the patch are not trivial -/
theorem diff_shape : exRes.diff.map (fun e => (e.row, e.op, e.children.map fun c => (c.row, c.op))) =
      [("interface a", .affected, [("mtu 9000", .added), ("mtu 1500", .removed)])] ∧
    exRes.patch.items.map (fun it => (it.1, it.2.1.map fun t => t.items.map (·.1))) =
      [("interface a", some ["undo mtu", "mtu 9000"])] :=
  run_evaluated.2.1

theorem outside_nested_nil_instance :
    ((applyTree env rules exRes.patch old.kids).filter (fun e => slotOf rules e.1 == some ("sysname", []))).map (·.1) =
      ["sysname foo"] := by
  have hok : PathOK v env rules [] ("sysname", []) := pathOK_of_nested nestedRules cmdsOKAll trivial
  have := outside_nested res_ok hok run_evaluated.2.2.2.2.1 old _ rfl
  rw [Option.some.inj this]
  exact level_evaluated.2.2.2.2.2

-- From here on the elaborator must not unfold `Outside` and `PathOK`: elaborating a term against an expected type
-- headed by one of them at a non-empty path would put that type in weak head normal form, running `classify`.
attribute [local irreducible] Outside PathOK

theorem diff_outside : Outside env rules exRes.diff p s := run_evaluated.2.2.1

theorem pathOK : PathOK v env rules p s := pathOK_of_nested nestedRules cmdsOKAll level_evaluated.1

theorem outside_nested_instance :
    ∃ res, deviceModeAcl Patch.runLogic v av acl rules [] old new = .ok res ∧
      (slotLinesAt rules (applyTree env rules res.patch old.kids) p s).map (·.map (·.1)) =
        some ["description uplink"] := by
  refine ⟨exRes, res_ok, ?_⟩
  have hline := level_evaluated.2.2.1.1
  obtain ⟨ls, hls, -⟩ := Option.map_eq_some_iff.1 hline
  rw [outside_nested res_ok pathOK diff_outside old ls hls, ← hls]
  exact hline

theorem outside_subtree_instance :
    subtreeAt (applyTree env rules exRes.patch old.kids) ["interface a", "description uplink"] = some (.mk []) :=
  outside_subtree res_ok pathOK diff_outside level_evaluated.2.2.2.1 old (.mk []) rfl

/-- the hypothesis is not vacuous the other way: for the covered child slot `mtu` it fails, as it must (`mtu 1500` is
replaced) … -/
example : ¬ Outside env rules exRes.diff p ("mtu", []) := run_evaluated.2.2.2.2.2.1

/-- … and with an ACL that also covers `description` it fails for `s` (`description uplink` is removed then) -/
example :
    let acl' : Acl.Rules := Acl.compileAcl [[.mk "interface *" false false [false] 0 ["gen"]
      [.mk "mtu" false false [false] 0 ["gen"] [], .mk "description" false false [false] 0 ["gen"] []]]]
    ∀ res, deviceModeAcl Patch.runLogic v av acl' rules [] old new = .ok res → ¬ Outside env rules res.diff p s := by
  intro acl' res h
  have h' : (match deviceModeAcl Patch.runLogic v av acl' rules [] old new with
      | .ok r => decide (Outside env rules r.diff p s)
      | .error _ => false) = false := by decide +kernel
  rw [h] at h'
  simpa using h'

/-- depth 3, the early exit of `Outside`: `ip 1` below the uncovered block `sub 1` stays although `new` says `ip 2` -/
theorem outside_subtree_instance3 :
    subtreeAt (applyTree env rules exRes.patch old.kids) ["interface a", "sub 1", "ip 1"] = some (.mk []) :=
  outside_subtree res_ok (pathOK_of_nested nestedRules cmdsOKAll level_evaluated.2.1) run_evaluated.2.2.2.1
    level_evaluated.2.2.2.2.1 old (.mk []) rfl

/-- the whole device after the patch -/
example : (applyTree env rules exRes.patch old.kids).map (fun e => (e.1, e.2.kids.map fun c => (c.1, c.2.kids.map (·.1)))) =
    [("interface a", [("description uplink", []), ("sub 1", ["ip 1"]), ("mtu 9000", [])]), ("sysname foo", [])] :=
  run_evaluated.2.2.2.2.2.2

end Example

end Annet.AclDiff.OutsideNested
