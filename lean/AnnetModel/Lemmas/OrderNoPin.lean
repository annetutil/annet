/-
`get_order` on ordering rulebooks without `%order_reverse` at any depth (`NoPin`, the side condition of C01): no rule of
the top level pins a removal (`noPin_top`), and the rules `get_order` hands to the block of a command are again without
pin (`getOrder_noPin`).
-/
import AnnetModel.Spec.Converge
import AnnetModel.Lemmas.Basic
import AnnetModel.Lemmas.GetOrder

namespace Annet.ConvergeNested.Lemmas
open Annet Annet.Rules Annet.Patch Annet.Converge Annet.Converge.Lemmas

theorem noPin_iff : ∀ {l : List ORule}, NoPin l ↔ ∀ r ∈ l, NoPinRule r
  | [] => by rw [NoPin]; simp
  | r :: rest => by rw [NoPin, noPin_iff (l := rest)]; simp

theorem _root_.Annet.Converge.Lemmas.noPin_top (rb : List ORule) (h : NoPin rb) (r : ORule) (hr : r ∈ rb) :
    r.orderReverse = false := by
  have := noPin_iff.1 h r hr
  obtain ⟨a, b, orev, c, d, ch⟩ := r
  rw [NoPinRule] at this
  exact this.1

theorem noPinRule_children {r : ORule} (h : NoPinRule r) : NoPin r.children := by
  obtain ⟨a, b, orev, c, d, ch⟩ := r
  rw [NoPinRule] at h
  exact h.2

theorem dedupLast_mem (l : List ORule) : ∀ x ∈ dedupLast l, x ∈ l := by
  have fold : ∀ (l acc : List ORule) (x : ORule),
      x ∈ l.foldl (fun acc r => Keyed.upsert (·.rawRule) r.rawRule (fun _ => r) r acc) acc → x ∈ acc ∨ x ∈ l := by
    intro l
    induction l with
    | nil => exact fun acc x hx => .inl hx
    | cons r rest ih =>
      intro acc x hx
      rcases ih _ x hx with h | h
      · rcases Keyed.mem_upsert h with ⟨h, -⟩ | ⟨_, -, -, rfl⟩ | ⟨-, rfl⟩
        · exact .inl h
        · exact .inr List.mem_cons_self
        · exact .inr List.mem_cons_self
      · exact .inr (List.mem_cons_of_mem _ h)
  exact fun x hx => (fold l [] x hx).resolve_left nofun

theorem getOrder_noPin (v : Vendor) (rb : List ORule) (row : String) (dir : Bool) (sc : Option String) (o : OrderRes)
    (hrb : NoPin rb) (h : getOrder v rb row dir sc = some o) : NoPin o.children := by
  obtain ⟨st, hst, rfl⟩ := getOrder_inv (fun st => ∀ x ∈ st.children, NoPinRule x) (fun r hr i st st' hs hd x hx => by
    rcases (getOrderStep_inv hs).1 x hx with hx | rfl | hx
    · exact hd x hx
    · exact noPin_iff.1 hrb _ hr
    · exact noPin_iff.1 (noPinRule_children (noPin_iff.1 hrb r hr)) x hx) nofun h
  exact noPin_iff.2 fun x hx => hst x (dedupLast_mem _ x hx)

end Annet.ConvergeNested.Lemmas
