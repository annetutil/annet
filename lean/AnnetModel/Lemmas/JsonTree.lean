/-
Documents read through pointers: the `Json` dict operations through `Assoc`, array indices (`str(i)`
against the RFC 6901 index syntax), `getP` step by step (`child`), and the two path updates of
`apply_json_fragment` (`_ensure_pointer_exists` + `pointer.set`, and `to_last` + `pop`) against their
reference versions `setO` / `popO`, whose laws are `UpdAt`.
-/
import AnnetModel.Spec.Json
import AnnetModel.Lemmas.Assoc

namespace Annet.Json.Lemmas
open Annet.Json

theorem lookup_eq (k : String) (l : List (String × J)) : lookup k l = Assoc.lookup k l := by
  induction l with
  | nil => rfl
  | cons a l ih => simp only [lookup, Assoc.lookup, ih]

theorem upsert_eq (k : String) (v : J) (l : List (String × J)) : upsert k v l = Assoc.upsert k v l := by
  induction l with
  | nil => rfl
  | cons a l ih => simp only [upsert, Assoc.upsert, ih]

theorem erase_eq (k : String) (l : List (String × J)) : erase k l = Assoc.erase k l := by
  induction l with
  | nil => rfl
  | cons a l ih => simp only [erase, Assoc.erase, ih]

theorem wfKvs_iff (l : List (String × J)) :
    J.wfKvs l = true ↔ (Assoc.keys l).Nodup ∧ ∀ kv ∈ l, kv.2.wf = true := by
  induction l with
  | nil => simp [J.wfKvs, Assoc.keys]
  | cons a l ih =>
    simp only [J.wfKvs, Bool.and_eq_true, Option.isNone_iff_eq_none, lookup_eq, Assoc.lookup_eq_none_iff, ih,
      Assoc.keys, List.map_cons, List.nodup_cons, List.forall_mem_cons]
    exact ⟨fun h => ⟨⟨h.1.1, h.2.1⟩, h.1.2, h.2.2⟩, fun h => ⟨⟨h.1.1, h.2.1⟩, h.1.2, h.2.2⟩⟩

theorem lookup_upsert_self (k : String) (v : J) (l : List (String × J)) :
    lookup k (upsert k v l) = some v := by
  rw [lookup_eq, upsert_eq, Assoc.lookup_upsert, if_pos rfl]

theorem lookup_upsert_ne (k k' : String) (v : J) (l : List (String × J)) (h : k ≠ k') :
    lookup k' (upsert k v l) = lookup k' l := by
  rw [lookup_eq, upsert_eq, Assoc.lookup_upsert, if_neg h, lookup_eq]

theorem upsert_of_lookup (k : String) (v : J) (l : List (String × J)) (h : lookup k l = some v) :
    upsert k v l = l := by
  rw [upsert_eq, Assoc.upsert_of_lookup (lookup_eq k l ▸ h)]

theorem upsert_upsert (k : String) (a b : J) (l : List (String × J)) :
    upsert k a (upsert k b l) = upsert k a l := by
  simp only [upsert_eq, Assoc.upsert_upsert]

theorem lookup_erase_ne (k k' : String) (l : List (String × J)) (h : k ≠ k') :
    lookup k' (erase k l) = lookup k' l := by
  rw [lookup_eq, erase_eq, Assoc.lookup_erase_ne h, lookup_eq]

theorem erase_of_lookup_none (k : String) (l : List (String × J)) (h : lookup k l = none) :
    erase k l = l := by
  rw [erase_eq, Assoc.erase_of_lookup_none (lookup_eq k l ▸ h)]

theorem lookup_erase_self (k : String) (l : List (String × J)) (hw : J.wfKvs l = true) :
    lookup k (erase k l) = none := by
  rw [lookup_eq, erase_eq, Assoc.lookup_erase_self k ((wfKvs_iff l).1 hw).1]

theorem wfKvs_upsert (k : String) (v : J) (l : List (String × J)) (hl : J.wfKvs l = true)
    (hv : v.wf = true) : J.wfKvs (upsert k v l) = true := by
  rw [wfKvs_iff] at hl ⊢
  rw [upsert_eq]
  exact ⟨Assoc.nodup_upsert k v hl.1, fun kv h => (Assoc.mem_upsert h).elim (hl.2 kv) (· ▸ hv)⟩

theorem wfKvs_erase (k : String) (l : List (String × J)) (hl : J.wfKvs l = true) :
    J.wfKvs (erase k l) = true := by
  rw [wfKvs_iff] at hl ⊢
  rw [erase_eq]
  exact ⟨Assoc.nodup_erase k hl.1, fun kv h => hl.2 kv ((Assoc.erase_sublist k l).subset h)⟩

theorem mem_of_lookup (k : String) (v : J) (l : List (String × J)) (h : lookup k l = some v) :
    (k, v) ∈ l :=
  Assoc.mem_of_lookup (lookup_eq k l ▸ h)

theorem lookup_of_mem (k : String) (v : J) (l : List (String × J)) (hl : J.wfKvs l = true)
    (h : (k, v) ∈ l) : lookup k l = some v := by
  rw [lookup_eq, Assoc.lookup_of_mem ((wfKvs_iff l).1 hl).1 h]

theorem wf_of_lookup (k : String) (l : List (String × J)) (c : J) (hl : J.wfKvs l = true)
    (h : lookup k l = some c) : c.wf = true :=
  ((wfKvs_iff l).1 hl).2 _ (mem_of_lookup k c l h)

theorem wfList_getElem (xs : List J) (i : Nat) (c : J) (hx : J.wfList xs = true) (h : xs[i]? = some c) :
    c.wf = true := by
  induction xs generalizing i with
  | nil => simp at h
  | cons x rest ih =>
    simp only [J.wfList, Bool.and_eq_true] at hx
    cases i with
    | zero => simp at h; subst h; exact hx.1
    | succ n => simp at h; exact ih n hx.2 h

/-- the characters from the digit of `lo` to `'9'` are the digits of the values `lo`–`9` -/
theorem digit_iff (c : Char) (lo : Nat) (hlo : lo < 10) :
    (lo.digitChar ≤ c ∧ c ≤ '9') ↔ ∃ n, lo ≤ n ∧ n < 10 ∧ c = n.digitChar := by
  rw [Char.le_def, Char.le_def, UInt32.le_iff_toNat_le, UInt32.le_iff_toNat_le]
  show lo.digitChar.toNat ≤ c.toNat ∧ c.toNat ≤ 57 ↔ _
  rw [Nat.toNat_digitChar_of_lt_ten hlo]
  constructor
  · intro h
    refine ⟨c.toNat - 48, by omega, by omega, Char.toNat_inj.mp ?_⟩
    rw [Nat.toNat_digitChar_of_lt_ten (by omega)]
    omega
  · rintro ⟨n, h1, h2, rfl⟩
    rw [Nat.toNat_digitChar_of_lt_ten h2]
    omega

/-- a canonical decimal numeral: first digit `1`–`9`, then digits -/
def Canon (c : Char) (cs : List Char) : Prop :=
  '1' ≤ c ∧ c ≤ '9' ∧ ∀ d ∈ cs, '0' ≤ d ∧ d ≤ '9'

/-- `_RE_ARRAY_INDEX` and `int`: `0`, or a canonical numeral read in base ten -/
theorem parseIndexL_eq_some (l : List Char) (i : Nat) :
    parseIndexL l = some i ↔
      (l = ['0'] ∧ i = 0) ∨ ∃ c cs, l = c :: cs ∧ Canon c cs ∧ i = Nat.ofDigitChars 10 l 0 := by
  unfold parseIndexL Canon
  split
  · simp
  · simp [eq_comm]
  · rename_i c cs hne
    simp only [List.all_eq_true, decide_eq_true_eq]
    constructor
    · intro h
      split at h <;> cases h
      exact .inr ⟨c, cs, rfl, ‹_›, rfl⟩
    · rintro (⟨h, _⟩ | ⟨_, _, h, hc, rfl⟩)
      · cases h
        exact absurd rfl (hne rfl)
      · cases h
        rw [if_pos hc]
        rfl

theorem toDigits_ofDigitChars (cs : List Char) (hcs : ∀ d ∈ cs, '0' ≤ d ∧ d ≤ '9') (m : Nat)
    (hm : 0 < m) : Nat.toDigits 10 (Nat.ofDigitChars 10 cs m) = Nat.toDigits 10 m ++ cs := by
  induction cs generalizing m with
  | nil => simp
  | cons d cs ih =>
    obtain ⟨n, -, hn, rfl⟩ := (digit_iff d 0 (by decide)).1 (hcs d (by simp))
    rw [Nat.ofDigitChars_cons_digitChar_of_lt_ten hn, ih (fun x hx => hcs x (by simp [hx])) _ (by omega),
      ← Nat.toDigits_append_toDigits (by decide) hm hn, Nat.toDigits_of_lt_base hn]
    simp

/-- `str(n)` for `n > 0` is a canonical numeral -/
theorem canon_toDigits (n : Nat) (hn : 0 < n) : ∃ c cs, Nat.toDigits 10 n = c :: cs ∧ Canon c cs := by
  induction n using Nat.base_induction 10 (by decide) with
  | single m hm =>
    obtain ⟨h1, h9⟩ := (digit_iff _ 1 (by decide)).2 ⟨m, hn, hm, rfl⟩
    exact ⟨m.digitChar, [], Nat.toDigits_of_lt_base hm, h1, h9, nofun⟩
  | digit m k hk hm ih =>
    obtain ⟨c, cs, e, h1, h9, hcs⟩ := ih hm
    refine ⟨c, cs ++ [k.digitChar], ?_, h1, h9, fun d hd => ?_⟩
    · rw [← Nat.toDigits_append_toDigits (by decide) hm hk, e, Nat.toDigits_of_lt_base hk]
      rfl
    · rcases List.mem_append.1 hd with hd | hd
      · exact hcs d hd
      · exact (digit_iff d 0 (by decide)).2 ⟨k, k.zero_le, hk, List.mem_singleton.1 hd⟩

/-- `str(i)` passes `_RE_ARRAY_INDEX` and `int` reads `i` back; `int(part)` of a part that passes prints back as
that part -/
theorem parseIndexL_eq_some_iff (l : List Char) (i : Nat) : parseIndexL l = some i ↔ l = Nat.toDigits 10 i := by
  rw [parseIndexL_eq_some]
  constructor
  · rintro (⟨rfl, rfl⟩ | ⟨c, cs, rfl, ⟨h1, h9, hcs⟩, rfl⟩)
    · rfl
    · obtain ⟨k, hk, hk', rfl⟩ := (digit_iff c 1 (by decide)).1 ⟨h1, h9⟩
      rw [Nat.ofDigitChars_cons_digitChar_of_lt_ten hk', Nat.mul_zero, Nat.zero_add,
        toDigits_ofDigitChars cs hcs k hk, Nat.toDigits_of_lt_base hk']
      rfl
  · rintro rfl
    by_cases hi : i = 0
    · exact .inl ⟨hi ▸ rfl, hi⟩
    · obtain ⟨c, cs, e, hc⟩ := canon_toDigits i (by omega)
      exact .inr ⟨c, cs, e, hc, Nat.ofDigitChars_ten_toDigits.symm⟩

theorem parseIndex_eq_some_iff (k : String) (i : Nat) : parseIndex k = some i ↔ k = idxKey i := by
  rw [parseIndex, parseIndexL_eq_some_iff, idxKey, Nat.toString_eq_repr, Nat.repr_eq_ofList_toDigits]
  exact ⟨fun h => by rw [← h, String.ofList_toList], fun h => by rw [h, String.toList_ofList]⟩

/-- one step of `getP`: the member of an object, the element of an array at a canonical index -/
def child (k : String) : J → Option J
  | .obj kvs => lookup k kvs
  | .arr xs => (parseIndex k).bind (xs[·]?)
  | _ => none

theorem getP_nil (d : J) : getP [] d = some d := by simp [getP]

theorem getP_cons (k : String) (rest : Ptr) (d : J) :
    getP (k :: rest) d = (child k d).bind (getP rest) := by
  cases d with
  | obj kvs => simp only [getP, child]; cases lookup k kvs <;> rfl
  | arr xs =>
    simp only [getP, child]
    cases parseIndex k with
    | none => rfl
    | some i => simp only [Option.bind]; cases xs[i]? <;> rfl
  | _ => rfl

theorem getP_append (a b : Ptr) (d : J) : getP (a ++ b) d = (getP a d).bind (getP b) := by
  induction a generalizing d with
  | nil => rfl
  | cons k rest ih =>
    rw [List.cons_append, getP_cons, getP_cons, Option.bind_assoc]
    exact congrArg _ (funext ih)

theorem wf_child (k : String) (d c : J) (hd : d.wf = true) (h : child k d = some c) : c.wf = true := by
  cases d with
  | obj kvs => exact wf_of_lookup k kvs c hd h
  | arr xs =>
    obtain ⟨i, _, hx⟩ := Option.bind_eq_some_iff.mp h
    exact wfList_getElem xs i c hd hx
  | _ => cases h

theorem wf_of_getP (q : Ptr) (d v : J) (hd : d.wf = true) (h : getP q d = some v) : v.wf = true := by
  induction q generalizing d with
  | nil => cases h; exact hd
  | cons k rest ih =>
    rw [getP_cons] at h
    obtain ⟨c, hc, h⟩ := Option.bind_eq_some_iff.mp h
    exact ih c (wf_child k d c hd hc) h

theorem walk_of_child (k : String) (d c : J) (h : child k d = some c) : walk d k = .ok c := by
  cases d with
  | obj kvs => simp only [walk, show lookup k kvs = some c from h]
  | arr xs =>
    obtain ⟨i, hp, hx⟩ := Option.bind_eq_some_iff.mp h
    have hk : k ≠ "-" := fun e => by
      rw [e, show parseIndex "-" = none by decide] at hp
      cases hp
    simp only [walk, hk, if_false, hp, hx]
  | _ => cases h

theorem getPtr_of_getP (q : Ptr) (d v : J) (h : getP q d = some v) : getPtr q d = .ok v := by
  induction q generalizing d with
  | nil => cases h; rfl
  | cons k rest ih =>
    rw [getP_cons] at h
    obtain ⟨c, hc, h⟩ := Option.bind_eq_some_iff.mp h
    simp only [getPtr, walk_of_child k d c hc]
    exact ih c h

theorem Div_symm : ∀ (a b : Ptr), Div a b → Div b a
  | [], _, h => by cases h
  | _ :: _, [], h => by cases h
  | a :: as, b :: bs, h => by
    rcases h with h | h
    · exact Or.inl (fun e => h e.symm)
    · exact Or.inr (Div_symm as bs h)

theorem Div_append_right : ∀ (a b c : Ptr), Div a b → Div a (b ++ c)
  | [], _, _, h => by cases h
  | _ :: _, [], _, h => by cases h
  | a :: as, b :: bs, c, h => by
    rcases h with h | h
    · exact Or.inl h
    · exact Or.inr (Div_append_right as bs c h)

theorem Div_append_left (a b c : Ptr) (h : Div a b) : Div (a ++ c) b :=
  Div_symm _ _ (Div_append_right b a c (Div_symm _ _ h))

theorem trichotomy : ∀ (a b : Ptr), Div a b ∨ (∃ c, b = a ++ c) ∨ (∃ c, c ≠ [] ∧ a = b ++ c)
  | [], b => Or.inr (Or.inl ⟨b, rfl⟩)
  | a :: as, [] => Or.inr (Or.inr ⟨a :: as, by simp, rfl⟩)
  | a :: as, b :: bs => by
    by_cases h : a = b
    · subst h
      rcases trichotomy as bs with h | ⟨c, h⟩ | ⟨c, hc, h⟩
      · exact Or.inl (Or.inr h)
      · exact Or.inr (Or.inl ⟨c, by simp [h]⟩)
      · exact Or.inr (Or.inr ⟨c, hc, by simp [h]⟩)
    · exact Or.inl (Or.inl h)

theorem Div_of_length_eq : ∀ (a b : Ptr), a.length = b.length → a ≠ b → Div a b := by
  intro a b hl hne
  rcases trichotomy a b with h | ⟨c, rfl⟩ | ⟨c, hc, rfl⟩
  · exact h
  · exact absurd (by simpa using hl) hne
  · exact absurd (by simpa using hl) hc

/-- every proper prefix of `q` is an object in `d` -/
def ObjPath (q : Ptr) (d : J) : Prop := ∀ a c, q = a ++ c → c ≠ [] → ObjAt a d

/-- `r'` is `r` updated at `q` to `x` (`none`: removed).  `noop` is equality of documents, key order
included (what idempotence needs); `above` is what the next removal needs. -/
structure UpdAt (q : Ptr) (x : Option J) (r r' : J) : Prop where
  self : getP q r' = x
  div : ∀ q', Div q q' → getP q' r' = getP q' r
  above : ObjPath q r'
  noop : getP q r = x → r' = r
  wf : r.wf = true → (∀ v, x = some v → v.wf = true) → r'.wf = true

theorem getP_singleton (k : String) (d : J) : getP [k] d = child k d := by
  rw [getP_cons]
  exact Option.bind_fun_some _

theorem UpdAt.key {k : String} {x : Option J} {kvs kvs' : List (String × J)} (hs : lookup k kvs' = x)
    (hne : ∀ b, k ≠ b → lookup b kvs' = lookup b kvs) (hno : lookup k kvs = x → kvs' = kvs)
    (hwf : J.wfKvs kvs = true → (∀ v, x = some v → v.wf = true) → J.wfKvs kvs' = true) :
    UpdAt [k] x (.obj kvs) (.obj kvs') where
  self := (getP_singleton k _).trans hs
  div := fun q' hd => by
    cases q' with
    | nil => cases hd
    | cons b bs => simp only [getP_cons, child, hne b (hd.resolve_right (by cases bs <;> exact id))]
  above := fun a c hq hc => by
    cases a with
    | nil => exact ⟨_, rfl⟩
    | cons _ a => cases a <;> cases c <;> simp at hq hc
  noop := fun h => by rw [hno ((getP_singleton k _).symm.trans h)]
  wf := hwf

/-- an update below the member `k` of an object; on the way to setting a value a missing member is
created as `{}` -/
theorem UpdAt.cons {k : String} {rest : Ptr} {x : Option J} {kvs : List (String × J)} {c c' : J}
    (hl : lookup k kvs = some c ∨ lookup k kvs = none ∧ c = .obj [] ∧ x ≠ none)
    (h : UpdAt rest x c c') : UpdAt (k :: rest) x (.obj kvs) (.obj (upsert k c' kvs)) where
  self := by rw [getP_cons, child, lookup_upsert_self]; exact h.self
  div := fun q' hd => by
    cases q' with
    | nil => cases hd
    | cons b bs =>
      simp only [getP_cons, child]
      by_cases hkb : k = b
      · subst hkb
        have hd' : Div rest bs := hd.resolve_left (· rfl)
        rw [lookup_upsert_self, Option.bind_some, h.div bs hd']
        rcases hl with hl | ⟨hl, rfl, _⟩
        · rw [hl, Option.bind_some]
        · cases bs with
          | nil => cases rest <;> cases hd'
          | cons _ _ => rw [hl]; rfl
      · rw [lookup_upsert_ne k b c' kvs hkb]
  above := fun a p hq hp => by
    cases a with
    | nil => exact ⟨_, rfl⟩
    | cons b a =>
      cases hq
      obtain ⟨o, ho⟩ := h.above a p rfl hp
      exact ⟨o, by rw [getP_cons, child, lookup_upsert_self]; exact ho⟩
  noop := fun hx => by
    rw [getP_cons, child] at hx
    rcases hl with hl | ⟨hl, _, hne⟩
    · rw [hl] at hx
      rw [h.noop hx, upsert_of_lookup k c kvs hl]
    · rw [hl] at hx
      exact absurd hx.symm hne
  wf := fun hw hv => wfKvs_upsert k c' kvs hw <| h.wf
    (hl.elim (wf_of_lookup k kvs c hw) fun h => h.2.1 ▸ rfl) hv

theorem admits_empty (q : Ptr) : Admits q (J.obj []) := by
  cases q with
  | nil => trivial
  | cons k rest =>
    cases rest with
    | nil => simp [Admits, J.isObj]
    | cons k2 r => simp [Admits, lookup]

theorem admits_obj (q : Ptr) (d : J) (hq : q ≠ []) (ha : Admits q d) : ∃ kvs, d = .obj kvs := by
  cases q with
  | nil => exact absurd rfl hq
  | cons k rest =>
    cases rest with
    | nil => cases d <;> simp [Admits, J.isObj] at ha; exact ⟨_, rfl⟩
    | cons k2 r => cases d <;> simp only [Admits] at ha; exact ⟨_, rfl⟩

theorem admits_child (k : String) (rest : Ptr) (kvs : List (String × J)) (c : J)
    (ha : Admits (k :: rest) (.obj kvs)) (hl : lookup k kvs = some c) (hr : rest ≠ []) : Admits rest c := by
  cases rest with
  | nil => exact absurd rfl hr
  | cons k2 r => simp only [Admits, hl] at ha; exact ha

theorem updAt_setO (q : Ptr) (v d : J) (ha : Admits q d) (hq : q ≠ []) : UpdAt q (some v) d (setO q v d) := by
  induction q generalizing d with
  | nil => exact absurd rfl hq
  | cons k rest ih =>
    obtain ⟨kvs, rfl⟩ := admits_obj (k :: rest) d (by simp) ha
    cases rest with
    | nil =>
      exact .key (lookup_upsert_self k v _) (fun b => lookup_upsert_ne k b v _) (upsert_of_lookup k v kvs)
        fun hw hv => wfKvs_upsert k v _ hw (hv v rfl)
    | cons k2 r =>
      simp only [setO]
      cases hl : lookup k kvs with
      | none => exact .cons (.inr ⟨hl, rfl, nofun⟩) (ih _ (admits_empty _) (by simp))
      | some c => exact .cons (.inl hl) (ih c (admits_child k _ kvs c ha hl (by simp)) (by simp))

/-- `_ensure_pointer_exists` followed by `pointer.set` is `setO` whenever the ancestors the
document has are objects -/
theorem setPtr_ensure (q : Ptr) (v d : J) (ha : Admits q d) (hq : q ≠ []) :
    setPtr q v (ensure q d) = .ok (setO q v d) := by
  induction q generalizing d with
  | nil => exact absurd rfl hq
  | cons k rest ih =>
    obtain ⟨kvs, rfl⟩ := admits_obj (k :: rest) d (by simp) ha
    cases rest with
    | nil => simp [setPtr, ensure, atParent, setLast, setO]
    | cons k2 r =>
      have hstep : ∀ (c0 : J), Admits (k2 :: r) c0 →
          setPtr (k :: k2 :: r) v (.obj (upsert k (ensure (k2 :: r) c0) kvs))
            = .ok (.obj (upsert k (setO (k2 :: r) v c0) kvs)) := by
        intro c0 hc0
        have := ih c0 hc0 (by simp)
        simp only [setPtr] at this
        simp only [setPtr, atParent, lookup_upsert_self, this]
        simp [bind, Except.bind, upsert_upsert]
      simp only [ensure, setO]
      cases hl : lookup k kvs with
      | none => exact hstep (J.obj []) (admits_empty _)
      | some c =>
        have hc := admits_child k (k2 :: r) kvs c ha hl (by simp)
        obtain ⟨kvs', rfl⟩ := admits_obj (k2 :: r) c (by simp) hc
        exact hstep _ hc

theorem objPath_root (k : String) (rest : Ptr) (d : J) (h : ObjPath (k :: rest) d) : ∃ dk, d = .obj dk := by
  obtain ⟨dk, hd⟩ := h [] (k :: rest) rfl (by simp)
  simp only [getP, Option.some.injEq] at hd
  exact ⟨dk, hd⟩

theorem objPath_child (k k2 : String) (rest : Ptr) (dk : List (String × J)) (h : ObjPath (k :: k2 :: rest) (.obj dk)) :
    ∃ dc, lookup k dk = some dc ∧ ObjPath (k2 :: rest) dc := by
  obtain ⟨kvs', h1⟩ := h [k] (k2 :: rest) rfl (by simp)
  simp only [getP] at h1
  cases hl : lookup k dk with
  | none => simp [hl] at h1
  | some dc =>
    refine ⟨dc, rfl, ?_⟩
    intro a c hq hc
    obtain ⟨kvs2, h2⟩ := h (k :: a) c (by simp [hq]) hc
    exact ⟨kvs2, by simpa [getP, hl] using h2⟩

/-- Spec's recursive `PopOk` is the pointwise `ObjPath` the proofs use -/
theorem popOk_iff_objPath (q : Ptr) (d : J) : PopOk q d ↔ ObjPath q d := by
  induction q generalizing d with
  | nil => exact ⟨fun _ a c hq hc => absurd (List.append_eq_nil_iff.1 hq.symm).2 hc, fun _ => trivial⟩
  | cons k rest ih =>
    constructor
    · intro h a c hq hc
      obtain ⟨kvs, rfl⟩ : ∃ kvs, d = .obj kvs := by
        cases rest with
        | nil => cases d <;> simp [PopOk, J.isObj] at h; exact ⟨_, rfl⟩
        | cons k2 r => cases d <;> simp only [PopOk] at h; exact ⟨_, rfl⟩
      cases a with
      | nil => exact ⟨kvs, rfl⟩
      | cons b a =>
        obtain ⟨rfl, hr⟩ := List.cons.inj hq
        cases rest with
        | nil => exact absurd (List.append_eq_nil_iff.1 hr.symm).2 hc
        | cons k2 r =>
          simp only [PopOk] at h
          cases hl : lookup k kvs with
          | none => simp [hl] at h
          | some ch =>
            obtain ⟨o, ho⟩ := (ih ch).1 (by simpa only [hl] using h) a c hr hc
            exact ⟨o, by rw [getP_cons, child, hl]; exact ho⟩
    · intro h
      obtain ⟨kvs, rfl⟩ := objPath_root k rest d h
      cases rest with
      | nil => rfl
      | cons k2 r =>
        obtain ⟨c, hl, hc⟩ := objPath_child k k2 r kvs h
        simp only [PopOk, hl]
        exact (ih c).2 hc

theorem updAt_popO (q : Ptr) (d : J) (ha : ObjPath q d) (hq : q ≠ []) (hw : d.wf = true) :
    UpdAt q none d (popO q d) := by
  induction q generalizing d with
  | nil => exact absurd rfl hq
  | cons k rest ih =>
    obtain ⟨kvs, rfl⟩ := objPath_root k rest d ha
    cases rest with
    | nil =>
      exact .key (lookup_erase_self k kvs hw) (fun b => lookup_erase_ne k b kvs) (erase_of_lookup_none k kvs)
        fun hw _ => wfKvs_erase k kvs hw
    | cons k2 r =>
      obtain ⟨c, hl, hc⟩ := objPath_child k k2 r kvs ha
      simp only [popO, hl]
      exact .cons (.inl hl) (ih c hc (by simp) (wf_of_lookup k kvs c hw hl))

/-- jsontools.py:40-42 on an object path -/
theorem popPtr_eq (q : Ptr) (d : J) (ha : ObjPath q d) : popPtr q d = .ok (popO q d) := by
  induction q generalizing d with
  | nil => simp [popPtr, atParent, popO]
  | cons k rest ih =>
    obtain ⟨kvs, rfl⟩ := objPath_root k rest d ha
    cases rest with
    | nil => simp [popPtr, atParent, popLast, popO]
    | cons k2 r =>
      obtain ⟨c, hl, hc⟩ := objPath_child k k2 r kvs ha
      have := ih c hc
      simp only [popPtr] at this
      simp only [popPtr, atParent, hl, this, popO]
      simp [bind, Except.bind]

end Annet.Json.Lemmas
