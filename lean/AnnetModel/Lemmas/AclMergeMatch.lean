/-
One row against a well-formed plain dictionary without negation-word rows, when the row is not in negated form: the rules
handed to the children denote the paths that follow a matching rule row, the union (`InD`) of the children of all matching
rules (`passRow_plain`).
-/
import AnnetModel.Lemmas.AclMergeDict
import AnnetModel.Lemmas.AclMatch

namespace Annet.Acl.Lemmas
open Annet Annet.Acl Annet.Acl.Spec Annet.Pattern Annet.Offside

theorem selFold_spec : ∀ (ms : List Match) (acc : List Rule × List Rule),
    (∀ m ∈ ms, m.crAllowed = true ∧ WFRule m.rule) → acc.2 = [] → WFRules acc.1 →
    (ms.foldl selStep acc).2 = [] ∧ WFRules (ms.foldl selStep acc).1 ∧
    ∀ p, InD (ms.foldl selStep acc).1 p ↔
      (InD acc.1 p ∨ ∃ m ∈ ms, ∃ c g, m.rule.children = some (c, g) ∧ InD c p) := by
  intro ms
  induction ms with
  | nil => intro acc _ h2 h1; exact ⟨h2, h1, fun p => by simp⟩
  | cons m ms ih =>
    intro acc hall h2 h1
    obtain ⟨hcr, hwf⟩ := hall m (List.mem_cons_self ..)
    obtain ⟨_, _, cl, hch, wcl⟩ := hwf.inv
    have hstep : selStep acc m = (mergeDicts acc.1 cl, []) := by
      unfold selStep
      rw [hcr, hch, h2]
      simp [mergeDicts_nil_left]
    obtain ⟨mw, mD⟩ := mergeDicts_spec h1 wcl
    rw [List.foldl_cons, hstep]
    obtain ⟨i1, i2, i3⟩ := ih (mergeDicts acc.1 cl, []) (fun m' hm' => hall m' (List.mem_cons_of_mem _ hm')) rfl mw
    refine ⟨i1, i2, fun p => ?_⟩
    rw [i3 p, mD p]
    constructor
    · rintro ((h | h) | ⟨m', hm', c, g, hc, hp⟩)
      · exact .inl h
      · exact .inr ⟨m, List.mem_cons_self .., cl, [], hch, h⟩
      · exact .inr ⟨m', List.mem_cons_of_mem _ hm', c, g, hc, hp⟩
    · rintro (h | ⟨m', hm', c, g, hc, hp⟩)
      · exact .inl (.inl h)
      · rcases List.mem_cons.1 hm' with rfl | hm'
        · rw [hch] at hc
          simp only [Option.some.injEq, Prod.mk.injEq] at hc
          obtain ⟨rfl, rfl⟩ := hc
          exact .inl (.inr hp)
        · exact .inr ⟨m', hm', c, g, hc, hp⟩

theorem selectMatch_plain (f : Match) (tl : List Match) (R : Rules) (hg : R.glob = [])
    (hall : ∀ m ∈ f :: tl, m.crAllowed = true ∧ WFRule m.rule) :
    ∃ cr, selectMatch (f :: tl) R = some (f, cr) ∧ cr.glob = [] ∧ WFRules cr.loc ∧
      ∀ p, InD cr.loc p ↔ (p = [] ∨ ∃ m ∈ f :: tl, ∃ c g, m.rule.children = some (c, g) ∧ InD c p) := by
  obtain ⟨hcr, hwf⟩ := hall f (List.mem_cons_self ..)
  obtain ⟨s1, s2, s3⟩ := selFold_spec (f :: tl) ([], []) hall rfl wfRules_nil
  refine ⟨⟨((f :: tl).foldl selStep ([], [])).1, []⟩, ?_, rfl, s2, fun p => ?_⟩
  · rw [selectMatch_eq]
    simp only [hwf.inv.2.1, Bool.false_eq_true, if_false, hcr, if_true, hg]
    rw [s1, mergeDicts_nil_left]
  · rw [s3 p, inD_nil_iff]

/-- plain compiled rules without negation-word rows, at every depth -/
def GoodRules (v : Vendor) (R : Rules) : Prop :=
  R.glob = [] ∧ WFRules R.loc ∧
  ∀ p, InD R.loc p → ∀ r ∈ p, (v.reverse ++ " ").toList.isPrefixOf r.toList = false

/-- `passRow` sees a good dictionary only through its set of paths: the row passes iff some matching rule row is a path,
and the children get the paths that follow a matching rule row. -/
theorem passRow_plain (v : Vendor) (hw : plainWord v.reverse.toList = true) (row : String)
    (hrow : negForm v row = false) (R : Rules) (hR : GoodRules v R) (hs : (findMatches v row R).isSome = true) :
    (passRow v R row = none ∧ ¬ ∃ r, dmatch v row r ∧ InD R.loc [r]) ∨
    (∃ cr, passRow v R row = some cr ∧ (∃ r, dmatch v row r ∧ InD R.loc [r]) ∧ GoodRules v cr ∧
      ∀ p, InD cr.loc p ↔ (p = [] ∨ ∃ r, dmatch v row r ∧ InD R.loc (r :: p))) := by
  obtain ⟨hg, hwf, hneg⟩ := hR
  have hwfx : ∀ x ∈ R.loc, WFRule x := (wfList_iff _).1 hwf.1
  have top : ∀ x ∈ R.loc, InD R.loc [x.row] := fun x hx =>
    (hwfx x hx).inv.2.2.elim fun c hc => ⟨x, hx, rfl, c, [], hc.1, trivial⟩
  obtain ⟨ms, hfm⟩ := Option.isSome_iff_exists.1 hs
  obtain ⟨f1, f2⟩ := findMatches_plain v hw row hrow R hg
    (fun x hx => hneg _ (top x hx) _ (List.mem_singleton.2 rfl)) ms hfm
  unfold passRow matchRowToAcl
  rw [hfm]
  cases ms with
  | nil =>
    refine .inl ⟨rfl, ?_⟩
    rintro ⟨_, hd, x, hx, rfl, _⟩
    obtain ⟨m, hm, _⟩ := f2 x hx hd
    cases hm
  | cons f tl =>
    have hall : ∀ m ∈ f :: tl, m.crAllowed = true ∧ WFRule m.rule := by
      intro m hm
      obtain ⟨_, a2, a3, _⟩ := f1 m hm
      have := hwfx _ a3
      exact ⟨by rw [a2, this.inv.2.1]; rfl, this⟩
    obtain ⟨cr, hsel, c1, c2, c3⟩ := selectMatch_plain f tl R hg hall
    obtain ⟨b1, _, b3, b4⟩ := f1 f (List.mem_cons_self ..)
    have hD : ∀ p, InD cr.loc p ↔ (p = [] ∨ ∃ r, dmatch v row r ∧ InD R.loc (r :: p)) := by
      intro p
      rw [c3 p]
      refine or_congr_right ⟨?_, ?_⟩
      · rintro ⟨m, hm, c, g, hc, hp⟩
        obtain ⟨_, _, a3, a4⟩ := f1 m hm
        exact ⟨_, a4, m.rule, a3, rfl, c, g, hc, hp⟩
      · rintro ⟨_, hd, x, hx, rfl, c, g, hc, hp⟩
        obtain ⟨m, hm, rfl⟩ := f2 x hx hd
        exact ⟨m, hm, c, g, hc, hp⟩
    refine .inr ⟨cr, by simp [hsel, b1], ⟨_, b4, top _ b3⟩, ⟨c1, c2, fun p hp r hr => ?_⟩, hD⟩
    rcases (hD p).1 hp with rfl | ⟨r0, _, h⟩
    · cases hr
    · exact hneg _ h r (List.mem_cons_of_mem _ hr)

end Annet.Acl.Lemmas
