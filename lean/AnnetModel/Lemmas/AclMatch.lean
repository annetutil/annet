/-
`_find_acl_matches` and `_select_match` in closed form: `findMatches` as two `mapM`s of `oneMatch` (`findMatches_eq`),
`selectMatch` as a fold of `selStep` (`selectMatch_eq`); and for a row that is not in negated form against rules without
negation-word rows, the matches are exactly the direct matches (`findMatches_plain`).
-/
import AnnetModel.Lemmas.Acl
import AnnetModel.Lemmas.AclMergeRev

namespace Annet.Acl.Lemmas
open Annet Annet.Acl Annet.Acl.Spec Annet.Pattern Annet.Offside

/-- the row as the matcher sees it -/
def rowN (v : Vendor) (row : String) : String := if v.juniper then junActivate row else row

/-- a rule with row `r` matches the configuration row in direct form (`directPat` reads the rule's row only) -/
def dmatch (v : Vendor) (row r : String) : Prop :=
  ∃ p, parseRow false r.toList = some p ∧ (p.match? (rowN v row).toList).isSome = true

/-- the body of the `mapM`s of `findMatches` -/
def oneMatch (v : Vendor) (row : String) (rev : Bool) (rg : Rule × Bool) : Option (List Match) := do
  let (r, isGlobal) := rg
  let p ← if rev then reversePat v r else directPat r
  match p.match? (rowN v row).toList with
  | none => pure []
  | some _ =>
    pure [{ rule := r, crAllowed := !isGlobal && !rev && !r.ignore, isReverse := rev, prio := r.prio,
            shared := sharedChars row.toList (patternSource p) }]

theorem findMatches_eq (v : Vendor) (row : String) (rules : Rules) :
    findMatches v row rules =
      (do let d ← (rules.loc.map (·, false) ++ rules.glob.map (·, true)).mapM (oneMatch v row false)
          let r ← (rules.loc.map (·, false) ++ rules.glob.map (·, true)).mapM (oneMatch v row true)
          pure (sortStable (d.flatten ++ r.flatten))) := rfl

theorem oneMatch_direct {v : Vendor} {row : String} {x : Rule} {ys : List Match}
    (h : oneMatch v row false (x, false) = some ys) :
    (∀ m ∈ ys, m.rule = x ∧ m.isReverse = false ∧ m.crAllowed = !x.ignore ∧ dmatch v row x.row) ∧
    (dmatch v row x.row → ∃ m ∈ ys, m.rule = x) := by
  unfold oneMatch at h
  simp only [Bool.false_eq_true, if_false, Option.bind_eq_bind, Option.bind_eq_some_iff] at h
  obtain ⟨p, hp, h⟩ := h
  cases hm : p.match? (rowN v row).toList with
  | none =>
    rw [hm] at h
    simp only [Option.pure_def, Option.some.injEq] at h
    subst h
    refine ⟨by simp, ?_⟩
    rintro ⟨p', hp', hm'⟩
    cases hp.symm.trans hp'
    rw [hm] at hm'; cases hm'
  | some k =>
    rw [hm] at h
    simp only [Option.pure_def, Option.some.injEq] at h
    subst h
    have hd : dmatch v row x.row := ⟨p, hp, by rw [hm]; rfl⟩
    constructor
    · intro m hmem
      simp only [List.mem_singleton] at hmem
      subst hmem
      exact ⟨rfl, rfl, by simp, hd⟩
    · intro _
      exact ⟨_, List.mem_singleton.2 rfl, rfl⟩

theorem oneMatch_reverse {v : Vendor} (hw : plainWord v.reverse.toList = true) {row : String}
    (hrow : negForm v row = false) {x : Rule}
    (hn : (v.reverse ++ " ").toList.isPrefixOf x.row.toList = false) {ys : List Match}
    (h : oneMatch v row true (x, false) = some ys) : ys = [] := by
  unfold oneMatch at h
  simp only [if_true, Option.bind_eq_bind, Option.bind_eq_some_iff] at h
  obtain ⟨p, hp, h⟩ := h
  cases hm : p.match? (rowN v row).toList with
  | none =>
    rw [hm] at h
    simp only [Option.pure_def, Option.some.injEq] at h
    exact h.symm
  | some k =>
    exfalso
    obtain ⟨c, rest, hs, hc⟩ := reversePat_match v hw x hn p hp _ (by rw [hm]; rfl)
    unfold negForm at hrow
    rw [← rowN, hs] at hrow
    simp only at hrow
    rw [hc] at hrow; cases hrow

theorem findMatches_plain (v : Vendor) (hw : plainWord v.reverse.toList = true) (row : String)
    (hrow : negForm v row = false) (R : Rules) (hg : R.glob = [])
    (hn : ∀ x ∈ R.loc, (v.reverse ++ " ").toList.isPrefixOf x.row.toList = false)
    (ms : List Match) (h : findMatches v row R = some ms) :
    (∀ m ∈ ms, m.isReverse = false ∧ m.crAllowed = !m.rule.ignore ∧ m.rule ∈ R.loc ∧ dmatch v row m.rule.row) ∧
    (∀ x ∈ R.loc, dmatch v row x.row → ∃ m ∈ ms, m.rule = x) := by
  rw [findMatches_eq, hg] at h
  simp only [List.map_nil, List.append_nil, Option.bind_eq_bind, Option.bind_eq_some_iff,
    Option.pure_def, Option.some.injEq] at h
  obtain ⟨d, hd, r, hr, rfl⟩ := h
  obtain ⟨d1, d2⟩ := List.mem_mapM_some hd
  obtain ⟨r1, _⟩ := List.mem_mapM_some hr
  have hrnil : r.flatten = [] := by
    rw [List.flatten_eq_nil_iff]
    intro ys hys
    obtain ⟨xg, hxg, hf⟩ := r1 ys hys
    obtain ⟨x, hx, rfl⟩ := List.mem_map.1 hxg
    exact oneMatch_reverse hw hrow (hn x hx) hf
  rw [hrnil, List.append_nil]
  constructor
  · intro m hm
    rw [mem_sortStable, List.mem_flatten] at hm
    obtain ⟨ys, hys, hmy⟩ := hm
    obtain ⟨xg, hxg, hf⟩ := d1 ys hys
    obtain ⟨x, hx, rfl⟩ := List.mem_map.1 hxg
    obtain ⟨o1, o2, o3, o4⟩ := (oneMatch_direct hf).1 m hmy
    subst o1
    exact ⟨o2, o3, hx, o4⟩
  · intro x hx hdm
    obtain ⟨ys, hys, hf⟩ := d2 (x, false) (List.mem_map.2 ⟨x, hx, rfl⟩)
    obtain ⟨m, hm, hmr⟩ := (oneMatch_direct hf).2 hdm
    exact ⟨m, by rw [mem_sortStable, List.mem_flatten]; exact ⟨ys, hys, hm⟩, hmr⟩

def selStep (acc : List Rule × List Rule) (m : Match) : List Rule × List Rule :=
  if m.crAllowed then
    match m.rule.children with
    | some (cl, cg) => (mergeDicts acc.1 cl, mergeDicts acc.2 cg)
    | none => acc
  else acc

theorem selectMatch_eq (f : Match) (tl : List Match) (R : Rules) :
    selectMatch (f :: tl) R =
      if f.rule.ignore then none else
      some (f, ⟨(if f.crAllowed then (f :: tl).foldl selStep ([], []) else ([], [])).1,
                mergeDicts (if f.crAllowed then (f :: tl).foldl selStep ([], []) else ([], [])).2 R.glob⟩) := by
  rfl

end Annet.Acl.Lemmas
