/-
`collapse_diffs`: the groups partition the devices, all members of a group have the same text, neighbouring groups differ
in text.
-/
import AnnetModel.Model.Collapse
import AnnetModel.Lemmas.GroupRuns

namespace Annet.Collapse

theorem insertSorted_perm {δ : Type} (x : Entry δ) (l : List (Entry δ)) : (insertSorted x l).Perm (x :: l) := by
  induction l with
  | nil => exact List.Perm.refl _
  | cons y ys ih =>
    simp only [insertSorted]
    split
    · exact (List.Perm.cons y ih).trans (List.Perm.swap x y ys)
    · exact List.Perm.refl _

theorem sortEntries_perm {δ : Type} (es : List (Entry δ)) : (sortEntries es).Perm es := by
  induction es with
  | nil => exact List.Perm.refl _
  | cons x xs ih =>
    have : sortEntries (x :: xs) = insertSorted x (sortEntries xs) := rfl
    rw [this]
    exact (insertSorted_perm x _).trans (List.Perm.cons x ih)

/-- `itertools.groupby` is modelled twice; this one is `Deploy.groupRuns` keyed by the text -/
theorem groupRuns_eq {δ : Type} (l : List (Entry δ)) : groupRuns l = Deploy.groupRuns Entry.key l := by
  induction l with
  | nil => rfl
  | cons x xs ih =>
    rw [groupRuns, Deploy.groupRuns, ih]
    rcases Deploy.groupRuns Entry.key xs with _ | ⟨_ | _, _⟩ <;> rfl

theorem groupRuns_ne_nil {δ : Type} (l : List (Entry δ)) : ∀ g ∈ groupRuns l, g ≠ [] :=
  groupRuns_eq l ▸ Deploy.Lemmas.groupRuns_nonempty _ l

theorem groupRuns_flatten {δ : Type} (l : List (Entry δ)) : (groupRuns l).flatten = l :=
  groupRuns_eq l ▸ Deploy.Lemmas.groupRuns_flatten _ l

theorem groupRuns_same_key {δ : Type} (l : List (Entry δ)) :
    ∀ g ∈ groupRuns l, ∀ x ∈ g, ∀ y ∈ g, x.key = y.key :=
  groupRuns_eq l ▸ Deploy.Lemmas.groupRuns_same_key _ l

theorem groupRuns_maximal {δ : Type} (l : List (Entry δ)) :
    ∀ i a b, (groupRuns l)[i]? = some a → (groupRuns l)[i + 1]? = some b →
      ∀ x ∈ a.getLast?, ∀ y ∈ b.head?, x.key ≠ y.key := fun i a b ha hb x hx y hy =>
  beq_eq_false_iff_ne.1
    (Deploy.Lemmas.groupRuns_maximal Entry.key l i a b (groupRuns_eq l ▸ ha) (groupRuns_eq l ▸ hb) x hx y hy)

theorem groups_perm {δ : Type} (es : List (Entry δ)) : (groups es).flatten.Perm es := by
  unfold groups
  rw [groupRuns_flatten]
  exact sortEntries_perm es

theorem groups_same_key {δ : Type} (es : List (Entry δ)) :
    ∀ g ∈ groups es, ∀ x ∈ g, ∀ y ∈ g, x.key = y.key :=
  groupRuns_same_key (sortEntries es)

theorem collapse_devs {δ : Type} (es : List (Entry δ)) :
    (collapse es).flatMap (·.1) = (groups es).flatten.map (·.dev) := by
  have hL : ∀ g ∈ groups es, g ≠ [] := groupRuns_ne_nil (sortEntries es)
  unfold collapse
  generalize groups es = L at hL ⊢
  induction L with
  | nil => rfl
  | cons g gs ih =>
    have ih' := ih (fun g' hg' => hL g' (List.mem_cons_of_mem _ hg'))
    cases g with
    | nil => exact absurd rfl (hL [] List.mem_cons_self)
    | cons x t => simp only [List.filterMap_cons, List.flatMap_cons, List.flatten_cons, List.map_append, ih']

end Annet.Collapse
