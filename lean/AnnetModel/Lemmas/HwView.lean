/-
C18, the hardware view of a model string: attribute access (`foldlM_getattr`), `parse_hw_model` (`parseHw_spec`: the
closed form of `HwTree` at the dict `get_db` computes, which at the keys of the database is `allowed`),
hierarchy (`hierarchy_attr`), no `AttributeError` (`no_attribute_error`).
-/
import AnnetModel.Lemmas.HwTree

namespace Annet.Hw.Lemmas
open Annet.Hw

variable {α : Type} [DecidableEq α] {ρ : Type} [DecidableEq ρ]

/-- the path is in one of the two sets a `HardwareLeaf` carries -/
def Known (h : HwSets α) (p : List α) : Prop := p ∈ h.trueS ∨ p ∈ h.falseS

instance (h : HwSets α) (p : List α) : Decidable (Known h p) := by unfold Known; infer_instance

/-- all attribute look-ups on the way to `path` succeed -/
def AllKnown (h : HwSets α) (path : List α) : Prop := ∀ q ∈ seqSubs path, Known h q

instance (h : HwSets α) (path : List α) : Decidable (AllKnown h path) := by unfold AllKnown; infer_instance

theorem foldlM_getattr (h : HwSets α) : ∀ (xs acc : List α),
    xs.foldlM (leafGetattr h) acc =
      if ∀ q ∈ seqSubs xs, Known h (acc ++ q) then some (acc ++ xs) else none
  | [], acc => by simp [seqSubs]
  | x :: xs, acc => by
    by_cases hk : acc ++ [x] ∈ h.trueS ∨ acc ++ [x] ∈ h.falseS <;>
      simp [leafGetattr, seqSubs, foldlM_getattr h xs (acc ++ [x]), hk, Known]

/-- **`hw.match(path)` in closed form**; `none` is `AttributeError`, and `hw` itself (the empty path) is true. -/
theorem hwMatchPath_eq (h : HwSets α) (path : List α) :
    hwMatchPath h path = if AllKnown h path then some (decide (path = [] ∨ path ∈ h.trueS)) else none := by
  by_cases hall : AllKnown h path
  · simp only [hwMatchPath, foldlM_getattr, List.nil_append, if_pos hall,
      if_pos (show ∀ q ∈ seqSubs path, Known h q from hall)]
    by_cases hp : path = []
    · simp [leafBool, hp]
    · rcases hall path (self_mem_seqSubs hp) with ht | hf
      · simp [leafBool, ht]
      · by_cases ht : path ∈ h.trueS <;> simp [leafBool, ht, hf, hp]
  · simp only [hwMatchPath, foldlM_getattr, List.nil_append, if_neg hall,
      if_neg (show ¬ ∀ q ∈ seqSubs path, Known h q from hall)]

theorem hwMatchPath_true {h : HwSets α} {path : List α} (hne : path ≠ []) :
    hwMatchPath h path = some true ↔ AllKnown h path ∧ path ∈ h.trueS := by
  rw [hwMatchPath_eq]
  split <;> simp [*]

theorem hwMatchPath_ne_none {h : HwSets α} {path : List α} :
    hwMatchPath h path ≠ none ↔ AllKnown h path := by
  rw [hwMatchPath_eq]
  split <;> simp [*]

theorem hwMatchPath_congr {h h' : HwSets α} (ht : ∀ p, p ∈ h.trueS ↔ p ∈ h'.trueS)
    (hf : ∀ p, p ∈ h.falseS ↔ p ∈ h'.falseS) (path : List α) :
    hwMatchPath h path = hwMatchPath h' path := by
  have hk : AllKnown h path ↔ AllKnown h' path := by simp only [AllKnown, Known, ht, hf]
  rw [hwMatchPath_eq, hwMatchPath_eq]
  by_cases hall : AllKnown h path
  · simp only [if_pos hall, if_pos (hk.1 hall), ht]
  · rw [if_neg hall, if_neg (mt hk.2 hall)]

theorem parseHw_total {P : List (List α × ρ)} (hb : ∀ A, (buildTree P A).isSome = true) (hne : P ≠ [])
    (m : ρ → Bool) : ∃ h, parseHw P m = .ok h := by
  obtain ⟨t, ht⟩ := Option.isSome_iff_exists.mp (hb (tableGet (allowedTable P)))
  simp [parseHw, getDb, ht, hne, Except.map]

theorem parseHw_ok {P : List (List α × ρ)} {m : ρ → Bool} {h : HwSets α}
    (hp : parseHw P m = .ok h) : ∃ t, buildTree P (tableGet (allowedTable P)) = some t ∧ h.trueS = t.findTrue m ∧
      h.falseS = (allSequences P).filter fun v => decide (v ∉ t.findTrue m) := by
  have hall : ((allowedTable P).flatMap fun e => e.2) = allSequences P := by
    simp [allowedTable, allSequences, allowed, List.flatMap_map]
  simp only [parseHw, getDb, hall] at hp
  cases hb : buildTree P (tableGet (allowedTable P)) with
  | none => simp [hb, Except.map] at hp
  | some t =>
    simp only [hb] at hp
    split at hp
    · simp [Except.map] at hp
    · cases hp
      exact ⟨t, rfl, rfl, rfl⟩

/-- **The hardware view of a model string**, when no two sequences share a tree node. -/
theorem parseHw_spec {P : List (List α × ρ)} (hinj : InjPaths P) {m : ρ → Bool} {h : HwSets α}
    (hp : parseHw P m = .ok h) :
    (∀ p, p ∈ h.trueS ↔ ∃ e ∈ P, ChainHolds P m e.1 ∧ p ∈ allowed P e.1) ∧
    (∀ p, p ∈ h.falseS ↔ p ∈ allSequences P ∧ p ∉ h.trueS) := by
  obtain ⟨t, hb, ht, hf⟩ := parseHw_ok hp
  refine ⟨fun p => ?_, fun p => by simp [hf, ht]⟩
  rw [ht, mem_findTrue_build hb hinj]
  refine exists_congr fun e => and_congr_right fun he => ?_
  rw [tableGet_mem he]
  -- the empty sequence has no variants
  exact and_iff_right_of_imp fun ⟨_, hpa⟩ h0 => by simp [mem_allowed, h0, variants] at hpa

theorem known_parse {P : List (List α × ρ)} {m : ρ → Bool} {h : HwSets α}
    (hp : parseHw P m = .ok h) (p : List α) : Known h p ↔ p ∈ allSequences P := by
  obtain ⟨t, hb, ht, hf⟩ := parseHw_ok hp
  simp only [Known, ht, hf, List.mem_filter, decide_eq_true_eq]
  constructor
  · rintro (h1 | ⟨h1, _⟩)
    · obtain ⟨e, he, _, _, hpa⟩ := findTrue_build_sub hb m h1
      exact List.mem_flatMap.mpr ⟨e, he, tableGet_mem he ▸ hpa⟩
    · exact h1
  · intro h1
    by_cases h2 : p ∈ t.findTrue m
    · exact Or.inl h2
    · exact Or.inr ⟨h1, h2⟩

/-- **Hierarchy, as a program sees it**: if `hw.A.B.C` is true then `hw.A.B` and `hw.A` are true. -/
theorem hierarchy_attr {P : List (List α × ρ)} (hinj : InjPaths P) {m : ρ → Bool} {h : HwSets α}
    (hp : parseHw P m = .ok h) {p q : List α} (hm : hwMatchPath h p = some true)
    (hq : q <+: p) (hne : q ≠ []) : hwMatchPath h q = some true := by
  have hpne : p ≠ [] := by
    rintro rfl; exact hne (List.prefix_nil.mp hq)
  obtain ⟨hall, hpt⟩ := (hwMatchPath_true hpne).mp hm
  refine (hwMatchPath_true hne).mpr ⟨fun x hx => hall x (seqSubs_prefix hq hx), ?_⟩
  by_cases hqp : q = p
  · exact hqp ▸ hpt
  -- `p` is a variant of a true sequence `e`; its prefix `q` is a variant of a prefix `s'` of `e`, which is true
  -- with `e`; `q` is known, hence counted once, hence allowed for `s'`
  obtain ⟨ht, _⟩ := parseHw_spec hinj hp
  obtain ⟨e, he, hch, hpa⟩ := (ht p).mp hpt
  obtain ⟨s', hs', hs'ne, _, hqv⟩ := variant_prefix (mem_allowed.mp hpa).1 hq hne hqp
  obtain ⟨r, hr, _⟩ := hch s' (mem_seqSubs.mpr ⟨hs'ne, hs'⟩)
  have hk := (known_parse hp q).mp (hall q (seqSubs_prefix hq (self_mem_seqSubs hne)))
  exact (ht q).mpr ⟨(s', r), lookup_some hr, hch.prefix hs',
    mem_allowed.mpr ⟨hqv, by have := mem_allSequences.mp hk; omega⟩⟩

theorem no_attribute_error {P : List (List α × ρ)} {m : ρ → Bool} {h : HwSets α}
    (hp : parseHw P m = .ok h) (path : List α) :
    hwMatchPath h path ≠ none ↔ ∀ q ∈ seqSubs path, variantCount P q = 1 := by
  simp only [hwMatchPath_ne_none, AllKnown, known_parse hp, mem_allSequences]

end Annet.Hw.Lemmas
