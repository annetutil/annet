/-
C14, shared by the three back-ends: comparing tokens; what reading a generator's definition once shows of every row (`Row`:
it has a text, and its references come from the program); where a reference comes from (`Origin`); the lookups behind the
list generators and the prefix-list generator (`Settled`).
-/
import AnnetModel.Lemmas.Rpl
import AnnetModel.Lemmas.Basic

namespace Annet.Rpl.Lemmas
open Annet.Rpl.Spec

/-! A token `s "…"` is the list of characters of a literal.  Turning a literal into its characters is slow to check, and
unifying two different `s "…"` does it twice; so literal tokens are compared as `String`s, which `String.reduceBEq`
and `decide` settle without looking at the characters. -/

theorem s_inj {a b : String} : s a = s b ↔ a = b := String.toList_inj

theorem s_beq (a b : String) : (s a == s b) = (a == b) := by
  rw [Bool.eq_iff_iff, beq_iff_eq, beq_iff_eq, s_inj]

theorem s_ne {a b : String} (h : a ≠ b) : s a ≠ s b := mt s_inj.mp h
theorem s_ne_nil {kw : String} (h : kw ≠ "") : s kw ≠ [] := s_ne h

theorem s_ne_of_not_mem {tok : String} {kws : List String} (h : tok ∉ kws) : ∀ kw ∈ kws, s tok ≠ s kw :=
  fun _ hkw e => h (s_inj.mp e ▸ hkw)

theorem s_prefix {a b : String} : s a <+: s b ↔ b.startsWith a = true := String.startsWith_string_iff.symm

theorem s_append_ne {cmd kw : String} (h : kw.startsWith cmd = false) (v : Str) : s cmd ++ v ≠ s kw :=
  fun e => String.startsWith_string_eq_false_iff.mp h ⟨v, e⟩

theorem dropPrefix_self (pre v : Str) : dropPrefix pre (pre ++ v) = some v := by
  have : pre.isPrefixOf (pre ++ v) = true := List.isPrefixOf_iff_prefix.mpr (List.prefix_append _ _)
  simp only [dropPrefix, this, if_true, List.drop_left]

theorem dropPrefix_none {pre x : Str} (h : ¬ pre <+: x) : dropPrefix pre x = none := by
  simp only [dropPrefix, List.isPrefixOf_iff_prefix, h, if_false]

theorem dropPrefix_append_none {pre cmd : String} (h1 : pre.startsWith cmd = false) (h2 : cmd.startsWith pre = false)
    (v : Str) : dropPrefix (s pre) (s cmd ++ v) = none :=
  dropPrefix_none fun h => (List.prefix_or_prefix_of_prefix h (List.prefix_append _ _)).elim
    (String.startsWith_string_eq_false_iff.mp h2) (String.startsWith_string_eq_false_iff.mp h1)

/-- the command of a `*_MATCH_COMMAND_MAP` field in front of its value; the name of a list is read behind `pre` -/
theorem dropPrefix_cmd {pre cmd : String} (v : Str)
    (h : cmd = pre ∨ (pre.startsWith cmd = false ∧ cmd.startsWith pre = false)) :
    dropPrefix (s pre) (s cmd ++ v) = if cmd = pre then some v else none := by
  rcases h with rfl | h
  · rw [if_pos rfl]; exact dropPrefix_self _ v
  · rw [if_neg fun e => String.startsWith_string_eq_false_iff.mp (e ▸ h.1) ⟨[], List.append_nil _⟩]
    exact dropPrefix_append_none h.1 h.2 v

/-! A row of a policy body has two users: the block ACL needs that it has a text, the list generators have to define what it
refers to.  Both are read off the definition of each generator once (`gen_*`). -/

/-- the row has a text, and every reference it makes satisfies `Q`; `ρ` reads the references off a row -/
structure Row {κ : Type} (ρ : List Str → List κ) (Q : κ → Prop) (row : List Str) : Prop where
  ne : RowNE row
  refs : ∀ r ∈ ρ row, Q r

abbrev RefsIn {κ : Type} (ρ : List Str → List κ) (Q : κ → Prop) : Out (List Str) → Prop := AllRows (Row ρ Q)

theorem Row.mono {κ : Type} {ρ : List Str → List κ} {Q Q' : κ → Prop} {row : List Str} (h : Row ρ Q row)
    (hq : ∀ r, Q r → Q' r) : Row ρ Q' row := ⟨h.ne, fun r hr => hq r (h.refs r hr)⟩

theorem RefsIn.rowsNE {κ : Type} {ρ : List Str → List κ} {Q : κ → Prop} {o : Out (List Str)} (h : RefsIn ρ Q o) :
    AllRows RowNE o := AllRows.mono h fun _ => Row.ne

theorem plain_of_nil {κ : Type} {ρ : List Str → List κ} {Q : κ → Prop} {row : List Str} (hne : RowNE row)
    (h : ρ row = []) : Row ρ Q row := ⟨hne, by rw [h]; exact nofun⟩

theorem plain2 {κ : Type} {ρ : List Str → List κ} {Q : κ → Prop} {a b : Str} {l : List Str}
    (h : ρ (a :: b :: l) = []) : Row ρ Q (a :: b :: l) := plain_of_nil (rowNE_cons2 a b l) h

theorem row_single {κ : Type} {ρ : List Str → List κ} {Q : κ → Prop} {a b : Str} {l : List Str} {x : κ}
    (h : ρ (a :: b :: l) = [x]) (hq : Q x) : Row ρ Q (a :: b :: l) :=
  ⟨rowNE_cons2 a b l, by rw [h]; exact fun r hr => List.mem_singleton.mp hr ▸ hq⟩

theorem refsIn_rowsFor {κ : Type} {ρ : List Str → List κ} {Q : κ → Prop} {head : Str} {k : Str → κ}
    (hρ : ∀ n, ρ [head, n] = [k n]) {l : List Str} (hq : ∀ n ∈ l, Q (k n)) : RefsIn ρ Q (emit (rowsFor head l)) :=
  .emit_map fun n hn => row_single (hρ n) (hq n hn)

theorem part_pfxRows {κ : Type} {ρ : List Str → List κ} {Q : κ → Prop} {L : Prop} {a0 b0 : Str} {k : Str → κ}
    (hρ : ∀ n, ρ [a0, b0, n] = [k n]) (pls : List PrefixList) (a b : Option Str) (names : List Str)
    (hq : ∀ nm ∈ names, ∀ pl, getPrefix pls nm a b = .ok pl → Q (k pl.name))
    (hl : ∀ nm ∈ names, ∀ e, getPrefix pls nm a b = .error e → L) :
    Part (Row ρ Q) L (pfxRows pls (fun n => [a0, b0, n]) a b names) := by
  induction names with
  | nil => exact .emit_nil
  | cons n ns ih =>
    unfold pfxRows
    split
    next e he => exact .fail (hl n List.mem_cons_self e he)
    next pl hpl =>
      exact .seq (.emit_one (row_single (hρ _) (hq n List.mem_cons_self pl hpl)))
        (ih (fun nm hnm => hq nm (List.mem_cons_of_mem _ hnm)) fun nm hnm => hl nm (List.mem_cons_of_mem _ hnm))

/-- the type of the community lists a community-like match field names -/
def fieldCType : MField → Option CType
  | .community => some .basic
  | .largeCommunity => some .large
  | .extcommunityRt => some .rt
  | .extcommunitySoo => some .soo
  | _ => none

def actCType : TField → Option CType
  | .community => some .basic
  | .largeCommunity => some .large
  | .extcommunityRt => some .rt
  | .extcommunitySoo => some .soo
  | _ => none

theorem fieldCType_mem {f : MField} {t : CType} (h : fieldCType f = some t) : f ∈ commMatchFields := by
  cases f <;> first | decide | cases h

theorem actCType_mem {f : TField} {t : CType} (h : actCType f = some t) : f ∈ commThenFields := by
  cases f <;> first | decide | cases h

theorem condTyped_names {cl : List CommList} {c : Cond} {t : CType} {l : List Str} (hf : fieldCType c.field = some t)
    (hv : c.val = .names l) : condTyped cl c = typesIn cl [t] l := by
  unfold condTyped
  rw [hv]
  cases hc : c.field <;> rw [hc] at hf <;> cases hf <;> rfl

theorem actTyped_comm {cl : List CommList} {a : Action} {t : CType} {ca : CommAct} (hf : actCType a.field = some t)
    (hv : a.val = .comm ca) : actTyped cl a = typesIn cl [t] (CommAct.names ca) := by
  unfold actTyped
  rw [hv]
  cases hc : a.field <;> rw [hc] at hf <;> cases hf <;> rfl

/-- where a reference in a policy row comes from: a community-like action naming the list; `kind` is the kind of
named list that holds the community lists of each type -/
inductive ActRef {κ : Type} (kind : CType → Option κ) (a : Action) : κ × Str → Prop
  | intro {t : CType} {k : κ} {ca : CommAct} {n : Str} (hf : actCType a.field = some t) (hk : kind t = some k)
      (hv : a.val = .comm ca) (hn : n ∈ CommAct.names ca) : ActRef kind a (k, n)

theorem refsIn_elems {κ α : Type} {ρ : List Str → List κ} {Q : α → κ → Prop} {m : α → Out (List Str)}
    (h : ∀ x, RefsIn ρ (Q x) (m x)) (l : List α) : RefsIn ρ (fun r => ∃ x ∈ l, Q x r) (seqAll (l.map m)) :=
  .seqAll_map fun x hx => (h x).mono fun _ hrow => hrow.mono fun _ hr => ⟨x, hx, hr⟩

theorem refsIn_inBlock {κ : Type} {ρ : List Str → List κ} {Q : κ → Prop} {header : List Str} {body : Out (List Str)}
    (h : RefsIn ρ Q body) :
    AllRows (fun l : Line => l.path.isEmpty = false → ∀ r ∈ ρ l.toks, Q r) (inBlock header body) :=
  .seq (.emit_one fun h => nomatch h) (.mapRows (h.mono fun _ hrow _ => hrow.refs))

/-- the condition or action of the program a reference comes from -/
def Origin {κ : Type} (inp : Input) (QC : Cond → κ → Prop) (QA : Action → κ → Prop) (r : κ) : Prop :=
  ∃ p ∈ inp.policies, ∃ st ∈ p.stmts, (∃ c ∈ st.conds, QC c r) ∨ (∃ a ∈ st.acts, QA a r)

theorem refsIn_stmtBody {κ : Type} {ρ : List Str → List κ} {QC : Cond → κ → Prop} {QA : Action → κ → Prop}
    {mc : Cond → Out (List Str)} {ma : Action → Out (List Str)} {trailer : Out (List Str)}
    (hc : ∀ c, RefsIn ρ (QC c) (mc c)) (ha : ∀ a, RefsIn ρ (QA a) (ma a)) (ht : ∀ Q, RefsIn ρ Q trailer) (st : Stmt) :
    RefsIn ρ (fun r => (∃ c ∈ st.conds, QC c r) ∨ (∃ a ∈ st.acts, QA a r))
      ((seqAll (st.conds.map mc)).seq ((seqAll (st.acts.map ma)).seq trailer)) :=
  .seq ((refsIn_elems hc _).mono fun _ h => h.mono fun _ => .inl)
    (.seq ((refsIn_elems ha _).mono fun _ h => h.mono fun _ => .inr) (ht _))

theorem origin_of_blocks {κ : Type} {ρ : List Str → List κ} {inp : Input} {QC : Cond → κ → Prop}
    {QA : Action → κ → Prop} {stmt : Policy → Stmt → Out Line}
    (h : ∀ p st, AllRows (fun l : Line => l.path.isEmpty = false → ∀ r ∈ ρ l.toks,
      (∃ c ∈ st.conds, QC c r) ∨ (∃ a ∈ st.acts, QA a r)) (stmt p st)) (r : κ)
    (hr : r ∈ ((seqAll (inp.policies.flatMap fun p => p.stmts.map (stmt p))).1.filter
      (fun l => !l.path.isEmpty)).flatMap fun l => ρ l.toks) : Origin inp QC QA r := by
  obtain ⟨l, hl, hr⟩ := List.mem_flatMap.mp hr
  obtain ⟨hl, hpath⟩ := List.mem_filter.mp hl
  obtain ⟨o, ho, hlo⟩ := seqAll_rows_mem _ _ hl
  obtain ⟨p, hp, ho⟩ := List.mem_flatMap.mp ho
  obtain ⟨st, hst, rfl⟩ := List.mem_map.mp ho
  exact ⟨p, hp, st, hst, h p st l hlo (by simpa using hpath) r hr⟩

theorem lookupNames_ok {α : Type} (get : Str → Option α) (ns : List Str) (l : List α) (h : lookupNames get ns = .ok l) :
    ∀ n ∈ ns, ∃ c ∈ l, get n = some c := by
  induction ns generalizing l with
  | nil => exact nofun
  | cons m ms ih =>
    unfold lookupNames at h
    split at h
    · cases h
    next c hc =>
      split at h
      · cases h
      next l' hl' =>
        cases h
        exact List.forall_mem_cons.mpr ⟨⟨c, List.mem_cons_self, hc⟩,
          fun n hn => (ih l' hl' n hn).imp fun _ h => ⟨List.mem_cons_of_mem _ h.1, h.2⟩⟩

theorem enum_head {α : Type} {l : List α} (h : l ≠ []) : ∃ x, (0, x) ∈ (List.range l.length).zip l := by
  obtain ⟨x, xs, rfl⟩ := List.exists_cons_of_ne_nil h
  exact ⟨x, by simp [List.range_succ_eq_map]⟩

theorem mem_flatMap_mono {α β : Type} {f : α → List β} {l l' : List α} {r : β} (h : r ∈ l'.flatMap f)
    (hsub : ∀ x ∈ l', x ∈ l) : r ∈ l.flatMap f :=
  let ⟨x, hx, hr⟩ := List.mem_flatMap.mp h
  List.mem_flatMap.mpr ⟨x, hsub x hx, hr⟩

theorem usedAsPath_mem {inp : Input} {fs : List AsPathFilter} (h : usedAsPath inp = .ok fs) {p : Policy}
    (hp : p ∈ inp.policies) {st : Stmt} (hst : st ∈ p.stmts) {c : Cond} (hc : c ∈ st.conds)
    (hf : c.field = .asPathFilter) {v : Str} (hv : c.val = .scalar v) : ∃ f ∈ fs, f.name = v := by
  unfold usedAsPath at h
  split at h
  · cases h
  next ns hns =>
    obtain ⟨y, hy, hfy⟩ := (List.mem_mapM_some hns).2 c (List.mem_flatMap.mpr
      ⟨st, List.mem_flatMap.mpr ⟨p, hp, hst⟩, List.mem_filter.mpr ⟨hc, by rw [hf]; rfl⟩⟩)
    rw [asPathCondName, hv] at hfy
    cases hfy
    obtain ⟨f, hfm, hg⟩ := lookupNames_ok _ _ _ h v ((mem_sortedSet _ _).2 hy)
    exact ⟨f, hfm, by simpa using (findLast_some _ _ _ hg).2⟩

theorem getPrefix_members {pls : List PrefixList} (hne : ∀ pl ∈ pls, pl.members ≠ []) {n : Str} {a b : Option Str}
    {pl : PrefixList} (h : getPrefix pls n a b = .ok pl) : pl.members ≠ [] := by
  unfold getPrefix at h
  split at h
  · cases h
  next orig ho =>
    have := hne orig (findLast_some _ _ _ ho).1
    split at h <;> cases h <;> simpa using this

/-! The prefix-list generator goes through the statements, their conditions and the names of each condition with one set of names already dealt with
(`processed_names`), and yields the rows of a prefix list when its derived name is not in the set. -/

/-- the name `x` needs no row any more: it was in the set before the rows `out` were yielded, or one of them defines it
(`d x l`: the row `l` defines `x`) -/
def Settled (d : Str → Line → Prop) (seen : List Str) (out : List Line) (x : Str) : Prop :=
  x ∈ seen ∨ ∃ l ∈ out, d x l

def CondsSettled (d : Str → Line → Prop) (pls : List PrefixList) (f : MField) (cs : List Cond) (seen : List Str)
    (out : List Line) : Prop :=
  ∀ c ∈ cs, c.field = f → ∀ names a b, c.val = .pfx names a b → ∀ nm ∈ names, ∀ pl, getPrefix pls nm a b = .ok pl →
    Settled d seen out pl.name

section PrefixLists
variable {pls : List PrefixList} {d : Str → Line → Prop}

theorem Settled.append_right {seen : List Str} {out : List Line} {x : Str} (h : Settled d seen out x) (out' : List Line) :
    Settled d seen (out ++ out') x :=
  h.imp_right fun ⟨l, hl, hd⟩ => ⟨l, List.mem_append_left _ hl, hd⟩

theorem Settled.trans {seen seen' : List Str} {out out' : List Line} {x : Str} (h' : Settled d seen' out' x)
    (h : ∀ y ∈ seen', Settled d seen out y) : Settled d seen (out ++ out') x :=
  h'.elim (fun hx => (h x hx).append_right out') fun ⟨l, hl, hd⟩ => .inr ⟨l, List.mem_append_right _ hl, hd⟩

variable (hne : ∀ pl ∈ pls, pl.members ≠ [])
include hne

/-- invariant of the loop: every name asked for so far, and every name in the returned set, is settled by the rows yielded
so far -/
theorem prefixNames_spec {rows : PrefixList → List Line} (hrows : ∀ pl, pl.members ≠ [] → ∃ l ∈ rows pl, d pl.name l)
    (a b : Option Str) (ns seen : List Str) : (prefixNames pls rows a b ns seen).1.2 = none →
      (∀ nm ∈ ns, ∀ pl, getPrefix pls nm a b = .ok pl →
        Settled d seen (prefixNames pls rows a b ns seen).1.1 pl.name) ∧
      ∀ x ∈ (prefixNames pls rows a b ns seen).2, Settled d seen (prefixNames pls rows a b ns seen).1.1 x := by
  fun_induction prefixNames pls rows a b ns seen with
  | case1 seen => exact fun _ => ⟨nofun, fun x hx => .inl hx⟩
  | case2 => exact nofun
  | case3 n ns seen pl hg hs ih =>
    refine fun hok => ⟨List.forall_mem_cons.mpr ⟨fun pl' hg' => ?_, (ih hok).1⟩, (ih hok).2⟩
    cases hg.symm.trans hg'
    exact .inl (by simpa using hs)
  | case4 n ns seen pl hg hs r ih =>
    intro hok
    have hrow : ∀ y ∈ pl.name :: seen, Settled d seen (rows pl) y := fun y hy =>
      (List.mem_cons.mp hy).elim (fun e => e ▸ .inr (hrows pl (getPrefix_members hne hg))) .inl
    refine ⟨List.forall_mem_cons.mpr ⟨fun pl' hg' => ?_, fun nm hnm pl' hg' => ((ih hok).1 nm hnm pl' hg').trans hrow⟩,
      fun x hx => ((ih hok).2 x hx).trans hrow⟩
    cases hg.symm.trans hg'
    exact (hrow _ List.mem_cons_self).append_right _

theorem prefixConds_spec {rows : PrefixList → List Line} (hrows : ∀ pl, pl.members ≠ [] → ∃ l ∈ rows pl, d pl.name l)
    (f : MField) (cs : List Cond) (seen : List Str) : (prefixConds pls rows f cs seen).1.2 = none →
      CondsSettled d pls f cs seen (prefixConds pls rows f cs seen).1.1 ∧
      ∀ x ∈ (prefixConds pls rows f cs seen).2, Settled d seen (prefixConds pls rows f cs seen).1.1 x := by
  fun_induction prefixConds pls rows f cs seen with
  | case1 seen => exact fun _ => ⟨fun _ hc => (nomatch hc), fun x hx => .inl hx⟩
  | case2 _ _ _ _ _ _ _ _ _ _ he => exact fun h => nomatch he.symm.trans h
  | case3 c cs seen hcf names a b hv r he r2 ih =>
    rw [seq_of_none _ _ he]
    intro hok
    obtain ⟨n1, n2⟩ := prefixNames_spec hne hrows a b names seen he
    obtain ⟨c1, c2⟩ := ih hok
    refine ⟨fun c' hc' hf' names' a' b' hv' nm hnm pl hg => ?_, fun x hx => (c2 x hx).trans n2⟩
    rcases List.mem_cons.mp hc' with rfl | hc'
    · cases hv.symm.trans hv'
      exact (n1 nm hnm pl hg).append_right _
    · exact (c1 c' hc' hf' names' a' b' hv' nm hnm pl hg).trans n2
  | case4 => exact nofun
  | case5 c cs seen hcf ih =>
    refine fun hok => ⟨fun c' hc' hf' => ?_, (ih hok).2⟩
    rcases List.mem_cons.mp hc' with rfl | hc'
    · exact absurd (beq_iff_eq.mpr hf') hcf
    · exact (ih hok).1 c' hc' hf'

theorem prefixStmts_spec {rows4 rows6 : PrefixList → List Line}
    (h4 : ∀ pl, pl.members ≠ [] → ∃ l ∈ rows4 pl, d pl.name l)
    (h6 : ∀ pl, pl.members ≠ [] → ∃ l ∈ rows6 pl, d pl.name l) (sts : List Stmt) (seen : List Str) :
    (prefixStmts pls rows4 rows6 sts seen).1.2 = none →
      (∀ st ∈ sts, ∀ f, f = .ipPrefix ∨ f = .ipv6Prefix →
        CondsSettled d pls f st.conds seen (prefixStmts pls rows4 rows6 sts seen).1.1) ∧
      ∀ x ∈ (prefixStmts pls rows4 rows6 sts seen).2, Settled d seen (prefixStmts pls rows4 rows6 sts seen).1.1 x := by
  fun_induction prefixStmts pls rows4 rows6 sts seen with
  | case1 seen => exact fun _ => ⟨nofun, fun x hx => .inl hx⟩
  | case2 _ _ _ _ _ he => exact fun h => nomatch he.symm.trans h
  | case3 _ _ _ _ he4 _ _ he6 => exact fun h => nomatch he6.symm.trans (seq_ok_right _ _ h)
  | case4 st sts seen r4 he4 r6 he6 r ih =>
    intro hok
    obtain ⟨a1, a2⟩ := prefixConds_spec hne h4 .ipPrefix st.conds seen he4
    obtain ⟨b1, b2⟩ := prefixConds_spec hne h6 .ipv6Prefix st.conds _ he6
    obtain ⟨c1, c2⟩ := ih (seq_ok_right _ _ hok)
    rw [seq_ok_rows _ _ hok, seq_ok_rows _ _ (seq_ok_left _ _ hok)]
    have ab := fun y hy => (b2 y hy).trans a2
    refine ⟨fun st' hst' f hf c hc hcf names a b hv nm hnm pl hg => ?_, fun x hx => (c2 x hx).trans ab⟩
    rcases List.mem_cons.mp hst' with rfl | hst'
    · rcases hf with rfl | rfl
      · exact ((a1 c hc hcf names a b hv nm hnm pl hg).append_right _).append_right _
      · exact ((b1 c hc hcf names a b hv nm hnm pl hg).trans a2).append_right _
    · exact (c1 st' hst' f hf c hc hcf names a b hv nm hnm pl hg).trans ab

end PrefixLists

/-- `defs` reads the definitions off a row of the back-end, `k x` is the definition of the prefix list `x` -/
theorem runPrefix_defined {κ : Type} (inp : Input) (hne : ∀ pl ∈ inp.plists, pl.members ≠ []) (defs : List Str → List κ)
    (k : Str → κ) {rows4 rows6 : PrefixList → List Line}
    (h4 : ∀ pl, pl.members ≠ [] → k pl.name ∈ (rows4 pl).flatMap fun l => defs l.toks)
    (h6 : ∀ pl, pl.members ≠ [] → k pl.name ∈ (rows6 pl).flatMap fun l => defs l.toks)
    (hok : (runPrefix inp rows4 rows6).2 = none)
    {p : Policy} (hp : p ∈ inp.policies) {st : Stmt} (hst : st ∈ p.stmts) {c : Cond} (hc : c ∈ st.conds)
    (hf : c.field = .ipPrefix ∨ c.field = .ipv6Prefix) {names : List Str} {a b : Option Str}
    (hv : c.val = .pfx names a b) {nm : Str} (hnm : nm ∈ names) {pl : PrefixList}
    (hg : getPrefix inp.plists nm a b = .ok pl) :
    k pl.name ∈ (runPrefix inp rows4 rows6).1.flatMap fun l => defs l.toks :=
  have := (prefixStmts_spec (d := fun x l => k x ∈ defs l.toks) hne (fun pl h => List.mem_flatMap.mp (h4 pl h))
    (fun pl h => List.mem_flatMap.mp (h6 pl h)) _ [] hok).1 st (List.mem_flatMap.mpr ⟨p, hp, hst⟩) c.field hf c hc rfl
    names a b hv nm hnm pl hg
  List.mem_flatMap.mpr (this.resolve_left nofun)

end Annet.Rpl.Lemmas
