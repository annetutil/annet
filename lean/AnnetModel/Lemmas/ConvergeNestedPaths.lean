/-
Linearisation link for C01 stage 2: executing a patch tree structurally (`applyTree`) is the same as sending the device
(`Device.applyCmds`) the command paths a block-exit formatter produces for the tree.

`treePaths exit t` is the reference linearisation: for each item in order the path `[row]`; for a block item then the
paths of the child tree, each prefixed with `row`, then `[row, exit]`: the shape `CommonFormatter.cmd_paths` yields for a
`BlockExitFormatter` whose exit statement is `exit` (`Format.cmdPathsAux` on `row, bb, …children…, be, bb, exit, be`) when
no path repeats.  `applyCmds_treePaths` needs `PathOKT`: no command of the tree is a line of a `%rewrite` rule at its
level, the row of every block item is a proper line (not an exit word, not the negation of a known row), `exit` is not a
line of a `%rewrite` rule of the block's child rules, and the same below.  The pipeline's tree meets it
(`pipeline_pathOK`, without `NoPin`).
-/
import AnnetModel.Lemmas.ConvergeNested

namespace Annet.ConvergeNested.Lemmas

open Annet Annet.Rules Annet.Device Annet.Device.Abs Annet.Converge Annet.ConvergeNested
open Annet.Converge.Lemmas Annet.Device.Lemmas
open Annet.Patch
open Annet.Patch.PreLemmas (ChildTree isLeaf)

variable {rules : PRules} {env : Env} {exit : String}

mutual
  def PathOKT (env : Env) (exit : String) : PRules → PTree → Prop
    | rules, .mk items => PathOKL env exit rules items
  def PathOKL (env : Env) (exit : String) : PRules → List (String × Option PTree × SortKey) → Prop
    | _, [] => True
    | rules, (row, none, _) :: rest => isRewriteCmd rules row = false ∧ PathOKL env exit rules rest
    | rules, (row, some t, _) :: rest =>
      (isRewriteCmd rules row = false ∧ ¬ env.exits.contains row = true ∧
        ((stripReverse env row).bind fun r' => slotOf rules r') = none ∧
        (match classify rules row with
          | some (_, cr) => isRewriteCmd cr exit = false ∧ PathOKT env exit cr t
          | none => True)) ∧
      PathOKL env exit rules rest
end

theorem itemsPaths_ne_nil (exit : String) : ∀ (items : List TItem),
    ∀ p ∈ itemsPaths exit items, p ≠ []
  | [] => by simp [itemsPaths]
  | (row, none, k) :: rest => by simpa [itemsPaths] using itemsPaths_ne_nil exit rest
  | (row, some t, k) :: rest => by simpa [itemsPaths, or_imp, forall_and] using itemsPaths_ne_nil exit rest

theorem treePaths_ne_nil (exit : String) (t : PTree) : ∀ p ∈ treePaths exit t, p ≠ [] := by
  obtain ⟨items⟩ := t
  rw [treePaths]
  exact itemsPaths_ne_nil exit items

mutual
  theorem runTree (env : Env) (exit : String) (hex : env.exits.contains exit = true) :
      ∀ (rules : PRules) (t : PTree) (here : List String) (vis : Visited) (kids : List (String × Cfg)),
      PathOKT env exit rules t →
      runPaths env rules here (treePaths exit t) (kids, vis) = (applyTree env rules t kids, vis)
    | rules, .mk items, here, vis, kids, h => by
      rw [PathOKT] at h
      rw [treePaths, applyTree]
      exact runItems env exit hex rules items here vis kids h
  theorem runItems (env : Env) (exit : String) (hex : env.exits.contains exit = true) :
      ∀ (rules : PRules) (items : List (String × Option PTree × SortKey)) (here : List String) (vis : Visited)
        (kids : List (String × Cfg)),
      PathOKL env exit rules items →
      runPaths env rules here (itemsPaths exit items) (kids, vis) = (applyItems env rules items kids, vis)
    | rules, [], here, vis, kids, _ => by
      rw [itemsPaths, applyItems]; rfl
    | rules, (row, none, k) :: rest, here, vis, kids, h => by
      rw [PathOKL] at h
      rw [itemsPaths, applyItems, runPaths_cons]
      simp only
      rw [execPath_leaf env rules here vis kids row h.1]
      exact runItems env exit hex rules rest here vis _ h.2
    | rules, (row, some t, k) :: rest, here, vis, kids, h => by
      rw [PathOKL] at h
      obtain ⟨⟨hrw, hne, hnr, hsub⟩, hrest⟩ := h
      -- the exit path is one more path below `row`
      have hp : itemsPaths exit ((row, some t, k) :: rest) =
          [row] :: ((treePaths exit t ++ [[exit]]).map (row :: ·) ++ itemsPaths exit rest) := by
        rw [itemsPaths]; simp
      have hps : ∀ p ∈ treePaths exit t ++ [[exit]], p ≠ [] := by
        simpa [or_imp, forall_and] using treePaths_ne_nil exit t
      rw [hp, applyItems, runPaths_cons]
      simp only
      rw [execPath_leaf env rules here vis kids row hrw, runPaths_append, execLeaf_eq_run, den_put hne hnr]
      cases hcl : classify rules row with
      | none =>
        simp only [run, hcl]
        rw [runPaths_none env rules here row hcl _ hps]
        exact runItems env exit hex rules rest here vis kids hrest
      | some mc =>
        obtain ⟨m, cr⟩ := mc
        rw [hcl] at hsub
        obtain ⟨hrwx, hokt⟩ := hsub
        simp only [run, hcl]
        rw [runPaths_block env rules here row hcl hrw _ hps _ vis (putLine_settles rules m row kids)]
        have hin : (fun (v : Visited) (ch : List (String × Cfg)) =>
            runPaths env cr (here ++ [row]) (treePaths exit t ++ [[exit]]) (ch, v)) =
            fun v ch => (applyTree env cr t ch, v) := by
          funext v ch
          rw [runPaths_append, runTree env exit hex cr t (here ++ [row]) v ch hokt, runPaths_cons, runPaths_nil]
          simp only
          rw [execPath_leaf env cr (here ++ [row]) v _ exit hrwx, exit_noop env cr exit _ hex]
        rw [hin, descend_pure]
        exact runItems env exit hex rules rest here vis _ hrest
end

theorem applyCmds_treePaths (env : Env) (exit : String) (rules : PRules) (t : PTree) (dev : Cfg)
    (hex : env.exits.contains exit = true) (h : PathOKT env exit rules t) :
    applyCmds env rules (treePaths exit t) dev = .mk (applyTree env rules t dev.kids) := by
  unfold applyCmds
  have := runTree env exit hex rules t [] [] dev.kids h
  unfold runPaths at this
  rw [this]

theorem pathOKL_iff {env : Env} {exit : String} {rules : PRules} : ∀ {items : List TItem},
    PathOKL env exit rules items ↔ ∀ t ∈ items, PathOKL env exit rules [t]
  | [] => by rw [PathOKL]; simp
  | (row, none, k) :: rest => by
    rw [PathOKL, pathOKL_iff (items := rest), List.forall_mem_cons, PathOKL, PathOKL, and_true]
  | (row, some t, k) :: rest => by
    rw [PathOKL, pathOKL_iff (items := rest), List.forall_mem_cons, PathOKL, PathOKL, and_true]

theorem pathOKT_iff {t : PTree} :
    PathOKT env exit rules t ↔ PathOKL env exit rules t.items := by
  obtain ⟨items⟩ := t
  rw [PathOKT]; rfl

theorem level_pathOK {v : Vendor} {ord : List ORule} {rec : PRec}
    {old new : List (String × Cfg)} {d : List Diff.DItem} {out : List RawItem}
    (hlr : LevelRules rules) (hc : CmdsOK v env rules) (hl : Lvl rules old new d)
    (hout : itemsOfPre Patch.runLogic rec v ord true (makePre d).rules = .ok out)
    (hrec : ∀ i ∈ d, (i.op = .added ∨ i.op = .affected) → ∀ (o : OrderRes) T,
      ChildTree rec v ord i o T →
      isRewriteCmd (crOf rules i.row) exit = false ∧ PathOKT env exit (crOf rules i.row) (sortTree T)) :
    PathOKL env exit rules (sortTree (buildTree out)).items := by
  rw [pathOKL_iff]
  intro t ht
  rcases tree_item hlr hc hl hout ht with ⟨row, k, rfl⟩ | ⟨i, hi, hop, hk, o, T, k, hsub, rfl⟩
  · rw [PathOKL, PathOKL, and_true]; exact hlr.not_rewrite _
  · rw [PathOKL, PathOKL, and_true]
    obtain ⟨h1, h2⟩ := hc.line i.row hk
    refine ⟨hlr.not_rewrite _, h1, h2, ?_⟩
    obtain ⟨cr, hcl⟩ := classify_matchOf hk
    rw [hcl]
    have := hrec i hi hop o T hsub
    rwa [crOf_eq hcl] at this

theorem pipeline_pathOK (v : Vendor) (env : Env) (exit : String) (rules : PRules) (ordering : List ORule)
    (old new : Cfg) (r : Api.Result)
    (hr : NestedRules rules) (hgo : GoodC rules old) (hgn : GoodC rules new) (hc : CmdsOKAll v env rules)
    (hres : Api.deviceMode Patch.runLogic v rules ordering true old new = .ok r) :
    PathOKT env exit rules r.patch := by
  obtain ⟨d', hmd', hd⟩ := makeDiff_nested hr hgo hgn
  obtain ⟨d, T, hmd, h, hpatch⟩ := deviceMode_induct (v := v)
    (motive := fun _ d T => ∀ rules old new, NestedLevel v env rules old new d →
      PathOKT env exit rules (sortTree T)) (by
    intro ord d rec out hout ih rules old new hl
    rw [pathOKT_iff]
    refine level_pathOK (levelRules_of_nested hl.nested) hl.cmds.1 hl.diff.lvl hout fun i hi hop o T hsub => ?_
    exact ⟨(levelRules_of_nested (hl.sub hi hop).nested).not_rewrite _, ih i hi o T hsub _ _ _ (hl.sub hi hop)⟩) hres
  cases hmd.symm.trans hmd'
  rw [hpatch]
  exact h rules old new ⟨hr, hc, hgo, hgn, hd⟩

end Annet.ConvergeNested.Lemmas
