/-
The Juniper family: `split` (the five `sub_regexs`, the comment test, the Nokia `configure {}` bounds) undoes
`_formatted_blocks` line by line.
-/
import AnnetModel.Lemmas.FormatSplitText

namespace Annet.FormatSplit.Lemmas
open Annet Annet.Offside Annet.FormatSplit

theorem cutAtFirst_id (m : Str → Bool) : ∀ (a : Str),
    (∀ x, x <:+ a → x ≠ [] → m x = false) → cutAtFirst m a = a
  | [], _ => rfl
  | c :: cs, h => by
    have h1 : m (c :: cs) = false := h _ (List.suffix_refl _) (by simp)
    have h2 := cutAtFirst_id m cs (fun x hx hne => h x (List.IsSuffix.trans hx (List.suffix_cons c cs)) hne)
    simp [cutAtFirst, h1, h2]

theorem cutAtFirst_all (m : Str → Bool) (a : Str) (h : m a = true) : cutAtFirst m a = [] := by
  cases a with
  | nil => rfl
  | cons c cs => simp [cutAtFirst, h]

theorem cutAtFirst_hit (m : Str → Bool) (b : Str) (hb : m b = true) : ∀ (a : Str),
    (∀ x, x <:+ a → x ≠ [] → m (x ++ b) = false) → cutAtFirst m (a ++ b) = a
  | [], _ => by simpa using cutAtFirst_all m b hb
  | c :: cs, h => by
    have h1 : m (c :: (cs ++ b)) = false := h _ (List.suffix_refl _) (by simp)
    have h2 := cutAtFirst_hit m b hb cs (fun x hx hne => h x (List.IsSuffix.trans hx (List.suffix_cons c cs)) hne)
    simp [cutAtFirst, h1, h2]

theorem suffix_getLast? {x s : Str} (hx : x <:+ s) (hne : x ≠ []) : x.getLast? = s.getLast? := by
  rw [List.getLast?_eq_some_getLast hne, List.getLast?_eq_some_getLast (hx.ne_nil hne), hx.getLast hne]

theorem reEmptyBlock_last {x : Str} (h : reEmptyBlock x = true) : x.getLast? = some '}' := by
  unfold reEmptyBlock at h
  split at h
  · rename_i u
    split at h
    · rename_i v hv
      have : u = v.reverse ++ ['}'] := by
        have := congrArg List.reverse hv
        simpa using this
      subst this
      rw [show ' ' :: '{' :: (v.reverse ++ ['}']) = ([' ', '{'] ++ v.reverse) ++ ['}'] by simp]
      exact List.getLast?_concat
    · cases h
  · cases h

theorem optTabComment_cases {u : Str} (h : optTabComment u = true) : u = [] ∨ '\t' ∈ u := by
  unfold optTabComment at h
  cases u with
  | nil => exact .inl rfl
  | cons c cs =>
    right
    simp at h
    split at h
    · rename_i heq
      simp at heq
      simp [heq.1]
    · cases h

theorem reBlockBegin_cases {x : Str} (h : reBlockBegin x = true) : x = [' ', '{'] ∨ '\t' ∈ x := by
  unfold reBlockBegin at h
  split at h
  · rename_i u
    rcases optTabComment_cases h with rfl | ht
    · exact .inl rfl
    · right; simp [ht]
  · cases h

theorem reStatementEnd_eq {x : Str} (h : reStatementEnd [';'] x = true) : x = [';'] := by
  simpa [reStatementEnd] using h

theorem reBlockEnd_cases {x : Str} (h : reBlockEnd x = true) : x.getLast? = some '}' ∨ '\t' ∈ x := by
  unfold reBlockEnd at h
  split at h
  · rename_i u hu
    have hs : ('}' :: u) <:+ x := hu ▸ List.dropWhile_suffix _
    rcases optTabComment_cases h with rfl | ht
    · left; rw [← suffix_getLast? hs (by simp)]; rfl
    · right; exact hs.subset (by simp [ht])
  · cases h

theorem hasInfix_of_suffix (e : Str) : ∀ (s x : Str), x <:+ s → e.isPrefixOf x = true → hasInfix e s = true
  | [], x, hx, he => by
    have : x = [] := by simpa using hx
    subst this
    cases e with
    | nil => rfl
    | cons a b => simp at he
  | c :: cs, x, hx, he => by
    rw [List.suffix_cons_iff] at hx
    rcases hx with rfl | hx
    · simp [hasInfix, he]
    · simp [hasInfix, hasInfix_of_suffix e cs x hx he]

/-- a property that a line inherits from each of its non-empty suffixes -/
def SufMono (Q : Str → Prop) : Prop := ∀ x s, x <:+ s → x ≠ [] → Q x → Q s

theorem sufMono_last (c : Char) : SufMono (·.getLast? = some c) :=
  fun _ _ hx hne h => (suffix_getLast? hx hne).symm.trans h

theorem sufMono_mem (c : Char) : SufMono (c ∈ ·) := fun _ _ hx _ h => hx.subset h

theorem SufMono.or {P Q : Str → Prop} (hP : SufMono P) (hQ : SufMono Q) : SufMono fun x => P x ∨ Q x :=
  fun x s hx hne h => h.imp (hP x s hx hne) (hQ x s hx hne)

theorem cutAtFirst_id_of (m : Str → Bool) {Q : Str → Prop} (hQ : SufMono Q) (hm : ∀ x, m x = true → Q x)
    (s : Str) (hs : ¬ Q s) : cutAtFirst m s = s := by
  apply cutAtFirst_id
  intro x hx hne
  cases hmx : m x with
  | false => rfl
  | true => exact absurd (hQ x s hx hne (hm x hmx)) hs

theorem re1_id (s : Str) (h : s.getLast? ≠ some '}') : cutAtFirst reEmptyBlock s = s :=
  cutAtFirst_id_of _ (sufMono_last '}') (fun _ => reEmptyBlock_last) s h

theorem re2_id (s : Str) (ht : '\t' ∉ s) (h : s.getLast? ≠ some '{') :
    cutAtFirst reBlockBegin s = s :=
  cutAtFirst_id_of _ ((sufMono_last '{').or (sufMono_mem '\t'))
    (fun _ hm => (reBlockBegin_cases hm).imp_left fun e => by rw [e]; rfl) s (not_or.2 ⟨h, ht⟩)

theorem re2_hit (s : Str) (ht : '\t' ∉ s) : cutAtFirst reBlockBegin (s ++ [' ', '{']) = s := by
  apply cutAtFirst_hit _ _ rfl
  intro x hx hne
  cases hm : reBlockBegin (x ++ [' ', '{']) with
  | false => rfl
  | true =>
    rcases reBlockBegin_cases hm with h | hm
    · have := congrArg List.length h
      simp at this
      exact absurd this hne
    · simp at hm
      exact absurd (hx.subset hm) ht

theorem re3_id (s : Str) (h : s.getLast? ≠ some ';') :
    cutAtFirst (reStatementEnd [';']) s = s :=
  cutAtFirst_id_of _ (sufMono_last ';') (fun _ hm => by rw [reStatementEnd_eq hm]; rfl) s h

theorem re3_hit (s : Str) : cutAtFirst (reStatementEnd [';']) (s ++ [';']) = s := by
  apply cutAtFirst_hit _ _ (by simp [reStatementEnd])
  intro x hx hne
  cases hm : reStatementEnd [';'] (x ++ [';']) with
  | false => rfl
  | true =>
    have := congrArg List.length (reStatementEnd_eq hm)
    simp at this
    exact absurd this hne

theorem re4_id (s : Str) (ht : '\t' ∉ s) (h : s.getLast? ≠ some '}') :
    cutAtFirst reBlockEnd s = s :=
  cutAtFirst_id_of _ ((sufMono_last '}').or (sufMono_mem '\t')) (fun _ => reBlockEnd_cases) s (not_or.2 ⟨h, ht⟩)

theorem re5_id (e s : Str) (h : hasInfix e s = false) : cutAtFirst (reEolComment e) s = s := by
  apply cutAtFirst_id
  intro x hx _
  cases hm : reEolComment e x with
  | false => rfl
  | true =>
    have := hasInfix_of_suffix e s x hx hm
    simp [h] at this

/-- what the proofs use of a Juniper-family class: regex 3 strips `;`, regex 5 strips `; ##…`, and
`_formatted_blocks` appends `;` or nothing -/
def JunOk (jf : JunFmt) : Prop :=
  jf.reStatementEnd = [';'] ∧ jf.reEolComment = [';', ' ', '#', '#'] ∧
    (jf.statementEnd = [';'] ∨ jf.statementEnd = [])

theorem junOk_fmtOf (k : Kind) : JunOk (junFmtOf k) := by
  cases k
  case nokia => exact ⟨rfl, rfl, .inr rfl⟩
  all_goals exact ⟨rfl, rfl, .inl rfl⟩

/-- an indented row of the Juniper domain, as the substitutions and the comment test see it -/
structure LineOK (s : Str) : Prop where
  tab : '\t' ∉ s
  nl : '\n' ∉ s
  last : ∃ c, s.getLast? = some c ∧ c ≠ ';' ∧ c ≠ '{' ∧ c ≠ '}'
  eol : hasInfix [';', ' ', '#', '#'] s = false
  comment : commentMatch s = false

theorem subRegexs_lineOK (jf : JunFmt) (hjf : JunOk jf)
    (s : Str) (hs : LineOK s) (e : Str) (he : e = [] ∨ e = blockBegin ∨ e = [';']) :
    subRegexs jf (s ++ e) = s := by
  obtain ⟨h3, h5, _⟩ := hjf
  obtain ⟨c, hc, c1, c2, c3⟩ := hs.last
  have l1 : s.getLast? ≠ some ';' := by rw [hc]; simpa using c1
  have l2 : s.getLast? ≠ some '{' := by rw [hc]; simpa using c2
  have l3 : s.getLast? ≠ some '}' := by rw [hc]; simpa using c3
  unfold subRegexs
  rw [h3, h5]
  rcases he with rfl | rfl | rfl
  · rw [List.append_nil, re1_id s l3, re2_id s hs.tab l2, re3_id s l1, re4_id s hs.tab l3,
      re5_id _ s hs.eol]
  · rw [show blockBegin = [' ', '{'] from rfl,
      re1_id _ (by rw [List.getLast?_append]; simp), re2_hit s hs.tab,
      re3_id s l1, re4_id s hs.tab l3, re5_id _ s hs.eol]
  · rw [re1_id _ (by rw [List.getLast?_concat]; decide),
      re2_id _ (by simp [hs.tab]) (by rw [List.getLast?_concat]; decide), re3_hit s,
      re4_id s hs.tab l3, re5_id _ s hs.eol]

theorem junRowOk_facts {r : Str} (hj : junRowOk r = true) :
    '\t' ∉ r ∧ (∀ c, r.getLast? = some c → c ≠ ';' ∧ c ≠ '{' ∧ c ≠ '}') ∧
      hasInfix [';', ' ', '#', '#'] r = false ∧ commentBegin.isPrefixOf r = false := by
  unfold junRowOk at hj
  simp only [Bool.and_eq_true, Bool.not_eq_true', List.contains_eq_mem, decide_eq_false_iff_not] at hj
  refine ⟨hj.1.1.1, ?_, hj.1.2, hj.2⟩
  intro c hc
  have := hj.1.1.2
  rw [hc] at this
  simpa [and_assoc] using this

theorem lineOK_of_row (n : Nat) (r : Str) (hb : rowBase r = true) (hj : junRowOk r = true) :
    LineOK (blanks n ++ r) := by
  obtain ⟨c, cs, hr, hc, -, -, -, hnl⟩ := rowBase_facts hb
  obtain ⟨h1, h2, h3, h4⟩ := junRowOk_facts hj
  refine ⟨mt (mem_blanks_append (by decide) n r).1 h1, mt (mem_blanks_append (by decide) n r).1 hnl, ?_, ?_, ?_⟩
  · have hne : r ≠ [] := by simp [hr]
    refine ⟨r.getLast hne, ?_, h2 _ (List.getLast?_eq_some_getLast hne)⟩
    rw [List.getLast?_append, List.getLast?_eq_some_getLast hne]; rfl
  · rw [hasInfix_blanks _ _ (by decide)]; exact h3
  · unfold commentMatch
    simp only []
    rw [dropWhile_blanks n r (by rw [hr]; simpa using hc), h4]
    simp

theorem subRegexs_blockEnd (jf : JunFmt) (hjf : JunOk jf)
    (n : Nat) : subRegexs jf (blanks n ++ blockEnd) = [] := by
  obtain ⟨h3, h5, _⟩ := hjf
  have ht : '\t' ∉ blanks n ++ blockEnd := mt (mem_blanks_append (by decide) n _).1 (by decide)
  have hl : (blanks n ++ blockEnd).getLast? = some '}' := by
    rw [show blockEnd = ['}'] from rfl, List.getLast?_concat]
  have h4 : reBlockEnd (blanks n ++ blockEnd) = true := by
    unfold reBlockEnd
    rw [dropWhile_blanks n blockEnd (by decide)]
    rfl
  unfold subRegexs
  have h1 : cutAtFirst reEmptyBlock (blanks n ++ blockEnd) = blanks n ++ blockEnd := by
    refine cutAtFirst_id_of _ (sufMono_mem '{') (fun x hm => ?_) _ (mt (mem_blanks_append (by decide) n _).1 (by decide))
    unfold reEmptyBlock at hm
    split at hm
    · simp
    · cases hm
  rw [h3, h5, h1, re2_id _ ht (by rw [hl]; decide), re3_id _ (by rw [hl]; decide),
    cutAtFirst_all _ _ h4]
  rfl

/-- what the `split` loop needs from one line of the text -/
def LineP (jf : JunFmt) (l : Str) : Prop := '\n' ∉ l ∧ commentMatch (subRegexs jf l) = false

theorem commentMatch_nil : commentMatch [] = false := rfl

theorem lineOK_with_ending (jf : JunFmt) (hjf : JunOk jf)
    {s : Str} (hs : LineOK s) (e : Str) (he : e = [] ∨ e = blockBegin ∨ e = [';']) :
    LineP jf (s ++ e) ∧ subRegexs jf (s ++ e) = s ∧ s ≠ [] := by
  have hsub := subRegexs_lineOK jf hjf s hs e he
  obtain ⟨c, hc, -⟩ := hs.last
  refine ⟨⟨?_, by rw [hsub]; exact hs.comment⟩, hsub, fun e => by simp [e] at hc⟩
  rw [List.mem_append, not_or]
  exact ⟨hs.nl, by rcases he with rfl | rfl | rfl <;> decide⟩

theorem blockEnd_line (jf : JunFmt) (hjf : JunOk jf) (k : Nat) :
    LineP jf (blanks k ++ blockEnd) ∧ subRegexs jf (blanks k ++ blockEnd) = [] := by
  have hsub := subRegexs_blockEnd jf hjf k
  exact ⟨⟨mt (mem_blanks_append (by decide) k _).1 (by decide), by rw [hsub]; rfl⟩, hsub⟩

theorem nonEmpty_nil : nonEmpty [] = [] := rfl
theorem nonEmpty_cons_nil (ls : List Str) : nonEmpty ([] :: ls) = nonEmpty ls := rfl
theorem nonEmpty_cons_ne {l : Str} (h : l ≠ []) (ls : List Str) :
    nonEmpty (l :: ls) = l :: nonEmpty ls := by
  cases l with
  | nil => exact absurd rfl h
  | cons c cs => rfl

/-- what `_formatted_blocks` appends to a row, given the tokens that follow it -/
def junEnding (jf : JunFmt) (s : Str) : List Tok → Str
  | [] => jf.statementEnd
  | .bb :: _ => blockBegin
  | _ => if commentEnd.isSuffixOf s then [] else jf.statementEnd

theorem junFormatted_some (jf : JunFmt) (ind : Str) (lvl : Int) (s : Str) (toks : List Tok) :
    junFormatted jf ind lvl (some s) toks = (s ++ junEnding jf s toks) :: junFormatted jf ind lvl none toks := by
  rcases toks with _ | ⟨_ | _ | _, r⟩ <;> rfl

theorem junEnding_cases (jf : JunFmt) (hjf : JunOk jf) (s : Str) (toks : List Tok) :
    junEnding jf s toks = [] ∨ junEnding jf s toks = blockBegin ∨ junEnding jf s toks = [';'] := by
  have hs : jf.statementEnd = [] ∨ jf.statementEnd = blockBegin ∨ jf.statementEnd = [';'] :=
    hjf.2.2.elim (.inr ∘ .inr) .inl
  unfold junEnding
  split
  · exact hs
  · exact .inr (.inl rfl)
  · split
    · exact .inl rfl
    · exact hs

theorem junFormatted_spec (jf : JunFmt) (hjf : JunOk jf) (w : Nat) : ∀ (toks : List Tok) (lvl : Int),
    (∀ s ∈ rowsOf toks, LineOK s) →
    (∀ l ∈ junFormatted jf (blanks w) lvl none toks, LineP jf l) ∧
    nonEmpty ((junFormatted jf (blanks w) lvl none toks).map (subRegexs jf)) = rowsOf toks
  | [], lvl, _ => by simp [junFormatted, nonEmpty_nil, rowsOf]
  | .bb :: r, lvl, ht => by
    simpa [junFormatted, rowsOf] using junFormatted_spec jf hjf w r (lvl + 1) ht
  | .be :: r, lvl, ht => by
    have ih := junFormatted_spec jf hjf w r (lvl - 1) ht
    obtain ⟨b1, b2⟩ := blockEnd_line jf hjf (w * (lvl - 1).toNat)
    simp only [junFormatted, rowsOf, List.nil_append, List.map_cons, List.mem_cons, forall_eq_or_imp, strMul_blanks, b2,
      nonEmpty_cons_nil]
    exact ⟨⟨b1, ih.1⟩, ih.2⟩
  | .row n :: r, lvl, ht => by
    have ih := junFormatted_spec jf hjf w r lvl fun s h => ht s (List.mem_cons_of_mem _ h)
    obtain ⟨h1, h2, h3⟩ := lineOK_with_ending jf hjf (ht n List.mem_cons_self) _ (junEnding_cases jf hjf n r)
    simp only [junFormatted, List.nil_append, junFormatted_some, rowsOf, List.map_cons, List.mem_cons, forall_eq_or_imp, h2,
      nonEmpty_cons_ne h3, ih.2]
    exact ⟨⟨h1, ih.1⟩, trivial⟩

theorem hasCommentRowL_wf : (ks : List (String × Cfg)) → wfL (rowOk .juniper) ks = true →
    hasCommentRowL ks = false := by
  intro ks
  induction ks using Cfg.forest_induction with
  | nil => simp [hasCommentRowL]
  | cons k ks rest ih1 ih2 =>
    intro h
    obtain ⟨h1, -, h3, h4⟩ := (wfL_cons _ k ks rest).1 h
    have hk : commentBegin.isPrefixOf k.toList = false := by
      simp only [rowOk, Bool.and_eq_true] at h1
      exact (junRowOk_facts h1.2).2.2.2
    simp [hasCommentRowL, hasCommentRow, hk, ih1 h3, ih2 h4]

theorem junSplitLoop_ok (jf : JunFmt) : ∀ (ls : List Str),
    (∀ l ∈ ls, commentMatch (subRegexs jf l) = false) →
    junSplitLoop jf ls = some (ls.map (subRegexs jf))
  | [], _ => rfl
  | l :: rest, h => by
    have h1 := h l (List.mem_cons_self ..)
    have h2 := junSplitLoop_ok jf rest (fun x hx => h x (List.mem_cons_of_mem _ hx))
    simp [junSplitLoop, h1, h2]

theorem junSplit_joinNl (jf : JunFmt) (L : List Str) (hl : ∀ l ∈ L, LineP jf l) :
    junSplit jf (joinNl L) = some (nonEmpty (L.map (subRegexs jf))) := by
  rw [junSplit, splitNl_joinNl_under (fun x => (junSplitLoop jf x).map nonEmpty) rfl L fun l hl' => (hl l hl').1,
    junSplitLoop_ok jf L fun l hl' => (hl l hl').2]
  rfl

/-- Stated for `rowOk .juniper`; `rowOk .ribbon` and `rowOk .nokia` unfold to the same function, and the callers rely on
that. -/
theorem jun_split_join (jf : JunFmt) (hjf : JunOk jf)
    (w : Nat) (t : Cfg) (h : wf (rowOk .juniper) t = true) :
    ∃ s, junJoin jf (blanks w) t = some s ∧ junSplit jf s = some (render w 0 t) := by
  have hrows : rowsOf (indentBlocks (blanks w) 0 (blocks t)) = render w 0 t :=
    rowsOf_indentBlocks_blocks w 0 t
  have hgood : ∀ s ∈ rowsOf (indentBlocks (blanks w) 0 (blocks t)), LineOK s := by
    rw [hrows]
    intro s hs
    obtain ⟨n, r, rfl, hr⟩ := mem_render (rowOk .juniper) w 0 t h s hs
    simp only [rowOk, Bool.and_eq_true] at hr
    exact lineOK_of_row n _ hr.1 hr.2
  obtain ⟨hl, hne⟩ := junFormatted_spec jf hjf w _ 0 hgood
  rw [hrows] at hne
  have hcr : hasCommentRow t = false := by
    obtain ⟨ks⟩ := t
    exact hasCommentRowL_wf ks h
  exact ⟨_, if_neg (by simp [hcr]), by rw [junSplit_joinNl jf _ hl, hne]⟩

theorem nokiaBounds_none : ∀ (ls : List Str) (i : Nat), (∀ l ∈ ls, l ≠ "configure".toList) →
    nokiaBounds ls i none none = (none, none)
  | [], _, _ => rfl
  | l :: rest, i, h => by
    have h1 : (l == "configure".toList) = false :=
      beq_eq_false_iff_ne.2 (h l (List.mem_cons_self ..))
    have h2 := fun j => nokiaBounds_none rest j (fun x hx => h x (List.mem_cons_of_mem _ hx))
    rw [nokiaBounds]
    simp only [h1, h2, Option.isSome_none, Bool.false_and, Bool.false_eq_true, if_false, ite_self]

theorem renderL_deep (w : Nat) (hw : 0 < w) (ks : List (String × Cfg)) :
    ∀ d, ∀ l ∈ renderL w (d + 1) ks, l.head? = some ' ' := by
  induction ks using Cfg.forest_induction with
  | nil => simp [renderL]
  | cons k ks rest ih1 ih2 =>
    intro d l hl
    simp only [renderL, render, List.mem_cons, List.mem_append] at hl
    rcases hl with rfl | hl | hl
    · obtain ⟨m, hm⟩ : ∃ m, w * (d + 1) = m + 1 := ⟨w * (d + 1) - 1, by
        have : 0 < w * (d + 1) := Nat.mul_pos hw (Nat.succ_pos d)
        omega⟩
      rw [hm]; simp [blanks, List.replicate_succ]
    · exact ih1 (d + 1) l hl
    · exact ih2 d l hl

theorem renderL_top (w : Nat) (hw : 0 < w) : ∀ (ks : List (String × Cfg)), ∀ l ∈ renderL w 0 ks,
    (∃ e ∈ ks, l = e.1.toList) ∨ l.head? = some ' '
  | [], l, hl => by simp [renderL] at hl
  | (k, .mk cks) :: rest, l, hl => by
    simp only [renderL, render, List.mem_cons, List.mem_append] at hl
    rcases hl with rfl | hl | hl
    · left; exact ⟨(k, .mk cks), List.mem_cons_self .., by simp [blanks]⟩
    · right; exact renderL_deep w hw cks 0 l hl
    · rcases renderL_top w hw rest l hl with ⟨e, he, rfl⟩ | h
      · left; exact ⟨e, List.mem_cons_of_mem _ he, rfl⟩
      · right; exact h

/-- with no top-level `configure` row (`WF .nokia`) the bounds select the whole list -/
theorem nokia_split_join (w : Nat) (hw : 0 < w) (t : Cfg) (h : WF .nokia t = true) :
    ∃ s, junJoin nokiaFmt (blanks w) t = some s ∧ nokiaSplit nokiaFmt s = some (render w 0 t) := by
  simp only [WF, Bool.and_eq_true, Bool.not_eq_true'] at h
  obtain ⟨h1, h2⟩ := h
  have hwf : wf (rowOk .juniper) t = true := h1
  obtain ⟨s, hs1, hs2⟩ := jun_split_join nokiaFmt (junOk_fmtOf .nokia) w t hwf
  refine ⟨s, hs1, ?_⟩
  have hb : nokiaBounds (render w 0 t) 0 none none = (none, none) := by
    apply nokiaBounds_none
    intro l hl hc
    cases t with
    | mk ks =>
      simp only [render] at hl
      rcases renderL_top w hw ks l hl with ⟨e, he, rfl⟩ | hh
      · have : e.1 = "configure" := String.toList_inj.1 hc
        have : (ks.any fun e => e.1 == "configure") = true :=
          List.any_eq_true.2 ⟨e, he, by simp [this]⟩
        simp [Cfg.kids, this] at h2
      · rw [hc] at hh; revert hh; decide
  simp [nokiaSplit, hs2, hb]

end Annet.FormatSplit.Lemmas
