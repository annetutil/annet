/-
What a device does with a list of VLAN commands.  Every act takes away `rems` and puts in `adds`, whatever the state
(`mem_apply`); `run_spec` is the one induction over a command list; `Changes` says what a command list must do to turn
`Sold` into `Snew`, by membership in the list only, so every permutation of the list does it too (`Changes.exact`).
-/
import AnnetModel.Spec.VlanDev

namespace Annet.Vlan.Lemmas
open Annet.Vlan Annet.Vlan.Spec

/-- what an act takes away / puts in, whatever the state: `a.apply S = (S \ rems a) ∪ adds a` -/
def rems : Act → Nat → Prop
  | .rem X, v => v ∈ X
  | .add _, _ => False
  | .clear, _ => True
  | .set _, _ => True

def adds : Act → Nat → Prop
  | .add Y, v => v ∈ Y
  | .set Y, v => v ∈ Y
  | _, _ => False

theorem mem_apply (a : Act) (S : List Nat) (v : Nat) : v ∈ a.apply S ↔ (v ∈ S ∧ ¬ rems a v) ∨ adds a v := by
  cases a <;> simp [Act.apply, rems, adds]

section Dev
variable {ρ : Type} (interp : ρ → Option Act)

/-- some command of `cs` does `sel` to `v`; `Rem`: removes it, `Add`: adds it -/
def Does (sel : Act → Nat → Prop) (cs : List ρ) (v : Nat) : Prop := ∃ c ∈ cs, ∃ a, interp c = some a ∧ sel a v

abbrev Rem := Does interp rems
abbrev Add := Does interp adds

/-- `cs` turns `Sold` into `Snew`: every command is understood; what they remove is outside `Snew` and includes
`Sold \ Snew`; what they add is inside `Snew` and includes `Snew \ Sold`.  Only membership in `cs` matters. -/
def Changes (cs : List ρ) (Sold Snew : List Nat) : Prop :=
  (∀ c ∈ cs, ∃ a, interp c = some a) ∧
  ∀ v, (Rem interp cs v → v ∉ Snew) ∧ (v ∈ Sold → v ∉ Snew → Rem interp cs v) ∧
    (Add interp cs v → v ∈ Snew) ∧ (v ∈ Snew → v ∉ Sold → Add interp cs v)

variable {interp}

theorem does_cons {c : ρ} {a : Act} (h : interp c = some a) (sel : Act → Nat → Prop) (cs : List ρ) (v : Nat) :
    Does interp sel (c :: cs) v ↔ sel a v ∨ Does interp sel cs v := by
  simp [Does, h]

theorem does_append (sel : Act → Nat → Prop) (cs cs' : List ρ) (v : Nat) :
    Does interp sel (cs ++ cs') v ↔ Does interp sel cs v ∨ Does interp sel cs' v := by
  simp only [Does, List.mem_append, or_and_right, exists_or]

theorem does_map {ι : Type} {L : List ι} {f : ι → ρ} {g : ι → Act} (h : ∀ i ∈ L, interp (f i) = some (g i))
    (sel : Act → Nat → Prop) (v : Nat) : Does interp sel (L.map f) v ↔ ∃ i ∈ L, sel (g i) v := by
  constructor
  · rintro ⟨_, hc, a, ha, hv⟩
    obtain ⟨i, hi, rfl⟩ := List.mem_map.mp hc
    cases (h i hi).symm.trans ha
    exact ⟨i, hi, hv⟩
  · rintro ⟨i, hi, hv⟩
    exact ⟨f i, List.mem_map_of_mem hi, g i, h i hi, hv⟩

/-- Commands that are all understood and never add what another removes: the device ends with
`(S \ removed) ∪ added`, and no state on the way lacks an id of `S` that is not removed. -/
theorem run_spec (cs : List ρ) (S : List Nat) (hu : ∀ c ∈ cs, ∃ a, interp c = some a)
    (hd : ∀ v, Rem interp cs v → ¬ Add interp cs v) :
    ∃ T S', traceDev interp cs S = some T ∧ runDev interp cs S = some S' ∧
      (∀ v, v ∈ S' ↔ (v ∈ S ∧ ¬ Rem interp cs v) ∨ Add interp cs v) ∧
      ∀ st ∈ T, ∀ v ∈ S, ¬ Rem interp cs v → v ∈ st := by
  induction cs generalizing S with
  | nil => exact ⟨[S], S, rfl, rfl, fun v => by simp [Does], fun st hst v hv _ => by simp_all⟩
  | cons c cs ih =>
    obtain ⟨a, ha⟩ := hu c List.mem_cons_self
    simp only [does_cons ha] at hd ⊢
    obtain ⟨T, S', ht, hr, hm, hk⟩ := ih (a.apply S) (fun c' hc' => hu c' (List.mem_cons_of_mem c hc'))
      fun v h1 h2 => hd v (.inr h1) (.inr h2)
    refine ⟨S :: T, S', by simp [traceDev, ha, ht], by simp [runDev, ha, hr], fun v => ?_, fun st hst v hv hn => ?_⟩
    · rw [hm v, mem_apply]
      constructor
      · rintro (⟨⟨hs, hn⟩ | ha, hr⟩ | hA)
        · exact .inl ⟨hs, fun h => h.elim hn hr⟩
        · exact .inr (.inl ha)
        · exact .inr (.inr hA)
      · rintro (⟨hs, hn⟩ | ha | hA)
        · exact .inl ⟨.inl ⟨hs, fun h => hn (.inl h)⟩, fun h => hn (.inr h)⟩
        · exact .inl ⟨.inr ha, fun h => hd v (.inr h) (.inl ha)⟩
        · exact .inr hA
    · rcases List.mem_cons.mp hst with rfl | hst
      · exact hv
      · exact hk st hst v ((mem_apply a S v).mpr (.inl ⟨hv, fun h => hn (.inl h)⟩)) fun h => hn (.inr h)

theorem Changes.exact {cs : List ρ} {Sold Snew : List Nat} (h : Changes interp cs Sold Snew) :
    ∀ cs', cs'.Perm cs → EndsIn interp cs' Sold Snew ∧ KeepsCommon interp cs' Sold Snew := by
  intro cs' hp
  have hR : ∀ v, Rem interp cs' v ↔ Rem interp cs v := fun v => by simp only [Does, hp.mem_iff]
  have hA : ∀ v, Add interp cs' v ↔ Add interp cs v := fun v => by simp only [Does, hp.mem_iff]
  obtain ⟨T, S', ht, hr, hm, hk⟩ := run_spec cs' Sold (fun c hc => h.1 c (hp.mem_iff.mp hc))
    fun v h1 h2 => (h.2 v).1 ((hR v).mp h1) ((h.2 v).2.2.1 ((hA v).mp h2))
  refine ⟨⟨S', hr, fun v => ?_⟩, T, ht, fun st hst v hv hn => hk st hst v hv fun h' => (h.2 v).1 ((hR v).mp h') hn⟩
  rw [hm v, hR, hA]
  obtain ⟨h1, h2, h3, h4⟩ := h.2 v
  constructor
  · rintro (⟨hs, hn⟩ | ha)
    · exact Decidable.byContradiction fun hnn => hn (h2 hs hnn)
    · exact h3 ha
  · intro hn
    by_cases hs : v ∈ Sold
    · exact .inl ⟨hs, fun hr => h1 hr hn⟩
    · exact .inr (h4 hn hs)

theorem changes_clear {c : ρ} (hc : interp c = some .clear) (Sold : List Nat) : Changes interp [c] Sold [] := by
  refine ⟨fun c' hc' => ⟨.clear, by cases List.mem_singleton.mp hc'; exact hc⟩, fun v => ?_⟩
  have h0 : ∀ sel, ¬ Does interp sel [] v := fun _ => by simp [Does]
  simp [Rem, Add, does_cons hc, h0, rems, adds]

variable (interp)

theorem nil_exact (Sold Snew : List Nat) (h : ∀ v, v ∈ Sold ↔ v ∈ Snew) :
    ∀ cs : List ρ, cs.Perm [] → EndsIn interp cs Sold Snew ∧ KeepsCommon interp cs Sold Snew :=
  Changes.exact ⟨nofun, fun v => by simp [Rem, Add, Does, h]⟩

end Dev

end Annet.Vlan.Lemmas
