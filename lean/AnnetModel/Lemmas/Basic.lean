/-
Facts about core types (`Except`, `Option`, `List`) that core Lean does not have and that several families need, and
about the position-wise list relation `Forall2` of `Spec/Forall2.lean` (core has no `List.Forall₂`).
Nothing here mentions the model.  Core Lean only.
-/
import AnnetModel.Spec.Forall2

namespace Except
variable {ε α β γ : Type}

theorem bind_eq_ok {x : Except ε α} {f : α → Except ε β} {b : β} :
    (x >>= f) = .ok b ↔ ∃ a, x = .ok a ∧ f a = .ok b := by
  cases x <;> simp [bind, Except.bind]

theorem map_eq_ok {x : Except ε α} {f : α → β} {b : β} : x.map f = .ok b ↔ ∃ a, x = .ok a ∧ f a = b := by
  cases x <;> simp [Except.map]

theorem map_map (f : α → β) (g : β → γ) (x : Except ε α) : (x.map f).map g = x.map fun a => g (f a) := by
  cases x <;> rfl

theorem map_id' (x : Except ε α) : x.map (fun a => a) = x := by
  cases x <;> rfl

theorem map_bind (x : Except ε α) (g : α → β) (F : β → Except ε γ) : (x.map g >>= F) = x >>= fun a => F (g a) := by
  cases x <;> rfl

theorem bind_map (x : Except ε α) (f : α → Except ε β) (g : β → γ) :
    (x >>= fun a => (f a).map g) = (x >>= f).map g := by
  cases x <;> rfl

theorem toOption_map (f : α → β) (x : Except ε α) : (x.map f).toOption = x.toOption.map f := by
  cases x <;> rfl

/-- `Except` (and `Cfg`) have no `DecidableEq`: a closed run is evaluated through a decidable view of its result. -/
theorem ok_of_toOption_map {x : Except ε α} {f : α → β} {b : β} (h : x.toOption.map f = some b) :
    ∃ a, x = .ok a ∧ f a = b := by
  cases x with
  | error e => cases h
  | ok a => exact ⟨a, rfl, Option.some.inj h⟩

end Except

namespace List
variable {α β : Type}

theorem find?_congr' {p q : α → Bool} {l : List α} (h : ∀ x ∈ l, p x = q x) : l.find? p = l.find? q := by
  induction l with
  | nil => rfl
  | cons a l ih =>
    rw [List.find?_cons, List.find?_cons, h a List.mem_cons_self, ih fun x hx => h x (List.mem_cons_of_mem _ hx)]

theorem filterMap_congr' {f g : α → Option β} {l : List α} (h : ∀ x ∈ l, f x = g x) :
    l.filterMap f = l.filterMap g := by
  induction l with
  | nil => rfl
  | cons a l ih =>
    rw [List.filterMap_cons, List.filterMap_cons, h a List.mem_cons_self,
      ih fun x hx => h x (List.mem_cons_of_mem _ hx)]

theorem inj_of_nodup_map (f : α → β) (l : List α) (hn : (l.map f).Nodup) :
    ∀ a ∈ l, ∀ b ∈ l, f a = f b → a = b := by
  rw [List.Nodup, List.pairwise_map] at hn
  exact List.Pairwise.forall_of_forall_of_flip (fun _ _ _ => rfl) (hn.imp fun h e => (h e).elim)
    (hn.imp fun h e => (h e.symm).elim)

theorem Nodup.one_lt_length_iff {l : List α} (h : l.Nodup) : 1 < l.length ↔ ∃ a b, a ≠ b ∧ a ∈ l ∧ b ∈ l := by
  rcases l with _ | ⟨a, _ | ⟨b, rest⟩⟩
  · simp
  · simp only [List.length_singleton, Nat.lt_irrefl, List.mem_singleton, false_iff, not_exists, not_and]
    rintro x y hne rfl rfl
    exact hne rfl
  · have hab : a ≠ b := by rintro rfl; simp at h
    simp only [List.length_cons, Nat.lt_add_left_iff_pos, Nat.zero_lt_succ, true_iff]
    exact ⟨a, b, hab, List.mem_cons_self, List.mem_cons_of_mem _ List.mem_cons_self⟩

theorem nodup_snoc {l : List α} {a : α} (h : l.Nodup) (ha : a ∉ l) : (l ++ [a]).Nodup :=
  List.nodup_append.2 ⟨h, List.pairwise_singleton _ _, fun _ hx _ hy e =>
    ha (List.mem_singleton.1 hy ▸ e ▸ hx)⟩

theorem filter_filter_of_imp (p q : α → Bool) (l : List α) (h : ∀ x ∈ l, q x = true → p x = true) :
    (l.filter p).filter q = l.filter q := by
  rw [List.filter_filter]
  exact List.filter_congr fun x hx => by cases hq : q x <;> simp [h x hx, hq]

theorem find?_filter_of_imp (p q : α → Bool) (l : List α) (h : ∀ x ∈ l, q x = true → p x = true) :
    (l.filter p).find? q = l.find? q := by
  rw [List.find?_filter]
  exact find?_congr' fun x hx => by cases hq : q x <;> simp [h x hx, hq]

theorem mapM_eq_some {f : α → Option β} {l : List α} {ys : List β} :
    l.mapM f = some ys ↔ l.map f = ys.map some := by
  induction l generalizing ys with
  | nil => cases ys <;> simp
  | cons a l ih =>
    rw [List.mapM_cons]
    cases hf : f a with
    | none => cases ys <;> simp [hf]
    | some b =>
      cases hm : l.mapM f with
      | none =>
        cases ys with
        | nil => simp [hf]
        | cons y ys => simp [hf, ← ih, hm]
      | some zs =>
        cases ys with
        | nil => simp [hf]
        | cons y ys =>
          have := @ih ys
          simp [hf, ← this, hm]

theorem mem_mapM_some {f : α → Option β} {l : List α} {ys : List β} (h : l.mapM f = some ys) :
    (∀ y ∈ ys, ∃ x ∈ l, f x = some y) ∧ ∀ x ∈ l, ∃ y ∈ ys, f x = some y := by
  have e := mapM_eq_some.1 h
  refine ⟨fun y hy => ?_, fun x hx => ?_⟩
  · exact List.mem_map.1 (e ▸ List.mem_map_of_mem (f := some) hy)
  · obtain ⟨y, hy, hxy⟩ := List.mem_map.1 (e ▸ List.mem_map_of_mem (f := f) hx)
    exact ⟨y, hy, hxy.symm⟩

theorem perm_flatMap_left {f g : α → List β} :
    ∀ (l : List α), (∀ a ∈ l, (f a).Perm (g a)) → (l.flatMap f).Perm (l.flatMap g)
  | [], _ => by simp
  | a :: l, h => by
    simp only [List.flatMap_cons]
    exact (h a List.mem_cons_self).append (perm_flatMap_left l fun b hb => h b (List.mem_cons_of_mem _ hb))

end List

namespace Annet

/-! ### lists whose elements carry a key (Python dicts, kept as lists in insertion order) -/
namespace Keyed
variable {α β κ : Type} [BEq κ] [LawfulBEq κ]

theorem any_key_iff (key : α → κ) (k : κ) (l : List α) : (l.any fun x => key x == k) = true ↔ k ∈ l.map key := by
  simp only [List.any_eq_true, beq_iff_eq, List.mem_map]

theorem filter_unique (key : α → κ) (k : κ) : ∀ l : List α, (l.map key).Nodup →
    l.filter (fun x => key x == k) = (l.find? (fun x => key x == k)).toList
  | [], _ => rfl
  | a :: l, hn => by
    simp only [List.map_cons, List.nodup_cons] at hn
    rw [List.filter_cons, List.find?_cons]
    cases h : key a == k with
    | true =>
      have hnil : l.filter (fun x => key x == k) = [] := List.filter_eq_nil_iff.2 fun x hx hxy =>
        hn.1 (by rw [beq_iff_eq.1 h, ← beq_iff_eq.1 hxy]; exact List.mem_map_of_mem hx)
      simp only [if_true, hnil, Option.toList_some]
    | false => simp only [Bool.false_eq_true, if_false, filter_unique key k l hn.2]

/-- `d[k] = f(d[k]) if k in d else new` on a list keyed by `key`: the element of key `k` is updated in place, a new
key is appended.  This is the shape of `Patch.pushItem`, `Patch.pushRule`, `Acl.mergeInto`, `Format.odictSet`, `Implicit.setKey`,
`Rpl.assocSet`, `Rpl.groupAdd` and of one step of `Cfg.insertPath`. -/
def upsert (key : α → κ) (k : κ) (f : α → α) (new : α) (l : List α) : List α :=
  if l.any (key · == k) then l.map fun x => if key x == k then f x else x else l ++ [new]

section
variable {key : α → κ} {k : κ} {f : α → α} {new : α} {l : List α}

theorem upsert_of_mem (h : k ∈ l.map key) :
    upsert key k f new l = l.map fun x => if key x == k then f x else x :=
  if_pos ((any_key_iff key k l).2 h)

theorem upsert_of_not_mem (h : k ∉ l.map key) : upsert key k f new l = l ++ [new] :=
  if_neg (mt (any_key_iff key k l).1 h)

theorem map_key_update (hf : ∀ x, key x = k → key (f x) = k) (l : List α) :
    (l.map fun x => if key x == k then f x else x).map key = l.map key := by
  rw [List.map_map]
  refine List.map_congr_left fun x _ => ?_
  rw [Function.comp_apply]
  split
  · next h => rw [hf x (beq_iff_eq.1 h), beq_iff_eq.1 h]
  · rfl

theorem map_key_upsert (hf : ∀ x, key x = k → key (f x) = k) (hnew : key new = k) :
    (upsert key k f new l).map key = if k ∈ l.map key then l.map key else l.map key ++ [k] := by
  by_cases h : k ∈ l.map key
  · rw [upsert_of_mem h, if_pos h, map_key_update hf]
  · rw [upsert_of_not_mem h, if_neg h, List.map_append, List.map_singleton, hnew]

theorem nodup_upsert (hf : ∀ x, key x = k → key (f x) = k) (hnew : key new = k) (h : (l.map key).Nodup) :
    ((upsert key k f new l).map key).Nodup := by
  rw [map_key_upsert hf hnew]
  split
  · exact h
  · exact List.nodup_snoc h ‹_›

theorem mem_upsert {y : α} (h : y ∈ upsert key k f new l) :
    (y ∈ l ∧ key y ≠ k) ∨ (∃ x ∈ l, key x = k ∧ y = f x) ∨ (k ∉ l.map key ∧ y = new) := by
  by_cases hk : k ∈ l.map key
  · rw [upsert_of_mem hk] at h
    obtain ⟨x, hx, rfl⟩ := List.mem_map.1 h
    by_cases hxk : key x = k
    · rw [if_pos (beq_iff_eq.2 hxk)]; exact .inr (.inl ⟨x, hx, hxk, rfl⟩)
    · rw [if_neg (mt beq_iff_eq.1 hxk)]; exact .inl ⟨hx, hxk⟩
  · rw [upsert_of_not_mem hk] at h
    rcases List.mem_append.1 h with h | h
    · exact .inl ⟨h, fun e => hk (e ▸ List.mem_map_of_mem h)⟩
    · exact .inr (.inr ⟨hk, List.mem_singleton.1 h⟩)


theorem find?_upsert (hf : ∀ x, key x = k → key (f x) = k) (hnew : key new = k) (k' : κ) :
    (upsert key k f new l).find? (key · == k') =
      if k' == k then some (((l.find? (key · == k)).map f).getD new) else l.find? (key · == k') := by
  have upd : ∀ l : List α, (l.map fun x => if key x == k then f x else x).find? (key · == k') =
      if k' == k then (l.find? (key · == k)).map f else l.find? (key · == k') := by
    intro l
    induction l with
    | nil => simp
    | cons x l ih =>
      rw [List.map_cons, List.find?_cons, List.find?_cons, List.find?_cons, ih]
      by_cases hx : key x = k
      · rw [if_pos (beq_iff_eq.2 hx), hf x hx, beq_iff_eq.2 hx, hx]
        by_cases hk : k' = k
        · simp [hk]
        · have : (k == k') = false := beq_eq_false_iff_ne.2 (Ne.symm hk)
          simp [hk, this]
      · rw [if_neg (mt beq_iff_eq.1 hx)]
        by_cases hk : k' = k
        · have : (key x == k) = false := beq_eq_false_iff_ne.2 hx
          simp [hk, this]
        · simp [hk]
  by_cases hm : k ∈ l.map key
  · rw [upsert_of_mem hm, upd]
    split
    · obtain ⟨x, hx, hk⟩ := List.mem_map.1 hm
      cases hfind : l.find? (key · == k) with
      | none => exact absurd (List.find?_eq_none.1 hfind x hx) (by simp [hk])
      | some y => rfl
    · rfl
  · have hnone : l.find? (key · == k) = none :=
      List.find?_eq_none.2 fun x hx h => hm (beq_iff_eq.1 h ▸ List.mem_map_of_mem hx)
    rw [upsert_of_not_mem hm, List.find?_append, hnone]
    by_cases hk : k' = k
    · simp [hk, hnone, hnew]
    · simp [hk, hnew, Ne.symm hk]

end

/-- a keyed list built by `upsert` from the events `ds`: the keys are distinct, every element satisfies `Q` of the events,
and every event of the kind `C` has its key in the list -/
def Built {ι : Type} (key : α → κ) (Q : α → List ι → Prop) (C : ι → Prop) (kd : ι → κ) (l : List α) (ds : List ι) : Prop :=
  (l.map key).Nodup ∧ (∀ x ∈ l, Q x ds) ∧ ∀ i ∈ ds, C i → kd i ∈ l.map key

theorem Built.upsert {ι : Type} {key : α → κ} {Q : α → List ι → Prop} {C : ι → Prop} {kd : ι → κ} {l : List α} {ds : List ι}
    (h : Built key Q C kd l ds) (i : ι) (f : α → α) (new : α) (hf : ∀ x, key x = kd i → key (f x) = kd i)
    (hnew : key new = kd i) (hmiss : ∀ x, key x ≠ kd i → Q x ds → Q x (ds ++ [i]))
    (hhit : ∀ x, key x = kd i → Q x ds → Q (f x) (ds ++ [i]))
    (hfresh : kd i ∉ l.map key → Q new (ds ++ [i])) : Built key Q C kd (upsert key (kd i) f new l) (ds ++ [i]) := by
  refine ⟨nodup_upsert hf hnew h.1, fun y hy => ?_, fun i' hi' hc => ?_⟩
  · rcases mem_upsert hy with ⟨hy, hk⟩ | ⟨x, hx, hk, rfl⟩ | ⟨hk, rfl⟩
    · exact hmiss y hk (h.2.1 y hy)
    · exact hhit x hk (h.2.1 x hx)
    · exact hfresh hk
  · rw [map_key_upsert hf hnew]
    rcases List.mem_append.1 hi' with hi' | hi'
    · split
      · exact h.2.2 i' hi' hc
      · exact List.mem_append_left _ (h.2.2 i' hi' hc)
    · rw [List.mem_singleton.1 hi']
      split
      · assumption
      · exact List.mem_append_right _ List.mem_cons_self

theorem flatMap_filter_perm (key : α → κ) :
    ∀ (ls : List κ), ls.Nodup → ∀ (l : List α), (∀ x ∈ l, key x ∈ ls) →
      (ls.flatMap fun k => l.filter (fun x => key x == k)).Perm l := by
  intro ls
  induction ls with
  | nil =>
    intro _ l h
    cases l with
    | nil => simp
    | cons x xs => exact absurd (h x List.mem_cons_self) (by simp)
  | cons k ks ih =>
    intro hnd l h
    rw [List.nodup_cons] at hnd
    rw [List.flatMap_cons]
    have hrest : (ks.flatMap fun k' => l.filter (fun x => key x == k')) =
        (ks.flatMap fun k' => (l.filter (fun x => !(key x == k))).filter (fun x => key x == k')) := by
      rw [List.flatMap_def, List.flatMap_def]
      refine congrArg _ (List.map_congr_left fun k' hk' => ?_)
      rw [List.filter_filter]
      apply List.filter_congr
      intro x _
      by_cases hx : key x = k'
      · have : k' ≠ k := by intro hh; exact hnd.1 (hh ▸ hk')
        simp [hx, this]
      · simp [hx]
    rw [hrest]
    have h2 := ih hnd.2 (l.filter (fun x => !(key x == k))) (by
      intro x hx
      have hm := List.mem_filter.1 hx
      have := h x hm.1
      rcases List.mem_cons.1 this with hk | hk
      · simp [hk] at hm
      · exact hk)
    exact (List.Perm.append_left _ h2).trans (List.filter_append_perm _ l)

theorem part {γ : Type} (key : α → κ) (ck : γ → κ) (φ : γ → List β) (f : α → β)
    (cs : List γ) (l : List α) (hnd : (cs.map ck).Nodup) (hcov : ∀ x ∈ l, key x ∈ cs.map ck)
    (hφ : ∀ c ∈ cs, (φ c).Perm ((l.filter fun x => key x == ck c).map f)) : (cs.flatMap φ).Perm (l.map f) := by
  refine (List.perm_flatMap_left cs hφ).trans ?_
  have := (flatMap_filter_perm key _ hnd l hcov).map f
  rwa [List.map_flatMap, List.flatMap_map] at this

end Keyed
end Annet

namespace Annet.Deploy.Lemmas

theorem Forall2.imp_mem {α β : Type} {R S : α → β → Prop} {l1 : List α} {l2 : List β} (h : Forall2 R l1 l2)
    (himp : ∀ a b, a ∈ l1 → b ∈ l2 → R a b → S a b) : Forall2 S l1 l2 := by
  induction h with
  | nil => exact .nil
  | cons hab _ ih =>
    refine .cons (himp _ _ List.mem_cons_self List.mem_cons_self hab) (ih ?_)
    intro a b ha hb
    exact himp a b (List.mem_cons_of_mem _ ha) (List.mem_cons_of_mem _ hb)

theorem Forall2.mem_left {α β : Type} {R : α → β → Prop} {l1 : List α} {l2 : List β} (h : Forall2 R l1 l2)
    {a : α} (ha : a ∈ l1) : ∃ b ∈ l2, R a b := by
  induction h with
  | nil => cases ha
  | cons hab _ ih =>
    rcases List.mem_cons.1 ha with rfl | ha
    · exact ⟨_, List.mem_cons_self, hab⟩
    · obtain ⟨b, hb, hr⟩ := ih ha
      exact ⟨b, List.mem_cons_of_mem _ hb, hr⟩

theorem Forall2.map_eq {α β γ : Type} {R : α → β → Prop} {f : α → γ} {g : β → γ} {l1 : List α} {l2 : List β}
    (h : Forall2 R l1 l2) (hfg : ∀ a b, R a b → f a = g b) : l1.map f = l2.map g := by
  induction h with
  | nil => rfl
  | cons hab _ ih => rw [List.map_cons, List.map_cons, hfg _ _ hab, ih]

theorem Forall2.nil_iff {α β : Type} {R : α → β → Prop} {l1 : List α} : Forall2 R l1 [] ↔ l1 = [] :=
  ⟨fun h => by cases h; rfl, fun h => h ▸ .nil⟩

theorem Forall2.cons_iff {α β : Type} {R : α → β → Prop} {l1 : List α} {b : β} {l2 : List β} :
    Forall2 R l1 (b :: l2) ↔ ∃ a l1', R a b ∧ Forall2 R l1' l2 ∧ l1 = a :: l1' :=
  ⟨fun h => by cases h with | cons hab h => exact ⟨_, _, hab, h, rfl⟩,
   fun ⟨_, _, hab, h, e⟩ => e ▸ .cons hab h⟩

theorem Forall2.get {α β : Type} {R : α → β → Prop} {l1 : List α} {l2 : List β} (h : Forall2 R l1 l2) :
    ∀ {j : Nat} {b : β}, l2[j]? = some b → ∃ a, l1[j]? = some a ∧ R a b := by
  induction h with
  | nil => intro j b hb; simp at hb
  | cons hab _ ih =>
    intro j b hb
    cases j with
    | zero => simp only [List.getElem?_cons_zero, Option.some.injEq] at hb; exact ⟨_, rfl, hb ▸ hab⟩
    | succ j => exact ih (by simpa using hb)

theorem Forall2.congr_mem {α β : Type} {R S : α → β → Prop} {l1 : List α} {l2 : List β}
    (h : ∀ a, ∀ b ∈ l2, R a b ↔ S a b) : Forall2 R l1 l2 ↔ Forall2 S l1 l2 :=
  ⟨fun hr => hr.imp_mem fun a b _ hb => (h a b hb).1, fun hs => hs.imp_mem fun a b _ hb => (h a b hb).2⟩

theorem Forall2.exists_of_forall {α β : Type} {R : α → β → Prop} :
    ∀ (l : List β), (∀ b ∈ l, ∃ a, R a b) → ∃ l', Forall2 R l' l
  | [], _ => ⟨[], .nil⟩
  | b :: l, h => by
    obtain ⟨a, ha⟩ := h b List.mem_cons_self
    obtain ⟨l', hl⟩ := Forall2.exists_of_forall l fun c hc => h c (List.mem_cons_of_mem _ hc)
    exact ⟨a :: l', .cons ha hl⟩

theorem Forall2.mem_right {α β : Type} {R : α → β → Prop} {as : List α} {bs : List β} (h : Forall2 R as bs) :
    ∀ b ∈ bs, ∃ a ∈ as, R a b := by
  induction h with
  | nil => intro b hb; cases hb
  | cons hab _ ih =>
    intro b hb
    rcases List.mem_cons.mp hb with e | e
    · subst e; exact ⟨_, List.mem_cons_self, hab⟩
    · obtain ⟨a, ha, hr⟩ := ih b e
      exact ⟨a, List.mem_cons_of_mem _ ha, hr⟩

theorem forall2_imp {α β : Type} {R S : α → β → Prop} {as : List α} {bs : List β} (h : Forall2 R as bs)
    (hi : ∀ a b, R a b → S a b) : Forall2 S as bs :=
  h.imp_mem fun a b _ _ => hi a b

theorem Forall2.ne_nil {α β : Type} {R : α → β → Prop} {as : List α} {bs : List β} (h : Forall2 R as bs)
    (hne : as ≠ []) : bs ≠ [] := by
  cases h with
  | nil => exact absurd rfl hne
  | cons _ _ => simp

end Annet.Deploy.Lemmas
