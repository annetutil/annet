/-
Lemmas for C20 (the effect model of `Model/Effects.lean`).  A step of a job leaves the process state alone (`rowStep_proc`,
`itemStep_proc`: under which copies and which confinement); the scan of `_find_acl_matches` by its
closed form (`scanPass_eq`, `findAclMatches_eq`).
-/
import AnnetModel.Model.Effects
import AnnetModel.Spec.EffectsSeq
import AnnetModel.Lemmas.Diff

namespace Annet.Effects
open Annet Annet.Rules Annet.Diff

theorem confinedL_glob {L : LogicSem} (h : ConfinedL L) (key : List String) (c : Cells) :
    (L key c).cells.glob = c.glob := by
  have := h key c c.glob
  have hc : ({ c with glob := c.glob } : Cells) = c := rfl
  rw [hc] at this
  rw [this]

theorem confinedL_indep {L : LogicSem} (h : ConfinedL L) (key : List String) (a : Attrs) (b : Buckets) (g g' : Attrs) :
    (L key ⟨a, b, g'⟩).emits = (L key ⟨a, b, g⟩).emits ∧ (L key ⟨a, b, g'⟩).err = (L key ⟨a, b, g⟩).err ∧
    (L key ⟨a, b, g'⟩).cells.rule = (L key ⟨a, b, g⟩).cells.rule := by
  have := h key ⟨a, b, g⟩ g'
  simp only at this
  rw [this]
  exact ⟨rfl, rfl, rfl⟩

theorem confinedD_glob {D : DSem} (h : ConfinedD D) (a g : Attrs) : (D a g).glob = g := by
  have := h a g g
  rw [this]

theorem confinedD_indep {D : DSem} (h : ConfinedD D) (a g g' : Attrs) :
    (D a g').attrs = (D a g).attrs ∧ (D a g').obs = (D a g).obs ∧ (D a g').err = (D a g).err := by
  have := h a g g'
  rw [this]
  exact ⟨rfl, rfl, rfl⟩

theorem phaseLogic_confined (ps : List Phase) : ConfinedL (phaseLogic ps) := by
  intro key c g
  simp only [phaseLogic]

theorem effDLogic_confined (effs : List Eff) : ConfinedD (effDLogic effs) := by
  intro a g g'
  simp only [effDLogic]

theorem rowStep_emits (fl : Flags) (T : Tables) (st : JSt) (r : Nat) : (rowStep fl T st r).emits = st.emits := by
  unfold rowStep
  split
  · rfl
  · split
    · rfl
    · dsimp only
      split
      · split <;> rfl
      · rfl

/-- a row writes neither the rulebook nor a global: `glob` is safe with a confined diff-logic, `rb[r]` with
`_select_match`'s copy or, without it, when the diff-logic leaves its match as it was -/
theorem rowStep_proc (fl : Flags) (T : Tables) (st : JSt) (r : Nat) (hc : ConfinedD (T.dlogic r))
    (h : fl.copyMatch = true ∨ PureD (T.dlogic r)) : (rowStep fl T st r).proc = st.proc := by
  unfold rowStep
  split
  · rfl
  · split
    · rfl
    · next a ha =>
      dsimp only
      split
      · split <;> simp only [JSt.proc, confinedD_glob hc]
      · next hm =>
        obtain ⟨hr, rfl⟩ := List.getElem?_eq_some_iff.mp ha
        simp only [JSt.proc, confinedD_glob hc, h.resolve_left hm _ st.glob, List.set_getElem_self]

/-- an item writes neither: `glob` is safe with a confined logic, `rb` with one of the two copies of the attrs -/
theorem itemStep_proc (fl : Flags) (T : Tables) (st : JSt) (it : Item) (hc : ConfinedL (T.logic it.rule))
    (h : fl.copyMatch = true ∨ fl.copyAttrs = true) : (itemStep fl T st it).proc = st.proc := by
  unfold itemStep
  split
  · rfl
  · split
    · rfl
    · dsimp only
      split
      · simp only [JSt.proc, confinedL_glob hc]
      · next ha =>
        rw [if_pos (h.resolve_right ha)]
        simp only [JSt.proc, confinedL_glob hc]

/-- `hrow`: every row is protected by `_select_match`'s copy or by a diff-logic that leaves its match alone; `hitem`:
every item by one of the two copies. -/
theorem runJobSt_proc_of_frame (fl : Flags) (T : Tables) (hc : T.Confined)
    (hrow : ∀ r, fl.copyMatch = true ∨ PureD (T.dlogic r)) (hitem : fl.copyMatch = true ∨ fl.copyAttrs = true)
    (p : Proc) (j : Job) : (runJobSt fl T p j).proc = p := by
  unfold runJobSt
  refine List.foldlRecOn (motive := fun s : JSt => s.proc = p) _ _ ?_ fun s hs x _ =>
    (itemStep_proc fl T s x (hc.1 _) hitem).trans hs
  exact List.foldlRecOn (motive := fun s : JSt => s.proc = p) _ _ rfl fun s hs x _ =>
    (rowStep_proc fl T s x (hc.2 _) (hrow x)).trans hs
theorem after_eq_of_fix (fl : Flags) (T : Tables) (p : Proc) (hfix : ∀ j, (runJob fl T p j).2 = p) :
    ∀ js : List Job, after fl T p js = p
  | [] => rfl
  | j :: js => by
    rw [after, hfix j]
    exact after_eq_of_fix fl T p hfix js

theorem runJobs_eq_of_fix (fl : Flags) (T : Tables) (p : Proc) (hfix : ∀ j, (runJob fl T p j).2 = p) :
    ∀ js : List Job, runJobs fl T p js = js.map (fun j => (runJob fl T p j).1)
  | [] => rfl
  | j :: js => by
    rw [runJobs, hfix j, runJobs_eq_of_fix fl T p hfix js]
    rfl

/-- Under make_patch's copy a confined logic leaves the state as it was but for what it yields: `itemStep` appends its
emits and sets `err`, and both are those of the same step taken with nothing yielded yet. -/
theorem itemStep_copyAttrs (fl : Flags) (T : Tables) (h : fl.copyAttrs = true) (it : Item)
    (hc : ConfinedL (T.logic it.rule)) (st : JSt) (he : st.err = none) (hem : st.emits = []) (es : List Emit) :
    itemStep fl T { st with emits := es } it =
      { st with emits := es ++ (itemStep fl T st it).emits, err := (itemStep fl T st it).err } := by
  simp only [itemStep, preCell, he, h, Option.isSome_none, Bool.false_eq_true, if_false, if_true]
  split <;> simp [hem, confinedL_glob hc]

theorem foldl_itemStep_err (fl : Flags) (T : Tables) (st : JSt) (h : st.err.isSome = true) :
    ∀ items : List Item, items.foldl (itemStep fl T) st = st
  | [] => rfl
  | it :: rest => by
    rw [List.foldl_cons, itemStep, if_pos h]
    exact foldl_itemStep_err fl T st h rest

theorem items_seq (fl : Flags) (T : Tables) (h : fl.copyAttrs = true) (hc : T.Confined) (st : JSt)
    (he : st.err = none) (hem : st.emits = []) (items : List Item) (es : List Emit) :
    let alone := fun it => ((itemStep fl T st it).emits, (itemStep fl T st it).err)
    items.foldl (itemStep fl T) { st with emits := es } =
      { st with emits := es ++ (seqOut (items.map alone)).1, err := (seqOut (items.map alone)).2 } := by
  induction items generalizing es with
  | nil => simp [seqOut, he]
  | cons it rest ih =>
    intro alone
    rw [List.foldl_cons, itemStep_copyAttrs fl T h it (hc.1 _) st he hem, List.map_cons]
    cases hr : (itemStep fl T st it).err with
    | some e => rw [foldl_itemStep_err _ _ _ rfl]; simp [seqOut, alone, hr]
    | none => simpa [seqOut, alone, hr, he] using ih (es ++ (itemStep fl T st it).emits)

mutual
  theorem annotate_erase : (t : Cfg) → (rules : PRules) → (a : ACfg) → annotate rules t = .ok a →
      annotate rules (eraseA a) = .ok a
    | .mk ks, rules, .mk l, h => by
      rw [eraseA, annotate, annotateList_erase ks rules l (Diff.Lemmas.annotate_ok h)]
      rfl
  theorem annotateList_erase : (ks : List (String × Cfg)) → (rules : PRules) → (l : List (String × PMatch × ACfg)) →
      annotateList rules ks = .ok l → annotateList rules (eraseL l) = .ok l
    | [], rules, l, h => by
      rw [annotateList] at h
      cases h
      rfl
    | (row, ch) :: rest, rules, l, h => by
      rcases Diff.Lemmas.annotateList_cons_ok.1 h with ⟨-, h⟩ | ⟨m, cr, ch', rest', hm, hc, hr, rfl⟩
      · exact annotateList_erase rest rules l h
      · rw [eraseL]
        exact Diff.Lemmas.annotateList_cons_ok.2 (.inr ⟨m, cr, ch', rest', hm, annotate_erase ch cr ch' hc,
          annotateList_erase rest rules rest' hr, rfl⟩)
end

/-- **`scanPass` in closed form**: scratch fields are overwritten exactly where the regexp matches, and the matches do
not depend on them. -/
theorem scanPass_eq (m : Nat → Option Groups) (isRev : Bool) : ∀ (sc : List (Option Groups)) (i : Nat),
    scanPass m isRev i sc =
      (sc.mapIdx fun k s => match m (i + k) with | some g => some g | none => s,
       (List.range sc.length).filterMap fun k => (m (i + k)).map fun _ => (i + k, isRev))
  | [], _ => rfl
  | s :: rest, i => by
    have e : ∀ k, i + 1 + k = i + (k + 1) := fun k => by omega
    rw [scanPass, scanPass_eq m isRev rest (i + 1), List.mapIdx_cons, List.length_cons, List.range_succ_eq_map,
      List.filterMap_cons, List.filterMap_map]
    simp only [Function.comp_def, e, Nat.add_zero]
    cases m i <;> rfl

theorem findAclMatches_eq (dm rm : Nat → Option Groups) (sc : List (Option Groups)) :
    findAclMatches dm rm sc =
      (sc.mapIdx fun k s => match rm k with | some g => some g | none => match dm k with | some g => some g | none => s,
       ((List.range sc.length).filterMap fun k => (dm k).map fun _ => (k, false)) ++
        (List.range sc.length).filterMap fun k => (rm k).map fun _ => (k, true)) := by
  simp only [findAclMatches, scanPass_eq, Nat.zero_add, List.length_mapIdx, List.mapIdx_mapIdx, Function.comp_def]

end Annet.Effects
