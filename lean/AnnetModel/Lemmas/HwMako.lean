/-
C18, the first pass of `_escape_mako` (`escapePercent_safe`).
-/
import AnnetModel.Model.Hw
import AnnetModel.Spec.HwChecks

namespace Annet.Hw.Lemmas
open Annet.Hw

theorem isPrefixOf_escapePercent (k : List Char) (hk : '\n' ∉ k) :
    ∀ cs, k.isPrefixOf cs = true → k.isPrefixOf (escapePercent false false cs) = true := by
  induction k with
  | nil => intro cs _; simp
  | cons a k ih =>
    intro cs h
    cases cs with
    | nil => simp at h
    | cons c cs =>
      simp only [List.isPrefixOf_cons_cons, Bool.and_eq_true, beq_iff_eq] at h
      obtain ⟨hac, hrest⟩ := h
      subst hac
      have hne : a ≠ '\n' := fun h' => hk (by simp [h'])
      have hk' : '\n' ∉ k := fun h' => hk (List.mem_cons_of_mem _ h')
      simp only [escapePercent, Bool.false_and, Bool.false_eq_true, if_false, List.isPrefixOf_cons_cons,
        beq_self_eq_true, Bool.true_and, hne, decide_false]
      exact ih hk' cs hrest

theorem makoKeyword_escapePercent (cs : List Char) (h : makoKeyword cs = true) :
    makoKeyword (escapePercent false false cs) = true := by
  simp only [makoKeyword, List.any_eq_true] at h ⊢
  obtain ⟨k, hk, hp⟩ := h
  refine ⟨k, hk, isPrefixOf_escapePercent k.toList ?_ cs hp⟩
  simp only [List.mem_cons, List.not_mem_nil, or_false] at hk
  rcases hk with rfl | rfl | rfl | rfl | rfl | rfl <;> decide

theorem escapePercent_safe : ∀ (cs : List Char) (ls ts : Bool),
    PercentSafe ls (escapePercent ls ts cs) := by
  intro cs
  induction cs with
  | nil => intro ls ts; simp [escapePercent, PercentSafe]
  | cons c cs ih =>
    intro ls ts
    simp only [escapePercent]
    split
    · cases ts <;> simp [PercentSafe, ih false false]
    · next hcond =>
      simp only [PercentSafe]
      refine ⟨?_, ih _ _⟩
      intro hls hc
      subst hc
      right
      have hk : makoKeyword cs = true := by
        simp only [hls, Bool.true_and, decide_true, Bool.not_eq_true',
          Bool.not_eq_false] at hcond
        simpa using hcond
      have : decide ('%' = '\n') = false := by decide
      rw [this]
      exact makoKeyword_escapePercent cs hk

end Annet.Hw.Lemmas
