/-
Relations on results that may raise or be unset (`RE`, `OptRel`: how they pass through `bind`, `map`, case analysis), and
key-wise computations (`Keywise`: a container operation that succeeds iff every key's operation does); `optOp`: an
operation on operands that may be unset.  Nothing here knows the merge model.
-/
import AnnetModel.Spec.Mesh
import AnnetModel.Lemmas.Basic

namespace Annet.Mesh

@[simp] theorem RE_ok_ok {ε α : Type} {R : α → α → Prop} {a b : α} :
    RE R (.ok a : Except ε α) (.ok b) ↔ R a b := Iff.rfl
@[simp] theorem RE_err_err {ε α : Type} {R : α → α → Prop} {e f : ε} :
    RE R (.error e : Except ε α) (.error f) ↔ True := Iff.rfl
@[simp] theorem RE_ok_err {ε α : Type} {R : α → α → Prop} {a : α} {f : ε} :
    RE R (.ok a) (.error f) ↔ False := Iff.rfl
@[simp] theorem RE_err_ok {ε α : Type} {R : α → α → Prop} {e : ε} {b : α} :
    RE R (.error e) (.ok b) ↔ False := Iff.rfl
@[simp] theorem OptRel_some_some {α : Type} {R : α → α → Prop} {a b : α} : OptRel R (some a) (some b) ↔ R a b := Iff.rfl
@[simp] theorem OptRel_none_none {α : Type} {R : α → α → Prop} : OptRel R (none : Option α) none ↔ True := Iff.rfl
@[simp] theorem OptRel_some_none {α : Type} {R : α → α → Prop} {a : α} : OptRel R (some a) none ↔ False := Iff.rfl
@[simp] theorem OptRel_none_some {α : Type} {R : α → α → Prop} {b : α} : OptRel R none (some b) ↔ False := Iff.rfl

@[simp] theorem ok_bind {ε α β : Type} (a : α) (f : α → Except ε β) : (Except.ok a >>= f) = f a := rfl
@[simp] theorem error_bind {ε α β : Type} (e : ε) (f : α → Except ε β) :
    ((Except.error e : Except ε α) >>= f) = .error e := rfl
@[simp] theorem map_ok {ε α β : Type} (a : α) (f : α → β) : (Except.ok a : Except ε α).map f = .ok (f a) := rfl
@[simp] theorem map_error {ε α β : Type} (e : ε) (f : α → β) :
    (Except.error e : Except ε α).map f = .error e := rfl

theorem map_ok_iff {ε α β : Type} {x : Except ε α} {g : α → β} {r : β} :
    (g <$> x) = .ok r ↔ ∃ a, x = .ok a ∧ g a = r :=
  Except.map_eq_ok

theorem RE.refl_on {ε α : Type} {S : α → α → Prop} {X : Except ε α} (h : ∀ a, X = .ok a → S a a) : RE S X X := by
  cases X
  · trivial
  · exact h _ rfl

theorem RE.refl {ε α : Type} {R : α → α → Prop} (h : ∀ a, R a a) (r : Except ε α) : RE R r r :=
  RE.refl_on fun a _ => h a

theorem RE.symm {ε α : Type} {R : α → α → Prop} (h : ∀ a b, R a b → R b a) {r s : Except ε α}
    (hrs : RE R r s) : RE R s r := by
  cases r <;> cases s <;> first | exact hrs | exact h _ _ hrs

theorem RE.trans {ε α : Type} {R : α → α → Prop} (h : ∀ a b c, R a b → R b c → R a c)
    {r s t : Except ε α} (h1 : RE R r s) (h2 : RE R s t) : RE R r t := by
  cases r <;> cases s <;> cases t <;>
    first | exact h _ _ _ h1 h2 | exact False.elim h1 | exact False.elim h2 | trivial

theorem RE.of_eq {ε α : Type} {R : α → α → Prop} (h : ∀ a, R a a) {r s : Except ε α}
    (hrs : r = s) : RE R r s := hrs ▸ RE.refl h r

theorem RE.bind' {ε α β : Type} {R : α → α → Prop} {S : β → β → Prop}
    {r s : Except ε α} {f g : α → Except ε β}
    (hrs : RE R r s) (hfg : ∀ a b, r = .ok a → s = .ok b → R a b → RE S (f a) (g b)) :
    RE S (r >>= f) (s >>= g) := by
  cases r <;> cases s <;> first | exact hfg _ _ rfl rfl hrs | exact False.elim hrs | trivial

theorem RE.bind {ε α β : Type} {R : α → α → Prop} {S : β → β → Prop}
    {r s : Except ε α} {f g : α → Except ε β}
    (hrs : RE R r s) (hfg : ∀ a b, R a b → RE S (f a) (g b)) : RE S (r >>= f) (s >>= g) :=
  RE.bind' hrs fun a b _ _ => hfg a b

theorem RE.map {ε α β : Type} {R : α → α → Prop} {S : β → β → Prop}
    {r s : Except ε α} {f g : α → β}
    (hrs : RE R r s) (hfg : ∀ a b, R a b → S (f a) (g b)) : RE S (r.map f) (s.map g) := by
  cases r <;> cases s <;> first | exact hrs | exact hfg _ _ hrs

theorem RE.mono' {ε α : Type} {R S : α → α → Prop} {r s : Except ε α}
    (h : ∀ a b, r = .ok a → s = .ok b → R a b → S a b) (hrs : RE R r s) : RE S r s := by
  cases r <;> cases s <;> first | exact h _ _ rfl rfl hrs | exact hrs

theorem RE.mono {ε α : Type} {R S : α → α → Prop} (h : ∀ a b, R a b → S a b) {r s : Except ε α}
    (hrs : RE R r s) : RE S r s :=
  RE.mono' (fun a b _ _ => h a b) hrs

theorem RE.intro {ε α : Type} {S : α → α → Prop} {X Y : Except ε α}
    (h1 : ∀ a, X = .ok a → ∃ b, Y = .ok b ∧ S a b) (h2 : ∀ b, Y = .ok b → ∃ a, X = .ok a) : RE S X Y := by
  cases X with
  | error e =>
    cases Y with
    | error e' => trivial
    | ok b => obtain ⟨a, ha⟩ := h2 b rfl; cases ha
  | ok a =>
    obtain ⟨b, rfl, hs⟩ := h1 a rfl
    exact hs

theorem RE.of_ok_iff {ε α : Type} {X Y : Except ε α} (h : ∀ r, X = .ok r ↔ Y = .ok r) : RE Eq X Y :=
  RE.intro (fun a ha => ⟨a, (h a).mp ha, rfl⟩) (fun b hb => ⟨b, (h b).mpr hb⟩)

theorem RE.ok_left {ε α : Type} {S : α → α → Prop} {X Y : Except ε α} (h : RE S X Y) {a : α} (ha : X = .ok a) :
    ∃ b, Y = .ok b ∧ S a b := by
  subst ha
  cases Y
  · exact False.elim h
  · exact ⟨_, rfl, h⟩

theorem RE.ok_right {ε α : Type} {S : α → α → Prop} {X Y : Except ε α} (h : RE S X Y) {b : α} (hb : Y = .ok b) :
    ∃ a, X = .ok a ∧ S a b := by
  subst hb
  cases X
  · exact False.elim h
  · exact ⟨_, rfl, h⟩

theorem RE.ok_iff {ε α : Type} {X Y : Except ε α} (h : RE Eq X Y) (r : α) : X = .ok r ↔ Y = .ok r :=
  ⟨fun hx => by obtain ⟨b, hb, rfl⟩ := h.ok_left hx; exact hb,
   fun hy => by obtain ⟨a, ha, rfl⟩ := h.ok_right hy; exact ha⟩

theorem RE.error_bind_error {ε α γ : Type} {S : γ → γ → Prop} (e e' : ε) (X : Except ε α) :
    RE S (.error e) (X >>= fun _ => (.error e' : Except ε γ)) := by
  cases X <;> trivial

theorem RE.bind_error_error {ε α γ : Type} {S : γ → γ → Prop} (e e' : ε) (X : Except ε α) :
    RE S (X >>= fun _ => (.error e' : Except ε γ)) (.error e) := by
  cases X <;> trivial

theorem OptRel.refl {α : Type} {R : α → α → Prop} (h : ∀ a, R a a) (o : Option α) : OptRel R o o := by
  cases o
  · trivial
  · exact h _

theorem OptRel.symm {α : Type} {R : α → α → Prop} (h : ∀ a b, R a b → R b a) {o p : Option α}
    (hop : OptRel R o p) : OptRel R p o := by
  cases o <;> cases p <;> first | exact hop | exact h _ _ hop

theorem OptRel.trans {α : Type} {R : α → α → Prop} (h : ∀ a b c, R a b → R b c → R a c)
    {o p q : Option α} (h1 : OptRel R o p) (h2 : OptRel R p q) : OptRel R o q := by
  cases o <;> cases p <;> cases q <;>
    first | exact h _ _ _ h1 h2 | exact False.elim h1 | exact False.elim h2 | trivial

theorem OptRel.eq {α : Type} {o p : Option α} (h : OptRel Eq o p) : o = p := by
  cases o <;> cases p <;> first | rfl | exact False.elim h | exact congrArg some h

theorem OptRel.equivalence {α : Type} {R : α → α → Prop} (h : Equivalence R) : Equivalence (OptRel R) where
  refl := OptRel.refl h.refl
  symm := OptRel.symm (R := R) fun _ _ => h.symm
  trans := OptRel.trans (R := R) fun _ _ _ => h.trans

section Keywise
variable {S J α ε : Type} {get : J → S → Option α} {V : S → Prop}

/-- `X` combines the family `F` key by key: it succeeds iff every `F j` does, and then entry `j` of the
result is the result of `F j`.  `V` is what the containers must satisfy for this (a Python dict has
distinct keys). -/
structure Keywise (get : J → S → Option α) (V : S → Prop) (X : Except ε S) (F : J → Except ε (Option α)) : Prop where
  ok : ∀ r, X = .ok r → V r ∧ ∀ j, F j = .ok (get j r)
  err : ∀ e, X = .error e → ∃ j e', F j = .error e'

variable {X X' : Except ε S} {F F' : J → Except ε (Option α)}

theorem Keywise.rel (h : Keywise get V X F) (h' : Keywise get V X' F') (R : J → Option α → Option α → Prop)
    (hj : ∀ j, RE (R j) (F j) (F' j)) : RE (fun r r' => ∀ j, R j (get j r) (get j r')) X X' := by
  cases h1 : X with
  | error e1 =>
    cases h2 : X' with
    | error e2 => trivial
    | ok o2 =>
      obtain ⟨j, e', he⟩ := h.err e1 h1
      have := hj j
      rw [he, (h'.ok o2 h2).2 j] at this
      exact this
  | ok o1 =>
    cases h2 : X' with
    | error e2 =>
      obtain ⟨j, e', he⟩ := h'.err e2 h2
      have := hj j
      rw [he, (h.ok o1 h1).2 j] at this
      exact this
    | ok o2 =>
      intro j
      have := hj j
      rw [(h.ok o1 h1).2 j, (h'.ok o2 h2).2 j] at this
      exact this

theorem Keywise.bind {Y : S → Except ε S} {G : J → Option α → Except ε (Option α)}
    (h : Keywise get V X F) (hY : ∀ r, V r → Keywise get V (Y r) fun j => G j (get j r)) :
    Keywise get V (X >>= Y) fun j => F j >>= G j where
  ok r' hr' := by
    obtain ⟨r, hr, hy⟩ := Except.bind_eq_ok.mp hr'
    obtain ⟨vr, hF⟩ := h.ok r hr
    obtain ⟨vr', hG⟩ := (hY r vr).ok r' hy
    exact ⟨vr', fun j => by rw [hF j]; exact hG j⟩
  err e he := by
    cases hr : X with
    | error e1 =>
      obtain ⟨j, e', hj⟩ := h.err e1 hr
      exact ⟨j, e', by rw [hj]; rfl⟩
    | ok r =>
      obtain ⟨vr, hF⟩ := h.ok r hr
      rw [hr] at he
      obtain ⟨j, e', hj⟩ := (hY r vr).err e he
      exact ⟨j, e', by rw [hF j]; exact hj⟩

theorem Keywise.assoc {op : J → Option α → Option α → Except ε (Option α)} {X : S → S → Except ε S}
    (h : ∀ a b, V a → V b → Keywise get V (X a b) fun j => op j (get j a) (get j b))
    (R : J → Option α → Option α → Prop) {a b c : S} (va : V a) (vb : V b) (vc : V c)
    (hj : ∀ j, RE (R j) (op j (get j a) (get j b) >>= fun r => op j r (get j c))
      (op j (get j b) (get j c) >>= fun r => op j (get j a) r)) :
    RE (fun r r' => ∀ j, R j (get j r) (get j r')) (X a b >>= fun r => X r c) (X b c >>= fun r => X a r) :=
  ((h a b va vb).bind (G := fun j o => op j o (get j c)) fun r vr => h r c vr vc).rel
    ((h b c vb vc).bind (G := fun j o => op j (get j a) o) fun r vr => h a r va vr) R hj

end Keywise

/-- `mergeOptWith` at any value type (the executor needs it for `Pair`): an unset operand, or a missing dict
entry, yields the other one -/
def optOp {α ε : Type} (f : α → α → Except ε α) : Option α → Option α → Except ε (Option α)
  | none, y => .ok y
  | some x, none => .ok (some x)
  | some x, some y => (f x y).map some

end Annet.Mesh
