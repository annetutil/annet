/-
Association lists standing for Python dicts: `d.get(k)`, `d[k] = v` (an existing key keeps its
position, a new key is appended), `d.pop(k, None)`, over any key type.  The models carry their own
copies of these recursions (`Json.lookup/upsert/erase`, `Files.lookup/dictSet`, `Mesh.lookup`, and
`Mesh.upsertWith` as `optOp` followed by `upsert`); each is equal to the function here by induction
on the list, so the facts are proved once.
-/
import AnnetModel.Lemmas.Basic

namespace Annet.Assoc
variable {κ α : Type} [DecidableEq κ]

def lookup (k : κ) : List (κ × α) → Option α
  | [] => none
  | (k', v) :: rest => if k' = k then some v else lookup k rest

def upsert (k : κ) (v : α) : List (κ × α) → List (κ × α)
  | [] => [(k, v)]
  | (k', v') :: rest => if k' = k then (k', v) :: rest else (k', v') :: upsert k v rest

def erase (k : κ) : List (κ × α) → List (κ × α)
  | [] => []
  | (k', v') :: rest => if k' = k then rest else (k', v') :: erase k rest

def keys (l : List (κ × α)) : List κ := l.map (·.1)

variable {k k' : κ} {v : α} {l : List (κ × α)}

theorem lookup_eq_none_iff : lookup k l = none ↔ k ∉ keys l := by
  induction l <;> grind [lookup, keys]

theorem mem_of_lookup (h : lookup k l = some v) : (k, v) ∈ l := by
  induction l <;> grind [lookup]

theorem lookup_of_mem (hn : (keys l).Nodup) (h : (k, v) ∈ l) : lookup k l = some v := by
  induction l <;> grind [lookup, keys]

theorem lookup_upsert (k k' : κ) (v : α) (l : List (κ × α)) :
    lookup k' (upsert k v l) = if k = k' then some v else lookup k' l := by
  induction l <;> grind [lookup, upsert]

theorem upsert_of_lookup (h : lookup k l = some v) : upsert k v l = l := by
  induction l <;> grind [lookup, upsert]

theorem upsert_upsert (k : κ) (a b : α) (l : List (κ × α)) : upsert k a (upsert k b l) = upsert k a l := by
  induction l <;> grind [upsert]

theorem mem_upsert {e : κ × α} (h : e ∈ upsert k v l) : e ∈ l ∨ e = (k, v) := by
  induction l <;> grind [upsert]

theorem keys_upsert (k : κ) (v : α) (l : List (κ × α)) :
    keys (upsert k v l) = if k ∈ keys l then keys l else keys l ++ [k] := by
  induction l <;> grind [upsert, keys]

theorem nodup_upsert (k : κ) (v : α) (h : (keys l).Nodup) : (keys (upsert k v l)).Nodup := by
  rw [keys_upsert]
  split
  · exact h
  · exact List.nodup_snoc h ‹_›

theorem lookup_erase_ne (h : k ≠ k') (l : List (κ × α)) : lookup k' (erase k l) = lookup k' l := by
  induction l <;> grind [lookup, erase]

theorem erase_of_lookup_none (h : lookup k l = none) : erase k l = l := by
  induction l <;> grind [lookup, erase]

theorem erase_sublist (k : κ) (l : List (κ × α)) : (erase k l).Sublist l := by
  induction l <;> grind [erase]

theorem lookup_erase_self (k : κ) (h : (keys l).Nodup) : lookup k (erase k l) = none := by
  induction l <;> grind [lookup, erase, keys, lookup_eq_none_iff]

theorem nodup_erase (k : κ) (h : (keys l).Nodup) : (keys (erase k l)).Nodup :=
  ((erase_sublist k l).map _).nodup h

end Annet.Assoc
