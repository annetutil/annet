/-
Range lists and the sets they denote (`ids`, `Covers`).  `collapse`, `collapseChunks`, `hPart` and `cPart` are `.ok` of a
function of the id set: `ranges` is the range list `collapse_vlandb` builds (its ids are `sorted(set(·))` itself, as a
list: `ranges_spec`, `ids_pieces`), `pieces` its cutting into the pieces that one command is made of (`collapse_eq`,
`collapseChunks_eq`, `hPart_eq`, `cPart_eq`; `pieces_spec`: well-formed, non-empty, covering exactly the set).  What is
rendered from a well-formed range list is read back as `ids` by the device's readers (`readH_render`, `readC_render`),
annet's expanders agree with the readers wherever those accept (`hExpandGo_of_readH`, `ciscoExpand_of_readC`), and a whole
written line parses back (`hParse_written`, `cParse_written`).
-/
import AnnetModel.Spec.VlanDev
import AnnetModel.Spec.VlanCovers
import AnnetModel.Lemmas.Basic

namespace Annet.Vlan.Lemmas
open Annet.Vlan Annet.Vlan.Spec

theorem mem_insertU (x v : Nat) (l : List Nat) : x ∈ insertU v l ↔ x = v ∨ x ∈ l := by
  fun_induction insertU v l <;> simp_all [or_left_comm]

theorem mem_norm (x : Nat) (l : List Nat) : x ∈ norm l ↔ x ∈ l := by
  induction l with
  | nil => simp [norm]
  | cons y ys ih => rw [norm, List.foldr_cons, mem_insertU, ← norm, ih, List.mem_cons]

theorem norm_ne_nil {l : List Nat} (h : l ≠ []) : norm l ≠ [] := by
  obtain ⟨x, xs, rfl⟩ := List.exists_cons_of_ne_nil h
  exact List.ne_nil_of_mem ((mem_norm x _).mpr List.mem_cons_self)

theorem mem_sdiff (x : Nat) (a b : List Nat) : x ∈ sdiff a b ↔ x ∈ a ∧ x ∉ b := by
  simp [sdiff]

theorem mem_interval (x a b : Nat) : x ∈ interval a b ↔ a ≤ x ∧ x ≤ b := by
  simp [interval, List.mem_range'_1]; omega

theorem interval_self (a : Nat) : interval a a = [a] := by simp [interval]

theorem interval_succ {a b : Nat} (h : a ≤ b) : interval a (b + 1) = interval a b ++ [b + 1] := by
  rw [interval, interval, show b + 1 + 1 - a = (b + 1 - a) + 1 by omega, List.range'_concat]
  simp; omega

theorem interval_of_lt {a b : Nat} (h : a < b) : interval a b = a :: (List.range' (a + 1) (b - (a + 1)) ++ [b]) := by
  obtain ⟨n, rfl⟩ : ∃ n, b = a + 1 + n := ⟨b - (a + 1), by omega⟩
  rw [interval, show a + 1 + n + 1 - a = (n + 1) + 1 by omega, List.range'_succ, List.range'_concat]
  simp

theorem covers_nil (x : Nat) : ¬ Covers [] x := by simp [Covers]

theorem covers_cons (r : Nat × Nat) (rs : List (Nat × Nat)) (x : Nat) :
    Covers (r :: rs) x ↔ (r.1 ≤ x ∧ x ≤ r.2) ∨ Covers rs x := by
  simp [Covers]

theorem covers_append (rs rs' : List (Nat × Nat)) (x : Nat) :
    Covers (rs ++ rs') x ↔ Covers rs x ∨ Covers rs' x := by
  simp only [Covers, List.mem_append, or_and_right, exists_or]

/-- the ids a range list denotes -/
def ids (rs : List (Nat × Nat)) : List Nat := rs.flatMap fun r => interval r.1 r.2

theorem mem_ids (rs : List (Nat × Nat)) (x : Nat) : x ∈ ids rs ↔ Covers rs x := by
  simp only [ids, Covers, List.mem_flatMap, mem_interval]

theorem ids_cons (a b : Nat) (rs : List (Nat × Nat)) : ids ((a, b) :: rs) = interval a b ++ ids rs := rfl

theorem ids_flatten (L : List (List (Nat × Nat))) : ids L.flatten = L.flatMap ids := by
  rw [ids, ← List.flatMap_id, List.flatMap_assoc]; rfl

theorem collapseGo_wf (tiny : Bool) (lo hi : Nat) (vs : List Nat) (h : lo ≤ hi) :
    ∀ r ∈ collapseGo tiny lo hi vs, r.1 ≤ r.2 := by
  fun_induction collapseGo tiny lo hi vs with
  | case1 lo hi => simpa using h
  | case2 lo hi vs ih => exact ih (by omega)
  | case3 lo hi v vs hv ht ih => simpa using ih (Nat.le_refl v)
  | case4 lo hi v vs hv ht ih => exact List.forall_mem_cons.mpr ⟨h, ih (Nat.le_refl v)⟩

/-- expanding what the loop of `collapse_vlandb` builds gives back, as a list, the open range and the ids still to come -/
theorem ids_collapseGo (tiny : Bool) (lo hi : Nat) (vs : List Nat) (h : lo ≤ hi) :
    ids (collapseGo tiny lo hi vs) = interval lo hi ++ vs := by
  fun_induction collapseGo tiny lo hi vs with
  | case1 lo hi => rfl
  | case2 lo hi vs ih => rw [ih (by omega), interval_succ h, List.append_assoc]; rfl
  | case3 lo hi v vs hv ht ih =>
    simp only [Bool.and_eq_true, Bool.not_eq_true', decide_eq_true_eq] at ht
    simp [ids_cons, ih, interval_self, ht.2, interval_succ (Nat.le_refl lo)]
  | case4 lo hi v vs hv ht ih => rw [ids_cons, ih (Nat.le_refl v), interval_self]; rfl

/-- the range list `collapse_vlandb` builds (`[]` for the empty set, where the code asserts) -/
def ranges (tiny : Bool) (X : List Nat) : List (Nat × Nat) :=
  match norm X with
  | [] => []
  | v :: vs => collapseGo tiny v v vs

theorem collapse_eq (tiny : Bool) {X : List Nat} (h : X ≠ []) : collapse tiny X = .ok (ranges tiny X) := by
  obtain ⟨v, vs, hS⟩ := List.exists_cons_of_ne_nil (norm_ne_nil h)
  rw [collapse, List.isEmpty_eq_false_iff.mpr h, ranges, hS]; rfl

/-- the collapsed list is well-formed, and expanding it gives back `sorted(set(vlans))` itself -/
theorem ranges_spec (tiny : Bool) (X : List Nat) :
    (∀ r ∈ ranges tiny X, r.1 ≤ r.2) ∧ ids (ranges tiny X) = norm X := by
  unfold ranges
  split
  · next h => exact ⟨nofun, h ▸ rfl⟩
  · next v vs h =>
    refine ⟨collapseGo_wf tiny v v vs (Nat.le_refl v), ?_⟩
    rw [h, ids_collapseGo tiny v v vs (Nat.le_refl v), interval_self]; rfl

theorem ranges_ne_nil (tiny : Bool) {X : List Nat} (h : X ≠ []) : ranges tiny X ≠ [] :=
  fun e => norm_ne_nil h (by rw [← (ranges_spec tiny X).2, e]; rfl)

theorem collapse_nil (tiny : Bool) : collapse tiny [] = .error .assertion := rfl

theorem chunkedAux_spec {α : Type} {n : Nat} (hn : 0 < n) (fuel : Nat) (l : List α) (h : l.length ≤ fuel) :
    (chunkedAux n fuel l).flatten = l ∧ ∀ c ∈ chunkedAux n fuel l, c ≠ [] := by
  induction fuel generalizing l with
  | zero => cases List.eq_nil_of_length_eq_zero (Nat.le_zero.mp h); exact ⟨rfl, nofun⟩
  | succ fuel ih =>
    cases l with
    | nil => exact ⟨rfl, nofun⟩
    | cons a l =>
      obtain ⟨h1, h2⟩ := ih ((a :: l).drop n) (by simp only [List.length_drop, List.length_cons] at h ⊢; omega)
      rw [chunkedAux, if_neg (by simp), List.flatten_cons, h1, List.take_append_drop]
      refine ⟨rfl, List.forall_mem_cons.mpr ⟨?_, h2⟩⟩
      obtain ⟨m, rfl⟩ := Nat.exists_eq_succ_of_ne_zero (Nat.ne_of_gt hn)
      exact List.cons_ne_nil _ _

theorem chunked_spec {α : Type} {n : Nat} (hn : 0 < n) (l : List α) :
    (chunked n l).flatten = l ∧ ∀ c ∈ chunked n l, c ≠ [] :=
  chunkedAux_spec hn l.length l (Nat.le_refl _)

theorem mem_chunked {α : Type} (n : Nat) (hn : 0 < n) (l : List α) (x : α) :
    x ∈ l ↔ ∃ c ∈ chunked n l, x ∈ c := by
  conv => lhs; rw [← (chunked_spec hn l).1]
  exact List.mem_flatten

@[simp] theorem except_bind_ok {ε α β : Type} (a : α) (f : α → Except ε β) : (Except.ok a >>= f) = f a := rfl
@[simp] theorem except_map_ok {ε α β : Type} (f : α → β) (a : α) : f <$> (Except.ok a : Except ε α) = Except.ok (f a) := rfl
@[simp] theorem except_pure {ε α : Type} (a : α) : (pure a : Except ε α) = Except.ok a := rfl
@[simp] theorem except_map'_ok {ε α β : Type} (f : α → β) (a : α) : (Except.ok a : Except ε α).map f = Except.ok (f a) := rfl

theorem renderHs_cons (r : Nat × Nat) (rs : List (Nat × Nat)) : renderHs (r :: rs) = renderH r ++ renderHs rs := by
  simp [renderHs]

theorem renderH_self (a : Nat) : renderH (a, a) = [.n a] := by simp [renderH]

theorem renderH_of_lt {a b : Nat} (h : a < b) : renderH (a, b) = [.n a, .to, .n b] := by
  simp [renderH, Nat.ne_of_lt h]

theorem renderC_self (a : Nat) : renderC (a, a) = [a] := by simp [renderC]

theorem renderC_of_lt {a b : Nat} (h : a < b) : renderC (a, b) = [a, b] := by simp [renderC, Nat.ne_of_lt h]

/-- wherever the device reads a range list, annet's `huawei_expand_vlandb` finds the same ids -/
theorem hExpandGo_of_readH (all : HRow) : ∀ {toks : HRow} {out : List Nat}, readH toks = some out →
    ∀ prev, hExpandGo all prev toks = .ok out := by
  intro toks
  fun_induction readH toks <;> simp_all [hExpandGo, HTok.int, interval_of_lt]

theorem readH_render : ∀ rs : List (Nat × Nat), (∀ r ∈ rs, r.1 ≤ r.2) → readH (renderHs rs) = some (ids rs)
  | [], _ => rfl
  | (a, b) :: rs, h => by
    have ih := readH_render rs fun r hr => h r (List.mem_cons_of_mem _ hr)
    rw [renderHs_cons, ids_cons]
    rcases Nat.eq_or_lt_of_le (h (a, b) List.mem_cons_self) with e | l
    · cases e
      rw [renderH_self, interval_self]
      -- the device takes `a` for a single id because no `to` follows
      cases rs with
      | nil => rfl
      | cons r rs =>
        obtain ⟨t, ht⟩ : ∃ t, renderHs (r :: rs) = .n r.1 :: t := by
          rw [renderHs_cons, renderH]; split <;> exact ⟨_, rfl⟩
        rw [ht] at ih ⊢
        simp [readH, ih]
    · simp [renderH_of_lt l, readH, l, ih]

theorem readC_render : ∀ rs : List (Nat × Nat), (∀ r ∈ rs, r.1 ≤ r.2) → readC (rs.map renderC) = some (ids rs)
  | [], _ => rfl
  | (a, b) :: rs, h => by
    have ih := readC_render rs fun r hr => h r (List.mem_cons_of_mem _ hr)
    rcases Nat.eq_or_lt_of_le (h (a, b) List.mem_cons_self) with e | l
    · cases e; simp [renderC_self, readC, ih, ids_cons, interval_self]
    · simp [renderC_of_lt l, readC, l, ih, ids_cons]

theorem ciscoExpand_of_readC : ∀ {ps : List (List Nat)} {out : List Nat}, readC ps = some out →
    ciscoExpand ps = .ok out := by
  intro ps
  fun_induction readC ps <;> simp_all [ciscoExpand, interval]

/-- a way of cutting a range list into the pieces that go into one command each -/
def Splits (split : List (Nat × Nat) → List (List (Nat × Nat))) : Prop :=
  ∀ l, l ≠ [] → (split l).flatten = l ∧ ∀ c ∈ split l, c ≠ []

theorem splits_chunked {n : Nat} (hn : 0 < n) : Splits (chunked n) := fun l _ => chunked_spec hn l

theorem splits_one : Splits fun l => [l] :=
  fun l h => ⟨List.append_nil l, fun c hc => by cases List.mem_singleton.mp hc; exact h⟩

/-- the pieces of `X` that one half of `_process_vlandb` (or `collapse_vlandb(…, chunk_len)`) makes a command of -/
def pieces (split : List (Nat × Nat) → List (List (Nat × Nat))) (tiny : Bool) (X : List Nat) :
    List (List (Nat × Nat)) :=
  if X.isEmpty then [] else split (ranges tiny X)

/-- the pieces, expanded one after the other, are `sorted(set(X))` -/
theorem ids_pieces {split : List (Nat × Nat) → List (List (Nat × Nat))} (hs : Splits split) (tiny : Bool) (X : List Nat) :
    (pieces split tiny X).flatMap ids = norm X := by
  by_cases hX : X = []
  · subst hX; rfl
  · rw [pieces, List.isEmpty_eq_false_iff.mpr hX, ← ids_flatten]
    simp only [Bool.false_eq_true, if_false, (hs _ (ranges_ne_nil tiny hX)).1, (ranges_spec tiny X).2]

theorem pieces_spec {split : List (Nat × Nat) → List (List (Nat × Nat))} (hs : Splits split) (tiny : Bool)
    (X : List Nat) :
    (∀ c ∈ pieces split tiny X, X ≠ [] ∧ c ≠ [] ∧ ∀ r ∈ c, r.1 ≤ r.2) ∧
      ∀ v, v ∈ X ↔ ∃ c ∈ pieces split tiny X, v ∈ ids c := by
  refine ⟨fun c hc => ?_, fun v => by rw [← mem_norm, ← ids_pieces hs tiny, List.mem_flatMap]⟩
  have hX : X ≠ [] := by rintro rfl; cases hc
  obtain ⟨hfl, hne⟩ := hs _ (ranges_ne_nil tiny hX)
  rw [pieces, List.isEmpty_eq_false_iff.mpr hX] at hc
  refine ⟨hX, hne c hc, fun r hr => (ranges_spec tiny X).1 r ?_⟩
  rw [← hfl]; exact List.mem_flatten.mpr ⟨c, hc, hr⟩

theorem hPart_eq (multi : Bool) (chunk : Nat) (direct : Bool) (mk : HRow → HRow) (X : List Nat) :
    hPart multi chunk direct mk X = .ok ((pieces (fun l => if multi then chunked chunk l else [l]) true X).map
      fun c => ⟨direct, mk (renderHs c), none⟩) := by
  unfold hPart pieces
  split
  · rfl
  · rw [collapse_eq true (fun e => ‹¬ _› (List.isEmpty_iff.mpr e))]; rfl

theorem cPart_eq {χ : Type} (tiny : Bool) (chunk : Nat) (direct : Bool) (mk : CTok → CRow) (X : List Nat) :
    cPart (χ := χ) tiny chunk direct mk X = .ok ((pieces (chunked chunk) tiny X).map
      fun c => ⟨direct, mk (renderCs c), none⟩) := by
  unfold cPart pieces
  split
  · rfl
  · rw [collapse_eq tiny (fun e => ‹¬ _› (List.isEmpty_iff.mpr e))]; rfl

theorem collapseChunks_eq (tiny : Bool) (chunkLen : Nat) {S : List Nat} (hS : S ≠ []) :
    collapseChunks tiny chunkLen S
      = .ok (pieces (fun l => if chunkLen = 0 then [l] else chunked chunkLen l) tiny S) := by
  rw [collapseChunks, collapse_eq tiny hS, pieces, List.isEmpty_eq_false_iff.mpr hS]; rfl

theorem Splits.ite {b : Prop} [Decidable b] {f g : List (Nat × Nat) → List (List (Nat × Nat))}
    (hf : b → Splits f) (hg : ¬ b → Splits g) : Splits fun l => if b then f l else g l := fun l hl => by
  split
  · exact hf ‹_› l hl
  · exact hg ‹_› l hl

/-- for any reader that is right on well-formed range lists -/
theorem expand_collapse (reads : List (Nat × Nat) → List Nat → Prop)
    (hrd : ∀ c, (∀ r ∈ c, r.1 ≤ r.2) → reads c (ids c))
    (tiny : Bool) (chunkLen : Nat) (S : List Nat) (hS : S ≠ []) :
    ∃ chunks, collapseChunks tiny chunkLen S = .ok chunks ∧
      (∀ c ∈ chunks, ∃ out, reads c out ∧ ∀ v ∈ out, v ∈ S) ∧
      (∀ v ∈ S, ∃ c ∈ chunks, ∃ out, reads c out ∧ v ∈ out) := by
  obtain ⟨hwf, hids⟩ := pieces_spec (Splits.ite (b := chunkLen = 0) (fun _ => splits_one) fun h => splits_chunked (Nat.pos_of_ne_zero h)) tiny S
  refine ⟨_, collapseChunks_eq tiny chunkLen hS,
    fun c hc => ⟨ids c, hrd c (hwf c hc).2.2, fun v hv => (hids v).mpr ⟨c, hc, hv⟩⟩, fun v hv => ?_⟩
  obtain ⟨c, hc, hvc⟩ := (hids v).mp hv
  exact ⟨c, hc, ids c, hrd c (hwf c hc).2.2, hvc⟩

theorem renderHs_numTo (c : List (Nat × Nat)) : ∀ t ∈ renderHs c, t.isNumTo = true := by
  intro t ht
  obtain ⟨r, _, ht⟩ := List.mem_flatMap.mp ht
  unfold renderH at ht
  split at ht <;> simp only [List.mem_cons, List.not_mem_nil, or_false] at ht <;> rcases ht with rfl | rfl | rfl <;> rfl

theorem renderHs_ne_nil {c : List (Nat × Nat)} (h : c ≠ []) : renderHs c ≠ [] := by
  obtain ⟨r, rs, rfl⟩ := List.exists_cons_of_ne_nil h
  rw [renderHs_cons, renderH]
  split <;> nofun

/-- A row as annet writes it (a prefix ending in a word, then a rendered range list) parses back to that prefix and
`ids rs`: first the split point, then the whole of `_parse_vlancfg`. -/
theorem hSplitAt_written (p0 : HRow) (s : String) (toks : HRow) (h : ∀ t ∈ toks, t.isNumTo = true) :
    hSplitAt (p0 ++ [HTok.w s] ++ toks) = (p0 ++ [HTok.w s]).length := by
  have hrev : (p0 ++ [HTok.w s] ++ toks).reverse = toks.reverse ++ HTok.w s :: p0.reverse := by simp
  simp only [hSplitAt, hrev, List.takeWhile_append_of_pos fun y hy => h y (List.mem_reverse.mp hy),
    List.takeWhile_cons_of_neg (show ¬ (HTok.w s).isNumTo = true by nofun), List.append_nil, List.length_reverse,
    List.length_append, List.length_cons, List.length_nil]
  rw [if_neg (by omega)]; omega

theorem hParse_written (p0 : HRow) (s : String) (rs : List (Nat × Nat)) (hwf : ∀ r ∈ rs, r.1 ≤ r.2) :
    hParseVlancfg (p0 ++ [.w s] ++ renderHs rs) = .ok (p0 ++ [.w s], ids rs) := by
  have hne : (p0 ++ [HTok.w s] ++ renderHs rs).isEmpty = false := by simp
  simp only [hParseVlancfg, hne, Bool.false_eq_true, if_false, hSplitAt_written p0 s (renderHs rs) (renderHs_numTo rs)]
  rw [List.drop_left' rfl, List.take_left' rfl, huaweiExpand, hExpandGo_of_readH _ (readH_render rs hwf)]; rfl

theorem cParse_written (p : CRow) (hp0 : p ≠ []) (hlast : p.getLast? ≠ some (.w "add"))
    (rs : List (Nat × Nat)) (hwf : ∀ r ∈ rs, r.1 ≤ r.2) :
    cParseVlancfg (p ++ [.spec (rs.map renderC)]) = .ok (p, ids rs) ∧
    cParseVlancfg (p ++ [.w "add", .spec (rs.map renderC)]) = .ok (p, ids rs) ∧
    cParseVlancfg (p ++ [.w "none"]) = .ok (p, []) := by
  have ho := ciscoExpand_of_readC (readC_render rs hwf)
  refine ⟨?_, by simp [cParseVlancfg, ho], by simp [cParseVlancfg]⟩
  cases hr : p.reverse with
  | nil => exact absurd (List.reverse_eq_nil_iff.mp hr) hp0
  | cons t rest =>
    have ht : t ≠ .w "add" := fun e => hlast (by rw [List.getLast?_eq_head?_reverse, hr, e]; rfl)
    simp [cParseVlancfg, hr, ht, ho]
    simpa using (congrArg List.reverse hr).symm

end Annet.Vlan.Lemmas
