/-
End-to-end convergence of the pipeline on NESTED configurations (C01 stage 2).  Levels as maps slot ↦ entry:
`ConvergeNestedBase`; the marked diff `NDiff`: `ConvergeNestedDiff`.

Here: the raw items of a slot are the yields of its one bucket (`slot_cmds`), one of five lists (`YShape`); the device
reads each of their words as a command on the slot (`Reads`: the one place where `CmdsOK` is asked about a word); sorted
and executed they turn the old entry of the slot into the new one, given convergence of the child trees (`finalOf_act`,
`slot_final`, `level_converges`); `nested_converges` is that level lemma under the
induction over the recursion of `make_patch` (`deviceMode_induct`, an instance of `PreLemmas.makePatchWith_induct`: the
step shows only the descent to the child rules and sub-blocks).  A level uses its rulebook only through `LevelRules`,
which a flat rulebook gives as well: `ConvergeFlat` derives flat convergence from `level_converges`.
-/
import AnnetModel.Lemmas.ConvergeNestedDiff
import AnnetModel.Lemmas.DeviceNested
import AnnetModel.Lemmas.GetOrder
import AnnetModel.Lemmas.OrderNoPin
import AnnetModel.Lemmas.PatchLogic
import AnnetModel.Lemmas.Pre
import AnnetModel.Lemmas.SortTree

namespace Annet.Converge.Lemmas
open Annet Annet.Patch Annet.Patch.Lemmas
open Annet.Patch.PreLemmas (sortKeyOf treeOf)

def finalOf (x : RawItem) : String × Option PTree × SortKey := sortItem (treeOf x)

theorem finalOf_key (x : RawItem) : (finalOf x).2.2 = sortKeyOf x := by
  rw [finalOf, sortItem_sortKey]; rfl

end Annet.Converge.Lemmas

namespace Annet.ConvergeNested.Lemmas

open Annet Annet.Rules Annet.Device Annet.Device.Abs Annet.Converge Annet.ConvergeNested
open Annet.Converge.Lemmas Annet.Device.Lemmas
open Annet.Patch.PreLemmas (rAttrs rItems iGet slotIs InvI InvR makePre_inv filter_sel entryOf_row entryOf_children bucketRun
  itemsOfPre_mem chunk_of_slot subTree ChildTree NItemOf NRel yields_nrel PatchStep makePatchWith_induct item_in_bucket
  sortKeyOf treeOf buildTree_flat isLeaf)
open Annet.Diff Annet.Patch Annet.Patch.Lemmas
open Annet.Gen.Lemmas (cfg_eta)

variable {rules : PRules} {old new : List (String × Cfg)} {d : List DItem} {v : Vendor} {env : Env}
  {ord : List ORule} {rec : PRec} {P : List PreRule}

theorem preDepth_mk (rs : List PreRule) : preDepth (.mk rs) = preDepthR rs := by rw [preDepth]

theorem makePre_empty {d : List DItem} (h : (makePre d).isEmpty = true) : d = [] := by
  cases d with
  | nil => rfl
  | cons i rest =>
    obtain ⟨R, hR, -⟩ := item_in_bucket (d := i :: rest) (i := i) List.mem_cons_self
    simp only [Pre.isEmpty, List.isEmpty_iff] at h
    rw [h] at hR
    cases hR

/-- the yield that puts the row of diff item `i` -/
def putY (i : DItem) : Yield := ⟨true, i.row, some (makePre i.children)⟩

/-- the yields of one slot, given the lines holding it in `old` and `new` -/
inductive YShape (v : Vendor) (attrs : PAttrs) (key : List String) (d : List DItem) :
    Option String → Option String → List Yield → Prop
  | none : YShape v attrs key d none none []
  | removed {ra c : String} : reverseCmd v attrs key = some c → YShape v attrs key d (some ra) none [⟨false, c, none⟩]
  | unchanged {i : DItem} : i ∈ d → i.op = .unchanged → YShape v attrs key d (some i.row) (some i.row) []
  | put {a : Option String} {i : DItem} : i ∈ d → i.op = .added ∨ i.op = .affected →
      YShape v attrs key d a (some i.row) [putY i]
  | undoRedo {ra c : String} {i : DItem} : ra ≠ i.row → i ∈ d → i.op = .added → reverseCmd v attrs key = some c →
      YShape v attrs key d (some ra) (some i.row) [⟨false, c, none⟩, putY i]

theorem putY_entry (i : DItem) : (⟨true, (entryOf i).row, some (entryOf i).children⟩ : Yield) = putY i := by
  rw [entryOf_row, entryOf_children]; rfl

theorem iGet_eta (it : PreItem) :
    it = .mk it.key (iGet it .added) (iGet it .removed) (iGet it .moved) (iGet it .affected) (iGet it .unchanged) := by
  obtain ⟨k, a, r, m, f, u⟩ := it; rfl

theorem bucket_shape {raw : String}
    {items : List PreItem} (hI : InvI raw items d) (hd : Lvl rules old new d) {it : PreItem} (hit : it ∈ items)
    (v : Vendor) (attrs : PAttrs) (hl : attrs.logic = "common.default" ∨ attrs.logic = "common.undo_redo")
    (ys : List Yield) (h : Patch.runLogic v attrs it = .ok ys) :
    YShape v attrs it.key d (holder rules old (raw, it.key)) (holder rules new (raw, it.key)) ys := by
  have hc : ∀ op, iGet it op = ((d.filter (slotIs (raw, it.key))).filter (·.op == op)).map entryOf := by
    intro op; rw [hI.2.1 it hit op, filter_sel]
  rw [iGet_eta it, hc, hc, hc, hc, hc] at h
  have hs := hd.slot (raw, it.key)
  have hmem : ∀ i ∈ d.filter (slotIs (raw, it.key)), i ∈ d := fun i hi => (List.mem_filter.1 hi).1
  generalize d.filter (slotIs (raw, it.key)) = l at h hs hmem
  generalize holder rules old (raw, it.key) = a at hs
  generalize holder rules new (raw, it.key) = b at hs
  obtain ⟨tnone, trem, tadd, taff, tboth⟩ := logic_table v attrs hl it.key
  cases hs with
  | none =>
    cases (tnone _).symm.trans h
    exact .none
  | removed hop =>
    simp only [filter_one, hop, List.map_nil, List.map_cons, reduceCtorEq, if_false, if_true] at h
    rw [trem] at h
    cases hc : reverseCmd v attrs it.key <;> rw [hc] at h <;> cases h
    exact .removed hc
  | added hop =>
    simp only [filter_one, hop, List.map_nil, List.map_cons, reduceCtorEq, if_false, if_true] at h
    cases (tadd _).symm.trans h
    rw [putY_entry]
    exact .put (hmem _ List.mem_cons_self) (Or.inl hop)
  | kept hop =>
    rcases hop with hop | hop <;>
      simp only [filter_one, hop, List.map_nil, List.map_cons, reduceCtorEq, if_false, if_true] at h
    · cases (tnone _).symm.trans h
      exact .unchanged (hmem _ List.mem_cons_self) hop
    · cases (taff _).symm.trans h
      rw [putY_entry]
      exact .put (hmem _ List.mem_cons_self) (Or.inr hop)
  | replaced hne hp hi hj =>
    simp only [filter_perm_pair hp hi hj, List.map_nil, List.map_cons, reduceCtorEq, if_false, if_true] at h
    have hjd := hmem _ (hp.mem_iff.2 (List.mem_cons_of_mem _ List.mem_cons_self))
    rw [tboth] at h
    split at h
    · cases h
      rw [putY_entry]
      exact .put hjd (Or.inl hj)
    · cases hc : reverseCmd v attrs it.key <;> rw [hc] at h <;> cases h
      rw [putY_entry]
      exact .undoRedo hne hjd hj hc

theorem yshape_mem {attrs : PAttrs} {key : List String} {a b : Option String}
    {ys : List Yield} (hsh : YShape v attrs key d a b ys) {y : Yield} (hy : y ∈ ys) :
    (y.direct = false ∧ a.isSome ∧ reverseCmd v attrs key = some y.row) ∨
    ∃ i ∈ d, (i.op = .added ∨ i.op = .affected) ∧ b = some i.row ∧ y = putY i := by
  cases hsh with
  | none => cases hy
  | unchanged => cases hy
  | removed hc => cases List.mem_singleton.1 hy; exact Or.inl ⟨rfl, rfl, hc⟩
  | put hi hop => exact Or.inr ⟨_, hi, hop, rfl, List.mem_singleton.1 hy⟩
  | undoRedo _ hi hop hc =>
    rcases List.mem_cons.1 hy with rfl | hy
    · exact Or.inl ⟨rfl, rfl, hc⟩
    · exact Or.inr ⟨_, hi, Or.inl hop, rfl, List.mem_singleton.1 hy⟩

theorem slot_match {r : String} {s : Slot} (hs : slotOf rules r = some s) :
    ∃ cr, classify rules r = some (matchOf rules r, cr) ∧ (matchOf rules r).rawRule = s.1 ∧
      (matchOf rules r).key = s.2 := by
  have hk : (slotOf rules r).isSome := by simp [hs]
  obtain ⟨cr, hcl⟩ := classify_matchOf hk
  have := slotOf_matchOf hk
  rw [hs, Option.some.injEq] at this
  exact ⟨cr, hcl, by rw [this], by rw [this]⟩

theorem rule_attrs (hlr : LevelRules rules) (hd : Lvl rules old new d) (hP : InvR P d) {R : PreRule} (hR : R ∈ P) :
    ((rAttrs R).logic = "common.default" ∨ (rAttrs R).logic = "common.undo_redo") ∧
    (rAttrs R).forceCommit = false ∧
    ∀ r key, slotOf rules r = some (R.raw, key) → (matchOf rules r).attrs = rAttrs R := by
  obtain ⟨-, i0, hi0, hraw, hattrs⟩ := hP.2.1 R hR
  obtain ⟨hk0, hm0⟩ := hd.known i0 hi0
  obtain ⟨cr0, hcl0⟩ := classify_matchOf hk0
  rw [hm0] at hraw hattrs
  obtain ⟨-, h2, h3⟩ := hlr.logic hcl0
  rw [hattrs] at h2 h3
  refine ⟨h2, h3, ?_⟩
  intro r key hs
  obtain ⟨cr, hcl, h1, -⟩ := slot_match hs
  rw [← hattrs]
  exact hlr.sameRaw hcl hcl0 (by rw [h1, hraw])

/-- how the device reads a word `c` that the patch sends for slot `s`: as a command on `s`; a direct yield as the put of
`c`, any other as a removal -/
structure Reads (env : Env) (rules : PRules) (s : Slot) (c : String) (direct : Bool) : Prop where
  slot : cmdSlot rules (den env rules c) = some s
  put : direct = true → den env rules c = .put c
  del : direct = false → ∃ r', den env rules c = .del r'

theorem yshape_reads (hc : CmdsOK v env rules)
    {attrs : PAttrs} {raw : String} {key : List String} {ys : List Yield}
    (hsh : YShape v attrs key d (holder rules old (raw, key)) (holder rules new (raw, key)) ys)
    (hattrs : ∀ r, slotOf rules r = some (raw, key) → (matchOf rules r).attrs = attrs) :
    ∀ y ∈ ys, Reads env rules (raw, key) y.row y.direct := by
  intro y hy
  rcases yshape_mem hsh hy with ⟨hdir, ha, hcmd⟩ | ⟨i, -, -, hb, rfl⟩
  · obtain ⟨ra, ha⟩ := Option.isSome_iff_exists.1 ha
    have hs := (holder_some ha).2
    obtain ⟨cr, hcl, h1, h2⟩ := slot_match hs
    obtain ⟨r', hden, hr'⟩ := den_removal hc hcl (by rw [hattrs ra hs, h2]; exact hcmd)
    exact ⟨by rw [hden, cmdSlot, hr', h1, h2], fun h => (by rw [hdir] at h; cases h), fun _ => ⟨r', hden⟩⟩
  · have hs := (holder_some hb).2
    have hden := den_line hc (c := i.row) (by simp [hs])
    exact ⟨by rw [putY, hden]; exact hs, fun _ => hden, nofun⟩

theorem bucket_fact (hlr : LevelRules rules) (hd : Lvl rules old new d) (hP : InvR P d) (hc : CmdsOK v env rules)
    (rec : PRec) (ord : List ORule) {R : PreRule} (hR : R ∈ P) {it : PreItem} (hit : it ∈ rItems R) {chunk : List RawItem}
    (h : bucketRun Patch.runLogic rec v ord true R.raw (rAttrs R) it = .ok chunk) :
    ∃ ys, YShape v (rAttrs R) it.key d (holder rules old (R.raw, it.key)) (holder rules new (R.raw, it.key)) ys ∧
      NRel rec v ord R.raw (rAttrs R) ys chunk ∧
      ∀ x ∈ chunk, x.forceCommit = false ∧ Reads env rules (R.raw, it.key) x.row x.direct := by
  obtain ⟨hl, hfc, hattrs⟩ := rule_attrs hlr hd hP hR
  unfold bucketRun at h
  split at h
  · cases h
  · rename_i ys hys
    have hsh := bucket_shape (hP.2.1 R hR).1 hd hit v (rAttrs R) hl ys hys
    have hrel : NRel rec v ord R.raw (rAttrs R) ys chunk := yields_nrel rec v ord true R.raw (rAttrs R) ys chunk h
    refine ⟨ys, hsh, hrel, ?_⟩
    intro x hx
    obtain ⟨y, hy, h1, -, h3, h4, -⟩ := hrel.mem_right x hx
    rw [h1, h3, h4]
    exact ⟨hfc, yshape_reads hc hsh (fun r hs => hattrs r it.key hs) y hy⟩

theorem finalOf_leaf {x : RawItem} (h : isLeaf x = true) : finalOf x = (x.row, none, sortKeyOf x) := by
  simp only [finalOf, treeOf, h, if_true]
  rfl

theorem finalOf_block {x : RawItem} (h : isLeaf x = false) :
    finalOf x = (x.row, some (sortTree x.children), sortKeyOf x) := by
  simp only [finalOf, treeOf, h, Bool.false_eq_true, if_false]
  rfl

theorem direct_of_block {x : RawItem} (h : isLeaf x = false) : x.direct = true := by
  unfold isLeaf at h
  simp only [Bool.or_eq_false_iff, Bool.not_eq_false'] at h
  exact h.2

theorem finalOf_slot {sb : Slot} {x : RawItem} (h : Reads env rules sb x.row x.direct) :
    itemSlot env rules (finalOf x) = some sb := by
  cases hlf : isLeaf x with
  | true => rw [finalOf_leaf hlf]; exact h.slot
  | false =>
    have := h.slot
    rw [h.put (direct_of_block hlf)] at this
    rw [finalOf_block hlf]; exact this

theorem slot_cmds (hlr : LevelRules rules) (hd : Lvl rules old new d) (hP : InvR P d) (hc : CmdsOK v env rules)
    (rec : PRec) (ord : List ORule) {out : List RawItem}
    (hout : itemsOfPre Patch.runLogic rec v ord true P = .ok out) (s : Slot) :
    ∃ attrs ys chunk, YShape v attrs s.2 d (holder rules old s) (holder rules new s) ys ∧
      NRel rec v ord s.1 attrs ys chunk ∧
      out.filter (fun x => itemSlot env rules (finalOf x) == some s) = chunk ∧
      ∀ x ∈ chunk, Reads env rules s x.row x.direct := by
  rcases chunk_of_slot (fun x => itemSlot env rules (finalOf x)) hP (fun R hR it hit chunk hb x hx => by
      obtain ⟨ys, -, -, hcf⟩ := bucket_fact hlr hd hP hc rec ord hR hit hb
      exact finalOf_slot (hcf x hx).2) hout s
    with ⟨hnil, hf⟩ | ⟨R, hR, hraw, it, hit, hkey, chunk, hb, hf⟩
  · -- a slot without a diff item is held on neither side
    have hs := hd.slot s
    rw [hnil] at hs
    generalize holder rules old s = a at hs
    generalize holder rules new s = b at hs
    cases hs with
    | none => exact ⟨default, [], [], .none, .nil, hf, nofun⟩
    | replaced _ hp => exact absurd hp.length_eq (by simp)
  · obtain ⟨ys, hsh, hrel, hcf⟩ := bucket_fact hlr hd hP hc rec ord hR hit hb
    rw [hraw] at hsh hrel hcf
    rw [hkey] at hsh hcf
    exact ⟨rAttrs R, ys, chunk, hsh, hrel, hf, fun x hx => (hcf x hx).2⟩

/-- both absent, or the same row with sub-blocks that agree at every level (`SameC` under the row's child rules) -/
def EntSame (rules : PRules) : Option (String × Cfg) → Option (String × Cfg) → Prop
  | none, none => True
  | some (ra, ca), some (rb, cb) => ra = rb ∧ SameC (crOf rules rb) ca cb
  | _, _ => False

/-- what a raw item of slot `s` does to the entry of `s`: a removal empties it, a direct item puts its row and runs its
sorted child tree in the block kept or started there -/
theorem finalOf_act {x : RawItem} {s : Slot} (h : Reads env rules s x.row x.direct) (a : Option (String × Cfg)) :
    itemAct env rules (finalOf x) a =
      if x.direct = true then
        some (x.row, .mk (applyTree env (crOf rules x.row) (sortTree x.children) (keepOrNew x.row a).2.kids))
      else none := by
  cases hdir : x.direct with
  | false =>
    obtain ⟨r', hden⟩ := h.del hdir
    rw [finalOf_leaf (by simp [isLeaf, hdir])]
    simp only [itemAct, hden, cmdAct, Bool.false_eq_true, if_false]
  | true =>
    have hden := h.put hdir
    have hs := h.slot
    rw [hden] at hs
    obtain ⟨cr, hcl⟩ := classify_matchOf (row := x.row) (Option.isSome_iff_exists.2 ⟨s, hs⟩)
    rw [crOf_eq hcl, if_pos rfl]
    cases hlf : isLeaf x with
    | true =>
      rw [finalOf_leaf hlf]
      simp only [itemAct, hden, cmdAct]
      have hch : x.children = .mk [] := by
        unfold isLeaf at hlf
        simp only [hdir, Bool.not_true, Bool.or_false, Bool.and_eq_true, List.isEmpty_iff] at hlf
        generalize x.children = t at hlf
        obtain ⟨items⟩ := t
        simp only [PTree.items] at hlf
        rw [hlf.1]
      rw [hch, sortTree_nil, applyTree_nil, cfg_eta]
      exact congrArg some (Prod.ext (keepOrNew_fst x.row a) rfl)
    | false =>
      rw [finalOf_block hlf]
      simp only [itemAct, hcl]

theorem keepOrNew_kids {old : List (String × Cfg)} (hwo : WF rules old) {s : Slot} {rb : String}
    (hs : slotOf rules rb = some s) : (keepOrNew rb (entryAt rules old s)).2.kids = subOf old rb := by
  have hnot : (∀ c, (rb, c) ∉ old) → subOf old rb = [] := by
    intro h
    apply subOf_of_not_mem
    intro hm
    obtain ⟨e, he, heq⟩ := List.mem_map.1 hm
    obtain ⟨r, c⟩ := e
    simp only at heq
    subst heq
    exact h c he
  cases ha : entryAt rules old s with
  | none =>
    rw [hnot]
    · rfl
    · intro c hc
      have := entryAt_of_mem hwo hc hs
      rw [ha] at this; cases this
  | some e =>
    obtain ⟨ra, ca⟩ := e
    by_cases hab : ra = rb
    · subst hab
      simp only [keepOrNew, if_true]
      rw [subOf_of_mem (rows_nodup hwo) (entryAt_some ha).1]
    · simp only [keepOrNew, hab, if_false]
      rw [hnot]
      · rfl
      · intro c hc
        have := entryAt_of_mem hwo hc hs
        rw [ha] at this
        simp only [Option.some.injEq, Prod.mk.injEq] at this
        exact hab this.1

/-- the hypothesis on the recursion of `make_patch`: the child tree of every ADDED/AFFECTED row converges -/
def RecOK (env : Env) (v : Vendor) (rules : PRules) (ord : List ORule) (rec : PRec)
    (old new : List (String × Cfg)) (d : List DItem) : Prop :=
  ∀ i ∈ d, (i.op = .added ∨ i.op = .affected) → ∀ o T, ChildTree rec v ord i o T →
    SameC (crOf rules i.row) (.mk (applyTree env (crOf rules i.row) (sortTree T) (subOf old i.row)))
      (.mk (subOf new i.row))

theorem put_result (hwn : WF rules new)
    (hrec : RecOK env v rules ord rec old new d) {s : Slot} {raw : String} {attrs : PAttrs}
    {i : DItem} (hi : i ∈ d) (hop : i.op = .added ∨ i.op = .affected)
    (hb : holder rules new s = some i.row) {x : RawItem} (hx : NItemOf rec v ord raw attrs (putY i) x)
    (hr : Reads env rules s x.row x.direct)
    (a' : Option (String × Cfg)) (ha' : (keepOrNew i.row a').2.kids = subOf old i.row) :
    EntSame rules (itemAct env rules (finalOf x) a') (entryAt rules new s) := by
  obtain ⟨h1, -, -, h4, -, o, ho, -, -, hsub⟩ := hx
  have hxrow : x.row = i.row := h1
  have hxdir : x.direct = true := h4
  rw [finalOf_act hr, if_pos hxdir, hxrow, ha']
  obtain ⟨cb, hnb⟩ := entry_of_holder hb
  rw [hnb]
  refine ⟨rfl, ?_⟩
  have := hrec i hi hop o x.children ⟨⟨_, _, ho⟩, hsub⟩
  rwa [subOf_of_mem (rows_nodup hwn) (entryAt_some hnb).1, cfg_eta] at this

theorem slot_final (hc : CmdsOK v env rules)
    (hrb : ∀ r ∈ ord, r.orderReverse = false) (hwo : WF rules old) (hwn : WF rules new)
    (hd : NDiff rules old new d) (hrec : RecOK env v rules ord rec old new d)
    (s : Slot) (attrs : PAttrs) (ys : List Yield) (chunk : List RawItem)
    (hsh : YShape v attrs s.2 d (holder rules old s) (holder rules new s) ys)
    (hrel : NRel rec v ord s.1 attrs ys chunk) (hden : ∀ x ∈ chunk, Reads env rules s x.row x.direct) :
    EntSame rules ((stableSort itemLt (chunk.map finalOf)).foldl (fun x t => itemAct env rules t x)
      (entryAt rules old s)) (entryAt rules new s) := by
  generalize ha : holder rules old s = a at hsh
  generalize hb : holder rules new s = b at hsh
  cases hsh with
  | none =>
    cases hrel
    rw [holder_none_iff.1 ha, holder_none_iff.1 hb]
    trivial
  | removed =>
    obtain _ | ⟨hx, _ | _⟩ := hrel
    simp only [List.map_cons, List.map_nil, sort_single, List.foldl_cons, List.foldl_nil]
    rw [finalOf_act (hden _ List.mem_cons_self), if_neg (by rw [hx.2.2.2.1]; nofun), holder_none_iff.1 hb]
    trivial
  | unchanged hi hop =>
    cases hrel
    obtain ⟨ca, hea⟩ := entry_of_holder ha
    obtain ⟨cb, heb⟩ := entry_of_holder hb
    rw [hea, heb]
    refine ⟨rfl, ?_⟩
    have := hd.unchanged hi hop
    rwa [subOf_of_mem (rows_nodup hwo) (entryAt_some hea).1, subOf_of_mem (rows_nodup hwn) (entryAt_some heb).1,
      cfg_eta, cfg_eta] at this
  | put hi hop =>
    obtain _ | ⟨hx, _ | _⟩ := hrel
    simp only [List.map_cons, List.map_nil, sort_single, List.foldl_cons, List.foldl_nil]
    exact put_result hwn hrec hi hop hb hx (hden _ List.mem_cons_self) _ (keepOrNew_kids hwo (holder_some hb).2)
  | @undoRedo ra c i hne hi hop =>
    obtain _ | ⟨hx1, _ | ⟨hx2, _ | _⟩⟩ := hrel
    obtain ⟨r', h1⟩ := (hden _ List.mem_cons_self).del hx1.2.2.2.1
    -- the device reads the removal command as a removal, so it is not the exit word
    have hex : v.exit = "" ∨ v.exit ≠ c := hc.exitKnown.imp_right fun he heq => by
      rw [hx1.1] at h1
      exact Cmd.noConfusion (h1.symm.trans (den_exit (heq ▸ he)))
    have hx2' := hx2
    obtain ⟨hx1row, hr1, -, hx1dir, -, o1, ho1, ho1a, ho1b, -⟩ := hx1
    obtain ⟨-, hr2, -, -, -, o2, ho2, ho2a, ho2b, -⟩ := hx2
    rename_i x1 x2
    have hk : itemLt (finalOf x2) (finalOf x1) = false := by
      show (finalOf x2).2.2.lt (finalOf x1).2.2 = false
      rw [finalOf_key, finalOf_key, sortKeyOf, sortKeyOf, hr1, hr2, ho1a, ho1b, ho2a, ho2b]
      exact put_not_before_removal s.1 o1 o2 (getOrder_removal v ord _ _ o1 hrb hex ho1)
        (getOrder_direct v ord _ _ o2 ho2)
    have hsort : stableSort itemLt ([x1, x2].map finalOf) = [finalOf x1, finalOf x2] :=
      sort_pair itemLt _ _ hk
    rw [hsort]
    simp only [List.foldl_cons, List.foldl_nil]
    rw [finalOf_act (hden x1 List.mem_cons_self), if_neg (by rw [hx1dir]; nofun)]
    refine put_result hwn hrec hi (Or.inl hop) hb hx2' (hden x2 (List.mem_cons_of_mem _ List.mem_cons_self)) none ?_
    rw [subOf_of_not_mem fun hm => hne (Option.some.inj ((holder_of_row hwo hm (holder_some hb).2).symm.trans ha)).symm]
    rfl

theorem tree_sorted (out : List RawItem) (h : ∀ x ∈ out, x.forceCommit = false) :
    (sortTree (buildTree out)).items = stableSort itemLt (out.map finalOf) := by
  rw [buildTree_flat out h, sortTree, sortItems_eq_map, List.map_map]
  rfl

theorem sameC_of_entries {a b : List (String × Cfg)} (hwa : WF rules a) (hwb : WF rules b)
    (h : ∀ s, EntSame rules (entryAt rules a s) (entryAt rules b s)) : SameC rules (.mk a) (.mk b) := by
  rw [sameC_mk]
  constructor
  · intro s
    rw [holder_entryAt, holder_entryAt]
    have := h s
    generalize entryAt rules a s = ea at this
    generalize entryAt rules b s = eb at this
    match ea, eb, this with
    | none, none, _ => rfl
    | none, some _, h => exact h.elim
    | some (_, _), none, h => exact h.elim
    | some (ra, ca), some (rb, cb), h => rw [Option.map_some, Option.map_some, h.1]
  · apply sameL_of
    intro row ca hca cb hcb m cr hcl
    have hslot := slotOf_of_classify hcl
    have := h (m.rawRule, m.key)
    rw [entryAt_of_mem hwa hca hslot, entryAt_of_mem hwb hcb hslot] at this
    have h2 := this.2
    rw [crOf_eq hcl] at h2
    exact h2

theorem out_forceCommit {out : List RawItem} (hlr : LevelRules rules) (hc : CmdsOK v env rules) (hl : Lvl rules old new d)
    (hout : itemsOfPre Patch.runLogic rec v ord true (makePre d).rules = .ok out) :
    ∀ x ∈ out, x.forceCommit = false := by
  intro x hx
  obtain ⟨R, hR, it, hit, chunk, hb, hxc⟩ := itemsOfPre_mem _ _ _ _ _ _ _ hout x hx
  obtain ⟨-, -, -, hcf⟩ := bucket_fact hlr hl (makePre_inv d) hc rec ord hR hit hb
  exact (hcf x hxc).1

/-- an item of the sorted tree of a level: a leaf, or the block of an ADDED/AFFECTED row over the sorted tree `make_patch`
builds below it -/
theorem tree_item {out : List RawItem} (hlr : LevelRules rules) (hc : CmdsOK v env rules) (hl : Lvl rules old new d)
    (hout : itemsOfPre Patch.runLogic rec v ord true (makePre d).rules = .ok out) {t : TItem}
    (ht : t ∈ (sortTree (buildTree out)).items) :
    (∃ row k, t = (row, none, k)) ∨
    ∃ i ∈ d, (i.op = .added ∨ i.op = .affected) ∧ (slotOf rules i.row).isSome ∧
      ∃ o T k, ChildTree rec v ord i o T ∧ t = (i.row, some (sortTree T), k) := by
  rw [tree_sorted out (out_forceCommit hlr hc hl hout)] at ht
  obtain ⟨x, hx, rfl⟩ := List.mem_map.1 ((sort_perm itemLt _).mem_iff.1 ht)
  cases hlf : isLeaf x with
  | true => exact .inl ⟨_, _, finalOf_leaf hlf⟩
  | false =>
    obtain ⟨R, hR, it, hit, chunk, hb, hxc⟩ := itemsOfPre_mem _ _ _ _ _ _ _ hout x hx
    obtain ⟨ys, hsh, hrel, hcf⟩ := bucket_fact hlr hl (makePre_inv d) hc rec ord hR hit hb
    have hd := direct_of_block hlf
    obtain ⟨y, hy, hxrow, -, -, hxdir, -, o, hgo, -, -, hsub⟩ := hrel.mem_right x hxc
    rcases yshape_mem hsh hy with ⟨hn, -⟩ | ⟨i, hi, hop, -, rfl⟩
    · rw [← hxdir, hd] at hn; cases hn
    · have hxrow : x.row = i.row := hxrow
      have := (hcf x hxc).2.slot
      rw [(hcf x hxc).2.put hd, hxrow] at this
      exact .inr ⟨i, hi, hop, by simp [show slotOf rules i.row = _ from this], o, _, _, ⟨⟨_, _, hgo⟩, hsub⟩,
        by rw [finalOf_block hlf, hxrow]⟩

theorem level_converges
    {out : List RawItem}
    (hlr : LevelRules rules) (hc : CmdsOK v env rules) (hrb : ∀ r ∈ ord, r.orderReverse = false)
    (hwo : WF rules old) (hwn : WF rules new) (hd : NDiff rules old new d)
    (hout : itemsOfPre Patch.runLogic rec v ord true (makePre d).rules = .ok out)
    (hrec : RecOK env v rules ord rec old new d) :
    WF rules (applyItems env rules (sortTree (buildTree out)).items old) ∧
    SameC rules (.mk (applyItems env rules (sortTree (buildTree out)).items old)) (.mk new) := by
  rw [tree_sorted out (out_forceCommit hlr hc hd.lvl hout)]
  obtain ⟨hwf, hent⟩ := applyItems_entries env rules _ old hwo
  refine ⟨hwf, sameC_of_entries hwf hwn fun s => ?_⟩
  rw [hent s, ← sort_filter_comm itemLt itemLt_strictWeak, List.filter_map]
  have hq : (fun t => itemSlot env rules t == some s) ∘ finalOf =
      fun x => itemSlot env rules (finalOf x) == some s := rfl
  rw [hq]
  obtain ⟨attrs, ys, chunk, hsh, hrel, hch, hden⟩ := slot_cmds hlr hd.lvl (makePre_inv d) hc rec ord hout s
  rw [hch]
  exact slot_final hc hrb hwo hwn hd hrec s attrs ys chunk hsh hrel hden

theorem deviceMode_induct {motive : List ORule → List DItem → PTree → Prop}
    (step : PatchStep Patch.runLogic v true motive) {ordering : List ORule} {old new : Cfg} {r : Api.Result}
    (hr : Api.deviceMode Patch.runLogic v rules ordering true old new = .ok r) :
    ∃ d T, makeDiff rules old new = .ok d ∧ motive ordering d T ∧ r.patch = sortTree T := by
  unfold Api.deviceMode at hr
  cases hmd : makeDiff rules old new with
  | error e => rw [hmd] at hr; cases hr
  | ok d =>
    rw [hmd] at hr
    simp only [Api.liftD, bind, Except.bind] at hr
    cases hp : makePatchWith Patch.runLogic v ordering true (makePre d) with
    | error e => rw [hp] at hr; cases hr
    | ok p =>
      rw [hp] at hr
      cases hr
      obtain ⟨T, hT, rfl⟩ := makePatchWith_induct step hp
      exact ⟨d, T, rfl, hT, rfl⟩

theorem nested_converges (v : Vendor) (env : Env) (rules : PRules) (ordering : List ORule) (old new : Cfg)
    (r : Api.Result)
    (hr : NestedRules rules) (hgo : GoodC rules old) (hgn : GoodC rules new)
    (hc : CmdsOKAll v env rules) (hp : NoPin ordering)
    (hres : Api.deviceMode Patch.runLogic v rules ordering true old new = .ok r) :
    SameC rules (.mk (applyTree env rules r.patch old.kids)) new := by
  obtain ⟨d', hmd', hd⟩ := makeDiff_nested hr hgo hgn
  obtain ⟨d, T, hmd, h, hpatch⟩ := deviceMode_induct (v := v)
    (motive := fun ord d T => ∀ rules old new, NestedLevel v env rules old new d → NoPin ord →
      SameC rules (.mk (applyTree env rules (Patch.sortTree T) old.kids)) new) (by
    intro ord d rec out hout ih rules old new hl hp
    obtain ⟨ko⟩ := old
    obtain ⟨kn⟩ := new
    rw [applyTree_eq]
    refine (level_converges (levelRules_of_nested hl.nested) hl.cmds.1 (Converge.Lemmas.noPin_top ord hp)
      (goodC_mk.1 hl.goodOld).1 (goodC_mk.1 hl.goodNew).1 hl.diff hout ?_).2
    intro i hi hop o T hT
    have ⟨⟨row, dir, ho⟩, _⟩ := hT
    exact ih i hi o T hT _ _ _ (hl.sub hi hop) (getOrder_noPin v ord row dir _ o hp ho)) hres
  cases hmd.symm.trans hmd'
  rw [hpatch]
  exact h rules old new ⟨hr, hc, hgo, hgn, hd⟩ hp

end Annet.ConvergeNested.Lemmas
