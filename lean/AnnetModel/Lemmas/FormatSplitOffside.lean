/-
The offside parser applied to the reference rendering of a well-formed tree gives the tree back; and whatever it
returns for ANY text split by `CommonFormatter.split` is a well-formed tree (`pw_…`, `parsed_wf`), so every parsed
device text is in the domain of the round trip.
-/
import AnnetModel.Lemmas.FormatSplitText
import AnnetModel.Lemmas.Offside

namespace Annet.FormatSplit.Lemmas
open Annet Annet.Offside Annet.FormatSplit
open Annet.Implicit.Spec (NoDupKeys NoDupKeysL)

theorem classify_clean (n : Nat) (c : Char) (t : List Char) (hc : pyIsSpace c = false) (hbang : c ≠ '!')
    (hhash : c ≠ '#') (hl : (c :: t).getLast?.any pyIsSpace = false) :
    classify comments (String.ofList (blanks n ++ c :: t)) = Item.text n (String.ofList (c :: t)) := by
  have hsec : startsWith (blanks n ++ c :: t) ['#'] = false := by
    cases n with
    | zero => simpa [startsWith, blanks, List.isPrefixOf] using fun e : '#' = c => hhash e.symm
    | succ n => simp [startsWith, blanks_succ, List.isPrefixOf]
  simp only [classify, String.toList_ofList, strip_blanks n _ (by simpa using hc) hl, hsec, parseIndent_blanks n c t hc, Bool.and_false,
    Bool.false_eq_true, if_false]
  rw [if_neg]
  simpa [comments, startsWith] using ⟨fun e => hbang e.symm, fun e => hhash e.symm⟩

theorem classify_line (n : Nat) (r : String) (h : rowBase r.toList = true) :
    classify comments (String.ofList (blanks n ++ r.toList)) = Item.text n r := by
  obtain ⟨c, t, hr, hc, hbang, hhash, hl, -⟩ := rowBase_facts h
  rw [hr] at hl
  rw [hr, classify_clean n c t hc hbang hhash hl, ← hr, String.ofList_toList]

theorem popLoop_rep (w : Nat) (hw : 0 < w) (d e : Nat) (h : d ≤ e) :
    popLoop ((w * d : Nat) : Int) (List.replicate e w) ((w * e : Nat) : Int)
      = (List.replicate d w, ((w * d : Nat) : Int)) := by
  have := Offside.Lemmas.popLoop_all (List.replicate d w) (w * d) (List.replicate (e - d) w)
    fun x hx => List.eq_of_mem_replicate hx ▸ hw
  rwa [List.replicate_append_replicate, List.sum_replicate_nat, Nat.sub_add_cancel h, Nat.mul_comm _ w, ← Nat.mul_add,
    Nat.add_sub_cancel' h] at this

theorem stepText_rep (w : Nat) (hw : 0 < w) (d e : Nat) (g : Option Nat) (hde : d ≤ e + 1)
    (hg : g = some 0 ∨ (g = none ∧ e = 0 ∧ d = 0)) :
    stepText ⟨List.replicate e w, ((w * e : Nat) : Int), g⟩ (w * d)
      = some (⟨List.replicate d w, ((w * d : Nat) : Int), some 0⟩, d) := by
  rcases hg with rfl | ⟨rfl, rfl, rfl⟩
  · by_cases h1 : d = e + 1
    · subst h1
      rw [Offside.Lemmas.stepText_push (by omega) (by rw [Nat.mul_succ]; omega)]
      have : (((w * (e + 1) : Nat) : Int) - ((0 : Nat) : Int) - ((w * e : Nat) : Int)).toNat = w := by
        rw [Nat.mul_succ]; omega
      rw [this]
      simp [List.replicate_succ]
    · by_cases h2 : d = e
      · subst h2
        rw [Offside.Lemmas.stepText_same (by omega) (by omega)]
        simp
      · have hlt : w * d < w * e := Nat.mul_lt_mul_of_pos_left (by omega) hw
        rw [Offside.Lemmas.stepText_pop (by omega) (by omega)]
        have : ((w * d : Nat) : Int) - ((0 : Nat) : Int) = ((w * d : Nat) : Int) := by omega
        rw [this, popLoop_rep w hw d e (by omega)]
        simp
  · simp [stepText]

/-- the machine state after rows of a rendering of width `w`, ready for a row at depth `d` -/
def OffGood (w d : Nat) (st : St) : Prop :=
  ∃ e g, st = ⟨List.replicate e w, ((w * e : Nat) : Int), g⟩ ∧ d ≤ e + 1 ∧
    (g = some 0 ∨ (g = none ∧ e = 0 ∧ d = 0))

theorem OffGood_mono {w d d' : Nat} {st : St} (hd : d' ≤ d) (h : OffGood w d st) : OffGood w d' st := by
  obtain ⟨e, g, rfl, h1, h2⟩ := h
  exact ⟨e, g, rfl, by omega, h2.imp_right fun ⟨hg, he, h0⟩ => ⟨hg, he, by omega⟩⟩

/-- one row at an allowed depth: the invariant holds one level deeper, the stack is cut to the depth and takes the row -/
theorem run_row (w : Nat) (hw : 0 < w) {d : Nat} {st : St} (hst : OffGood w d st) (stack : List String) (k : String) :
    ∃ st', OffGood w (d + 1) st' ∧ ∀ rest n, runItems (Item.text (w * d) k :: rest) st stack n
      = (runItems rest st' (stack.take d ++ [k]) (n + 1)).map ((stack.take d ++ [k]) :: ·) := by
  obtain ⟨e, g, rfl, hde, hg⟩ := hst
  refine ⟨⟨List.replicate d w, ((w * d : Nat) : Int), some 0⟩, ⟨d, some 0, rfl, by omega, Or.inl rfl⟩, fun rest n => ?_⟩
  rw [Offside.Lemmas.runItems_text_some (stepText_rep w hw d e g hde hg), Offside.Lemmas.restack_eq]

/- The line number (`n + t.size`) says where an error inside `rest` is reported; `stacks_itemsL` does not need it. -/
mutual
theorem run_items (w : Nat) (hw : 0 < w) : (t : Cfg) → ∀ (d : Nat) (p : List String) (st : St)
    (stack : List String), p.length = d → OffGood w d st → stack.take d = p →
    ∃ st' stack', OffGood w d st' ∧ stack'.take d = p ∧ ∀ rest n,
      runItems (items w d t ++ rest) st stack n
        = (runItems rest st' stack' (n + t.size)).map (fun out => (Cfg.paths t).map (p ++ ·) ++ out)
  | .mk ks => by
    intro d p st stack hp hst hstack
    simp only [items, Cfg.size, Cfg.paths]
    exact run_itemsL w hw ks d p st stack hp hst hstack
theorem run_itemsL (w : Nat) (hw : 0 < w) : (ks : List (String × Cfg)) → ∀ (d : Nat)
    (p : List String) (st : St) (stack : List String), p.length = d → OffGood w d st →
    stack.take d = p →
    ∃ st' stack', OffGood w d st' ∧ stack'.take d = p ∧ ∀ rest n,
      runItems (itemsL w d ks ++ rest) st stack n
        = (runItems rest st' stack' (n + Cfg.sizeList ks)).map
            (fun out => (Cfg.pathsList ks).map (p ++ ·) ++ out)
  | [] => by
    intro d p st stack hp hst hstack
    refine ⟨st, stack, hst, hstack, ?_⟩
    intro rest n
    simp only [itemsL, Cfg.sizeList, Cfg.pathsList, List.nil_append, List.map_nil, Nat.add_zero]
    exact (Except.map_id' _).symm
  | (k, c) :: rest0 => by
    intro d p st stack hp hst hstack
    obtain ⟨st1, hg1, H1⟩ := run_row w hw hst stack k
    rw [hstack] at H1
    obtain ⟨st2, stack2, hg2, hs2, H2⟩ := run_items w hw c (d + 1) (p ++ [k]) st1 (p ++ [k]) (by simp [hp]) hg1
      (by rw [List.take_of_length_le (by simp [hp])])
    have hs2' : stack2.take d = p := by
      have : (stack2.take (d + 1)).take d = stack2.take d := by
        rw [List.take_take]; congr 1; omega
      rw [← this, hs2, List.take_left' hp]
    obtain ⟨st3, stack3, hg3, hs3, H3⟩ := run_itemsL w hw rest0 d p st2 stack2 hp (OffGood_mono (Nat.le_succ d) hg2) hs2'
    refine ⟨st3, stack3, hg3, hs3, ?_⟩
    intro rest n
    simp only [itemsL, List.cons_append, List.append_assoc]
    rw [H1, H2, H3, Except.map_map, Except.map_map]
    have e1 : n + 1 + c.size + Cfg.sizeList rest0 = n + Cfg.sizeList ((k, c) :: rest0) := by
      simp only [Cfg.sizeList]; omega
    rw [e1]
    congr 1
    funext out
    simp [Cfg.pathsList, List.map_map, Function.comp_def]
end

theorem stacks_itemsL (w : Nat) (hw : 0 < w) (ks : List (String × Cfg)) :
    stacks (itemsL w 0 ks) = .ok (Cfg.pathsList ks) := by
  obtain ⟨st', stack', -, -, H⟩ := run_itemsL w hw ks 0 [] St.init [] rfl
    ⟨0, none, by simp [St.init], by omega, Or.inr ⟨rfl, rfl, rfl⟩⟩ rfl
  have := H [] 1
  simp only [List.append_nil] at this
  simp only [stacks, this, runItems]
  simp [Except.map]

/-- insert all paths `qs` into `t`; `treeOfStacks` is `insAll · Cfg.empty` -/
def insAll (qs : List (List String)) (t : Cfg) : Cfg := qs.foldl (fun t p => Cfg.insertPath p t) t

theorem treeOfStacks_eq_insAll (ss : List (List String)) : treeOfStacks ss = insAll ss Cfg.empty := rfl

theorem insAll_append (a b : List (List String)) (t : Cfg) :
    insAll (a ++ b) t = insAll b (insAll a t) := by
  simp [insAll, List.foldl_append]

/-- entry by entry: the lines of `(k, c)` build `{k: c}` (`treeOfStacks_under`), and merging it with the later siblings,
none of which has the key `k`, puts it in front (`merge_new`) -/
theorem treeOfStacks_pathsList (ok : String → Bool) (ks : List (String × Cfg)) : wfL ok ks = true →
    treeOfStacks (Cfg.pathsList ks) = .mk ks := by
  induction ks using Cfg.forest_induction with
  | nil => exact fun _ => rfl
  | cons k cks rest ih1 ih2 =>
    intro h
    obtain ⟨-, hk, hc, hr⟩ := (wfL_cons ok k cks rest).1 h
    rw [Cfg.pathsList, Cfg.paths, Gen.Lemmas.treeOfStacks_append, Gen.Lemmas.treeOfStacks_under, ih1 hc, ih2 hr,
      Gen.Lemmas.merge_new k _ rest hk]

theorem insAll_paths (ok : String → Bool) : (t : Cfg) → wf ok t = true →
    insAll (Cfg.paths t) Cfg.empty = t
  | .mk ks => fun h => treeOfStacks_pathsList ok ks (by simpa only [wf] using h)

theorem classify_renderL (ok : String → Bool) (hok : ∀ r, ok r = true → rowBase r.toList = true)
    (w : Nat) : (ks : List (String × Cfg)) → wfL ok ks = true → ∀ d,
    (renderL w d ks).map (fun l => classify comments (String.ofList l)) = itemsL w d ks := by
  intro ks
  induction ks using Cfg.forest_induction with
  | nil => intro _ d; simp [renderL, itemsL]
  | cons k ks rest ih1 ih2 =>
    intro h d
    obtain ⟨hk, -, hc, hr⟩ := (wfL_cons ok k ks rest).1 h
    simp only [renderL, render, itemsL, items, List.map_cons, List.map_append, ih1 hc, ih2 hr,
      classify_line (w * d) k (hok k hk)]

theorem parse_render (w : Nat) (hw : 0 < w) (ok : String → Bool)
    (hok : ∀ r, ok r = true → rowBase r.toList = true) (t : Cfg) (h : wf ok t = true) :
    parseToTree comments ((render w 0 t).map String.ofList) = .ok t := by
  obtain ⟨ks⟩ := t
  simp only [wf] at h
  simp only [parseToTree, render, List.map_map, Function.comp_def, classify_renderL ok hok w ks h 0, parseItems,
    stacks_itemsL w hw ks, treeOfStacks_pathsList ok ks h]

theorem pw_classify_good (cs : List Char) (k : Nat) (body : String) (hnl : '\n' ∉ cs)
    (h : classify comments (String.ofList cs) = .text k body) :
    rowBase body.toList = true := by
  unfold classify at h
  simp only [String.toList_ofList] at h
  split at h
  · cases h
  · split at h
    · cases h
    · rename_i h2
      injection h with _ hb
      subst hb
      simp only [String.toList_ofList]
      simp only [Bool.or_eq_true, not_or] at h2
      obtain ⟨hne, hcm⟩ := h2
      have hlast := Offside.Lemmas.strip_last cs
      have hsub := Offside.Lemmas.strip_subset cs
      generalize hs : strip cs = s at *
      cases s with
      | nil => simp at hne
      | cons c t =>
        have hhead := Offside.Lemmas.strip_head cs c (by rw [hs]; rfl)
        have hnl' : '\n' ∉ c :: t := fun hm => hnl (hsub _ hm)
        have e1 : "!".toList = ['!'] := rfl
        have e2 : "#".toList = ['#'] := rfl
        simp only [comments, List.any_cons, List.any_nil, startsWith, e1, e2, Bool.or_false,
          Bool.or_eq_true, not_or] at hcm
        simp [List.isPrefixOf] at hcm
        unfold rowBase
        simp only [hlast, hhead]
        have h1 : c ≠ '!' := fun e => hcm.1 e.symm
        have h2 : c ≠ '#' := fun e => hcm.2 e.symm
        simp [h1, h2]
        simpa using hnl'

theorem pw_run_good (P : String → Prop) (items : List Item) (hitems : ∀ k b, Item.text k b ∈ items → P b)
    (st : St) (stack : List String) (n : Nat) (hstack : ∀ s ∈ stack, P s) :
    ∀ out, runItems items st stack n = .ok out → ∀ p ∈ out, ∀ s ∈ p, P s := by
  fun_induction runItems items st stack n with
  | case1 => rintro _ ⟨⟩; nofun
  | case2 rest st stack n ih => exact ih (fun k b hm => hitems k b (List.mem_cons_of_mem _ hm)) hstack
  | case3 rest st stack n ih => exact ih (fun k b hm => hitems k b (List.mem_cons_of_mem _ hm)) hstack
  | case4 => nofun
  | case5 => nofun
  | case6 lvl body rest st stack n st' depth _ stack' out' ho ih =>
    rintro _ ⟨⟩
    have hstack' : ∀ s ∈ stack', P s := by
      simp only [stack', Offside.Lemmas.restack_eq, List.mem_append, List.mem_singleton]
      rintro s (h1 | rfl)
      · exact hstack s (List.mem_of_mem_take h1)
      · exact hitems lvl _ List.mem_cons_self
    exact List.forall_mem_cons.2 ⟨hstack', ih (fun k b hm => hitems k b (List.mem_cons_of_mem _ hm)) hstack' _ ho⟩

theorem wfL_of_nodup (ok : String → Bool) (ks : List (String × Cfg)) : NoDupKeysL ks →
    (∀ q ∈ Cfg.pathsList ks, ∀ k ∈ q, ok k = true) → wfL ok ks = true := by
  induction ks using Cfg.forest_induction with
  | nil => exact fun _ _ => rfl
  | cons k ks rest ih1 ih2 =>
    intro h hr
    rw [NoDupKeysL, NoDupKeys] at h
    rw [Cfg.pathsList, Cfg.paths] at hr
    refine (wfL_cons ok k ks rest).2 ⟨?_, ?_, ?_, ?_⟩
    · exact hr [k] (List.mem_append_left _ List.mem_cons_self) k (List.mem_singleton_self k)
    · exact List.any_eq_false.2 fun e he => by simpa using h.1 e he
    · exact ih1 h.2.1 fun q hq x hx =>
        hr (k :: q) (List.mem_append_left _ (List.mem_cons_of_mem _ (List.mem_map_of_mem hq))) x
          (List.mem_cons_of_mem _ hx)
    · exact ih2 h.2.2 fun q hq => hr q (List.mem_append_right _ hq)

theorem parsed_wf (text : Str) (t : Cfg)
    (h : parseToTree comments ((commonSplit text).map String.ofList) = .ok t) :
    wf (fun r => rowBase r.toList) t = true := by
  unfold parseToTree parseItems at h
  split at h
  · cases h
  · rename_i ss hss
    injection h with h
    subst h
    obtain ⟨hn, hp⟩ := Gen.Lemmas.treeOfStacks_spec ss
    generalize treeOfStacks ss = t at hn hp ⊢
    obtain ⟨ks⟩ := t
    refine wfL_of_nodup _ ks hn fun q hq k hk => ?_
    obtain ⟨-, s, hs, hqs⟩ := (hp q).1 hq
    refine pw_run_good (fun s => rowBase s.toList = true) _ ?_ _ _ _ (by simp) _ hss s hs k
      (hqs.subset hk)
    intro k b hm
    simp only [List.map_map, List.mem_map, Function.comp] at hm
    obtain ⟨cs, hcs, hcl⟩ := hm
    have hcs' : cs ∈ splitNl text := by
      unfold commonSplit nonEmpty at hcs
      exact (List.mem_filter.mp hcs).1
    exact pw_classify_good cs k b (pw_splitNl_noNl text cs hcs') hcl

end Annet.FormatSplit.Lemmas
