/-
The reverse form of a rule whose row does not begin with the negation word is `<negation word> <row>`; it can only match
a configuration row in negated form.
-/
import AnnetModel.Lemmas.AclMergeDefs
import AnnetModel.Lemmas.Pattern

namespace Annet.Acl.Lemmas
open Annet Annet.Acl Annet.Acl.Spec Annet.Pattern Annet.Offside Annet.Pattern.Lemmas

theorem negate_of_noPrefix (pre row : List Char) (h : (pre ++ [' ']).isPrefixOf row = false) :
    joinWords (negate pre (splitBlank row)) = pre ++ ' ' :: row := by
  have hs : startsWithPrefix pre (splitBlank row) = false := by
    apply Bool.eq_false_iff.2
    intro hsp
    unfold startsWithPrefix at hsp
    split at hsp
    · next w w2 ws hw =>
      have hr := joinWords_splitBlank row
      rw [hw, beq_iff_eq.1 hsp, joinWords_cons2] at hr
      rw [← hr, List.isPrefixOf_iff_prefix.2 ⟨joinWords (w2 :: ws), by simp⟩] at h
      cases h
    · cases hsp
  rw [negate, hs, if_neg Bool.false_ne_true, joinWords_cons_ne pre (splitBlank_ne_nil row), joinWords_splitBlank]
theorem removeIcaseAux_word (pre rest : List Char) (hpre : ∀ c ∈ pre, c ≠ '(') :
    removeIcaseAux 0 (pre ++ ' ' :: rest) = pre ++ ' ' :: removeIcaseAux 0 rest := by
  induction pre with
  | nil =>
    simp only [List.nil_append]
    rw [removeIcaseAux]
    simp [List.isPrefixOf]
  | cons c cs ih =>
    have hc : c ≠ '(' := hpre c (List.mem_cons_self ..)
    rw [List.cons_append, removeIcaseAux]
    have : "(?i)".toList.isPrefixOf (c :: (cs ++ ' ' :: rest)) = false := by
      show ['(', '?', 'i', ')'].isPrefixOf (c :: (cs ++ ' ' :: rest)) = false
      simp [List.isPrefixOf, Ne.symm hc]
    rw [this]
    simp only [Bool.false_eq_true, if_false]
    rw [ih (fun d hd => hpre d (List.mem_cons_of_mem _ hd))]
    rfl

theorem dropLast3_word (pre rest : List Char) (h : "...".toList.isSuffixOf (pre ++ ' ' :: rest) = true) :
    ∃ rest', dropLast3 (pre ++ ' ' :: rest) = pre ++ ' ' :: rest' := by
  rw [List.isSuffixOf_iff_suffix] at h
  obtain ⟨s, hs⟩ := h
  have hd : dropLast3 (pre ++ ' ' :: rest) = s := by
    unfold dropLast3
    rw [← hs]
    simp
  rw [hd]
  have hno : ' ' ∉ "...".toList := by decide
  rcases List.append_eq_append_iff.1 hs with ⟨a', h1, h2⟩ | ⟨c', h1, h2⟩
  · exact absurd (by rw [h2]; simp) hno
  · cases c' with
    | nil => exact absurd (by rw [← List.nil_append "...".toList, ← h2]; exact List.mem_cons_self ..) hno
    | cons d c'' =>
      simp only [List.cons_append, List.cons.injEq] at h2
      exact ⟨c'', by rw [h1, ← h2.1]⟩

theorem parseRow_toks {row : List Char} {p : Pat} (hp : parseRow false row = some p) :
    ∃ row2, (row2 = removeIcase row ∨
        ("...".toList.isSuffixOf (removeIcase row) = true ∧ row2 = dropLast3 (removeIcase row))) ∧
      wordsToToks (splitBlank row2) = some p.toks := by
  unfold parseRow at hp
  simp only [Bool.false_eq_true, if_false] at hp
  by_cases hell : "...".toList.isSuffixOf (removeIcase row) = true
  · simp only [hell, if_true] at hp
    split at hp
    · cases hp
    · rw [Option.map_eq_some_iff] at hp
      obtain ⟨ts, hts, rfl⟩ := hp
      exact ⟨_, .inr ⟨hell, rfl⟩, hts⟩
  · simp only [hell, Bool.false_eq_true, if_false] at hp
    split at hp
    · cases hp
    · rw [Option.map_eq_some_iff] at hp
      obtain ⟨ts, hts, rfl⟩ := hp
      exact ⟨_, .inl rfl, hts⟩

theorem wordToTok_plain {pre : List Char} (hw : plainWord pre = true) (b : Bool) :
    wordToTok b pre = some (.lit pre) := by
  simp only [plainWord, Bool.and_eq_true, Bool.not_eq_true'] at hw
  obtain ⟨⟨hne, hmeta⟩, _⟩ := hw
  have hno : ∀ c, isMeta c = true → (pre == [c]) = false := fun c hc =>
    Bool.eq_false_iff.2 fun he => by
      rw [beq_iff_eq.1 he, List.any_cons, hc] at hmeta; cases hmeta
  rw [wordToTok, if_neg (Bool.eq_false_iff.1 (hno '*' (by decide +kernel))),
    if_neg (Bool.eq_false_iff.1 (hno '~' (by decide +kernel))), hne, hmeta]
  rfl

theorem wordsToToks_ne_nil {w : List Char} {ws : List (List Char)} {ts : List Tok}
    (h : wordsToToks (w :: ws) = some ts) : ts ≠ [] := by
  cases ws with
  | nil =>
    rw [wordsToToks] at h
    cases hh : wordToTok true w <;> simp [hh] at h
    subst h; simp
  | cons w2 ws2 =>
    rw [wordsToToks.eq_3 _ _ (by simp)] at h
    cases hh : wordToTok false w <;> simp [hh] at h
    cases hh2 : wordsToToks (w2 :: ws2) <;> simp [hh2] at h
    subst h; simp

theorem parseRow_word (pre rest : List Char) (hw : plainWord pre = true) (p : Pat)
    (hp : parseRow false (pre ++ ' ' :: rest) = some p) : ∃ t ts, p.toks = .lit pre :: t :: ts := by
  have hw' := hw
  simp only [plainWord, Bool.and_eq_true, Bool.not_eq_true', List.any_eq_false] at hw'
  obtain ⟨⟨hne, hmeta⟩, hsp⟩ := hw'
  have hparen : ∀ c ∈ pre, c ≠ '(' := by
    intro c hc heq; subst heq
    exact absurd (hmeta _ hc) (by decide)
  have hblank : ∀ c ∈ pre, c ≠ ' ' := by
    intro c hc heq; subst heq
    exact absurd (hsp _ hc) (by decide)
  obtain ⟨row2, hrow2, hts⟩ := parseRow_toks hp
  have h2 : ∃ rest2, row2 = pre ++ ' ' :: rest2 := by
    unfold removeIcase at hrow2
    rw [removeIcaseAux_word pre rest hparen] at hrow2
    rcases hrow2 with h | ⟨hs, h⟩
    · exact ⟨_, h⟩
    · rw [h]; exact dropLast3_word pre _ hs
  obtain ⟨rest2, rfl⟩ := h2
  rw [splitBlank_word pre rest2 hblank] at hts
  cases hs : splitBlank rest2 with
  | nil => exact absurd hs (splitBlank_ne_nil _)
  | cons w ws =>
    rw [hs, wordsToToks.eq_3 _ _ (by simp), wordToTok_plain hw] at hts
    cases hts' : wordsToToks (w :: ws) with
    | none => rw [hts'] at hts; simp at hts
    | some ts' =>
      rw [hts'] at hts
      have hne' := wordsToToks_ne_nil hts'
      cases ts' with
      | nil => exact absurd rfl hne'
      | cons t ts =>
        refine ⟨t, ts, ?_⟩
        have : some (Tok.lit pre :: t :: ts) = some p.toks := by simpa using hts
        exact (Option.some.inj this).symm

theorem reversePat_match (v : Vendor) (hw : plainWord v.reverse.toList = true) (x : Rule)
    (hn : (v.reverse ++ " ").toList.isPrefixOf x.row.toList = false) (p : Pat)
    (hp : reversePat v x = some p) (row : List Char) (hm : (p.match? row).isSome = true) :
    ∃ c rest, stripLit true v.reverse.toList row = some (c :: rest) ∧ pyIsSpace c = true := by
  unfold reversePat at hp
  have hn' : (v.reverse.toList ++ [' ']).isPrefixOf x.row.toList = false := by
    rw [← hn, String.toList_append]; rfl
  rw [negate_of_noPrefix _ _ hn'] at hp
  obtain ⟨t, ts, htoks⟩ := parseRow_word _ _ hw p hp
  unfold Pat.match? at hm
  rw [htoks] at hm
  exact match_lit_first hm

end Annet.Acl.Lemmas
