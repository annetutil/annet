/-
What the flat and the nested theorem of C02 clause (b) share, one level at a time: the rows of a diff are rows of the
(ACL-filtered) old or new configuration and rows the ACL matches; `addresses`, the rulebook hypotheses `ReverseInSlot`,
`RawDetRow`, `NoForceCommit`, and which slot a command of the patch acts on (`addresses_of_den`, `reverse_slot`).

The modules import one another in the order `OutsideFlatBase` ← `OutsideNestedBase` ← `OutsideNested` ← `OutsideFlat`;
`OutsideFlat` comes last: the flat theorem is the case `p = []` of the nested one.
-/
import AnnetModel.Spec.Outside
import AnnetModel.Lemmas.AclDiff
import AnnetModel.Lemmas.Device
import AnnetModel.Lemmas.Diff
import AnnetModel.Lemmas.ProvenanceBase
import AnnetModel.Lemmas.Acl
import AnnetModel.Lemmas.CfgTree

namespace Annet.AclDiff.OutsideFlat
open Annet Annet.Rules Annet.Diff Annet.Diff.Spec Annet.Diff.Lemmas Annet.Device Annet.Device.Abs
open Annet.Device.Lemmas (classify_rule den den_cases cmdSlot)

theorem callDiffLogic_rows (fuel : Nat) (pops : List Pop) (old new : Level) (d : List DItem)
    (h : callDiffLogic fuel pops old new = .ok d) : ∀ r ∈ d.map (·.row), r ∈ rowsOf old ++ rowsOf new := by
  refine callDiffLogic_induct (P := fun _ _ o n d => ∀ r ∈ d.map (·.row), r ∈ rowsOf o ++ rowsOf n)
    (fun _ _ _ _ _ hr => nomatch hr) ?_ ?_ ?_ fuel pops old new d h
  · intro _ _ o n a b ha hb r hr
    rw [List.map_append] at hr
    exact (List.mem_append.1 hr).elim (ha r) (hb r)
  · intro _ _ o n d _ _ hd r hr
    rw [affectedToMoved_rows] at hr
    exact hd r hr
  · intro _ _ _ o n lg d hd r hr
    obtain ⟨i, hi, rfl⟩ := List.mem_map.1 hr
    cases hd i hi with
    | removed he _ _ => exact List.mem_append_left _ (List.mem_map_of_mem (List.mem_filter.1 he).1)
    | kept k hk _ =>
      exact List.mem_append_right _ (List.mem_map_of_mem (List.mem_filter.1 (List.mem_of_getElem? hk)).1)

/-- every top-level entry carries the match `classify` gives its row -/
def Classified (rules : PRules) (d : List DItem) : Prop :=
  ∀ e ∈ d, ∃ cr, classify rules e.row = some (e.m, cr)

theorem covered_mem {av : Acl.Vendor} {acl : Acl.Rules} : ∀ {d : List DItem}, AclDiff.Lemmas.Covered av acl d →
    ∀ e ∈ d, aclCovers av acl e.row = true
  | [], _, e, he => by cases he
  | i :: rest, h, e, he => by
    cases h with
    | cons hm _ _ hrest =>
      rcases List.mem_cons.1 he with rfl | he
      · unfold aclCovers; rw [hm]
      · exact covered_mem hrest e he

theorem applyAcl_rows {av : Acl.Vendor} {fatal excl : Bool} {acl : Acl.Rules} {path : List String} {t t' : Cfg}
    (h : Acl.applyAcl av fatal excl acl path t = .ok t') : ∀ e ∈ t'.kids, t.kids.any (·.1 == e.1) = true := by
  cases Acl.Lemmas.sub_cfg av fatal excl acl path t t' h with
  | mk hl =>
    intro e he
    obtain ⟨x, hx, hxe⟩ := List.mem_map.1 ((Gen.Lemmas.subL_keys _ _ hl).subset (List.mem_map_of_mem (f := (·.1)) he))
    exact List.any_eq_true.2 ⟨x, hx, beq_iff_eq.2 hxe⟩

theorem reverseCmd_congr (v : Vendor) (a a' : PAttrs) (key : List String) (h : a.row = a'.row) :
    Patch.reverseCmd v a key = Patch.reverseCmd v a' key := by
  unfold Patch.reverseCmd
  rw [h]

theorem reverseInSlot_of_cmdsOK {pv : Vendor} {env : Env} {rules : PRules} (h : Converge.CmdsOK pv env rules) :
    ReverseInSlot pv env rules :=
  fun row m cr hcl c hc => (h.removal row m cr hcl c hc).2

theorem addresses_false {env : Env} {rules : PRules} {c : String} {s : Slot} (h : addresses env rules c s = false) :
    slotOf rules c ≠ some s ∧ ∀ r', stripReverse env c = some r' → slotOf rules r' ≠ some s := by
  unfold addresses at h
  rw [Bool.or_eq_false_iff, beq_eq_false_iff_ne, beq_eq_false_iff_ne] at h
  refine ⟨h.1, fun r' hr' hs => h.2 ?_⟩
  rw [hr', Option.bind_some, hs]

theorem changed_outside {env : Env} {rules : PRules} {d : List DItem} {s : Slot}
    (hs : ∀ e ∈ stripUnchanged d, addresses env rules e.row s = false) :
    ∀ e ∈ d, e.op ≠ .unchanged → addresses env rules e.row s = false := by
  intro e he hop
  have := hs _ (Diff.Lemmas.stripItem_mem d e he hop)
  rwa [Diff.Lemmas.stripItem_row e] at this

/-- a word the device reads as a command of slot `s` addresses `s` -/
theorem addresses_of_den {env : Env} {rules : PRules} {c : String} {s : Slot}
    (h : cmdSlot rules (den env rules c) = some s) : addresses env rules c s = true := by
  unfold addresses
  rcases den_cases env rules c with hd | hd | ⟨r', hr, hd⟩ <;> rw [hd] at h
  · cases h
  · rw [show slotOf rules c = some s from h, beq_self_eq_true, Bool.true_or]
  · rw [hr, Option.bind_some, show slotOf rules r' = some s from h, beq_self_eq_true, Bool.or_true]

/-- The removal command of an entry acts on the entry's slot only: by `RawDetRow` it is built from the row of the entry's
own rule, by `ReverseInSlot` the device reads it as the removal of the entry's slot (the command text, taken as a
configuration line, may well be in another slot, so `addresses_of_den` would not do). -/
theorem reverse_slot {pv : Vendor} {env : Env} {rules : PRules} {d : List DItem} {s : Slot}
    (hcl : Classified rules d) (hrev : ReverseInSlot pv env rules) (hraw : RawDetRow rules)
    {e e' : DItem} {row : String} (he : e ∈ d) (he' : e' ∈ d) (hrr : e'.m.rawRule = e.m.rawRule)
    (hrc : Patch.reverseCmd pv e'.m.attrs e.m.key = some row)
    (hs : cmdSlot rules (den env rules row) = some s) : slotOf rules e.row = some s := by
  obtain ⟨cr, hce⟩ := hcl e he
  obtain ⟨cr', hce'⟩ := hcl e' he'
  obtain ⟨f, hf, hf1, hf2⟩ := classify_rule hce
  obtain ⟨f', hf', hf1', hf2'⟩ := classify_rule hce'
  have hrow : e'.m.attrs.row = e.m.attrs.row := by
    rw [hf2, hf2']
    exact hraw f' (List.mem_append.2 hf') f (List.mem_append.2 hf) (by rw [← hf1, ← hf1', hrr])
  rw [reverseCmd_congr pv _ _ _ hrow] at hrc
  obtain ⟨r', hr', hsl⟩ := hrev e.row e.m cr hce row hrc
  unfold den at hs
  split at hs
  · cases hs
  · simp only [hr', hsl, Option.isSome_some, if_true, cmdSlot] at hs
    rw [Device.Lemmas.slotOf_of_classify hce, hs]

end Annet.AclDiff.OutsideFlat
