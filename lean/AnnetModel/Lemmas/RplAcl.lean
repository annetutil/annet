/-
C14: matching symbolic rows against the generators' own ACLs (`Model/Acl.lean`).  One statement about `passRow` serves
every ACL (`passRow_same_children`: rules that hand the same dictionaries to their children); a flat ACL is the case
where nothing is handed down, a block is a header and its body.
-/
import AnnetModel.Lemmas.Rpl
import AnnetModel.Lemmas.AclMatch
import AnnetModel.Spec.RplCover

namespace Annet.Rpl.Lemmas
open Annet Annet.Acl Annet.Pattern Annet.Acl.Spec Annet.Acl.Lemmas Annet.Pattern.Lemmas Annet.Offside

theorem mapM_isSome {α β : Type} {f : α → Option β} :
    ∀ {l : List α}, (∀ x ∈ l, (f x).isSome = true) → ∃ ys, l.mapM f = some ys
  | [], _ => ⟨[], rfl⟩
  | x :: xs, h => by
    obtain ⟨y, hy⟩ := Option.isSome_iff_exists.mp (h x (.head _))
    obtain ⟨ys, hys⟩ := mapM_isSome fun z hz => h z (.tail _ hz)
    exact ⟨y :: ys, by simp [List.mapM_cons, hy, hys]⟩

structure PlainRules (v : Vendor) (rules : Rules) : Prop where
  direct : ∀ r ∈ rules.loc ++ rules.glob, (directPat r).isSome = true
  reverse : ∀ r ∈ rules.loc ++ rules.glob, (reversePat v r).isSome = true
  noIgnore : ∀ r ∈ rules.loc ++ rules.glob, r.ignore = false
  deletable : ∀ r ∈ rules.loc ++ rules.glob, r.cantDelete.all id = false

theorem oneMatch_isSome (v : Vendor) (row : String) (rules : Rules) (h : PlainRules v rules) (rev : Bool) :
    ∀ rg ∈ rules.loc.map (·, false) ++ rules.glob.map (·, true), (oneMatch v row rev rg).isSome = true := by
  intro ⟨r, g⟩ hrg
  have hmem : r ∈ rules.loc ++ rules.glob := by
    simp only [List.mem_append, List.mem_map, Prod.mk.injEq] at hrg ⊢
    exact hrg.imp (fun ⟨_, h, e, _⟩ => e ▸ h) fun ⟨_, h, e, _⟩ => e ▸ h
  obtain ⟨pd, hd⟩ := Option.isSome_iff_exists.mp (h.direct r hmem)
  obtain ⟨pr, hr⟩ := Option.isSome_iff_exists.mp (h.reverse r hmem)
  unfold oneMatch
  cases rev
  all_goals
    simp only [Bool.false_eq_true, if_false, if_true, hd, hr, Option.bind_eq_bind, Option.bind_some]
    split <;> rfl

theorem walk_list (v : Vendor) (rules : Rules) (path : List String) :
    (ks : List (String × Cfg)) → (∀ p ∈ Cfg.pathsList ks, (walk v rules p).isSome = true) →
      applyAclList v true false rules path ks = .ok ks :=
  applyAclList_of_walks v true rules path

/-- a rule row made of literal words only -/
def headOk (h : String) : Bool :=
  let ws := splitBlank h.toList
  parseRow false h.toList == some { toks := ws.map Tok.lit } && !ws.isEmpty &&
    ws.all (fun w => !w.isEmpty && w.all (fun c => !pyIsSpace c)) && joinWords ws == h.toList

def StartsWith (h : String) (text : Str) : Prop := ∃ tail, Tail tail ∧ text = h.toList ++ tail

theorem headOk_match (h : String) (hok : headOk h = true) (text : Str) (hs : StartsWith h text) :
    ∃ p, parseRow false h.toList = some p ∧ (p.match? text).isSome = true := by
  unfold headOk at hok
  simp only [Bool.and_eq_true, beq_iff_eq, Bool.not_eq_true', List.all_eq_true] at hok
  obtain ⟨⟨⟨hp, hne⟩, hcl⟩, hj⟩ := hok
  obtain ⟨tail, ht, rfl⟩ := hs
  refine ⟨_, hp, ?_⟩
  have hws : ∀ w ∈ splitBlank h.toList, cleanWord w := by
    intro w hw
    have := hcl w hw
    exact ⟨by intro h0; simp [h0] at this, this.2⟩
  have := matchLits_prefix (splitBlank h.toList) (by intro h0; simp [h0] at hne) hws tail ht
  rw [hj] at this
  simp [Pat.match?, this]

def flatRulesOk (v : Vendor) (rules : Rules) : Bool :=
  (rules.loc ++ rules.glob).all fun r => headOk r.row && (reversePat v r).isSome && !r.ignore && !r.cantDelete.all id

theorem flatRulesOk_plain {v : Vendor} {rules : Rules} (h : flatRulesOk v rules = true) :
    PlainRules v rules ∧ ∀ r ∈ rules.loc ++ rules.glob, headOk r.row = true := by
  simp only [flatRulesOk, List.all_eq_true, Bool.and_eq_true, Bool.not_eq_true'] at h
  refine ⟨⟨fun r hr => ?_, fun r hr => (h r hr).1.1.2, fun r hr => (h r hr).1.2, fun r hr => (h r hr).2⟩,
    fun r hr => (h r hr).1.1.1⟩
  have hok := (h r hr).1.1.1
  simp only [headOk, Bool.and_eq_true, beq_iff_eq] at hok
  simp only [directPat, hok.1.1.1, Option.isSome_some]

/-- local rules, none beginning with the negation word, that all hand the same dictionaries `(c, g)` to their
children: a row that does not begin with the negation word and that one of them matches directly passes to `⟨c, g⟩`,
whichever of them match, because merging `c` into nothing or into itself gives `c` again (and likewise `g`) -/
theorem passRow_same_children (v : Vendor) (hj : v.juniper = false) (hw : plainWord v.reverse.toList = true)
    (loc c g : List Rule) (hpl : PlainRules v ⟨loc, []⟩) (hch : ∀ x ∈ loc, x.children = some (c, g))
    (hn : ∀ x ∈ loc, (v.reverse ++ " ").toList.isPrefixOf x.row.toList = false)
    (h0 : (mergeDicts [] c, mergeDicts [] g) = (c, g)) (h1 : (mergeDicts c c, mergeDicts g g) = (c, g))
    (h2 : mergeDicts g [] = g) (text : Str) (hneg : stripLit true v.reverse.toList text = none) (x : Rule)
    (hx : x ∈ loc) (p : Pat) (hd : directPat x = some p) (hm : (p.match? text).isSome = true) :
    passRow v ⟨loc, []⟩ (String.ofList text) = some ⟨c, g⟩ := by
  have hrow : negForm v (String.ofList text) = false := by
    simp only [negForm, hj, Bool.false_eq_true, if_false, String.toList_ofList, hneg]
  have hdm : dmatch v (String.ofList text) x.row :=
    ⟨p, hd, by simp only [rowN, hj, Bool.false_eq_true, if_false, String.toList_ofList, hm]⟩
  obtain ⟨d, hd1⟩ := mapM_isSome (oneMatch_isSome v (String.ofList text) _ hpl false)
  obtain ⟨rv, hr1⟩ := mapM_isSome (oneMatch_isSome v (String.ofList text) _ hpl true)
  have hfm : findMatches v (String.ofList text) ⟨loc, []⟩ = some (sortStable (d.flatten ++ rv.flatten)) := by
    rw [findMatches_eq, hd1, hr1]; rfl
  obtain ⟨f1, f2⟩ := findMatches_plain v hw _ hrow ⟨loc, []⟩ rfl hn _ hfm
  obtain ⟨m, hm, -⟩ := f2 x hx hdm
  unfold passRow matchRowToAcl
  rw [hfm]
  cases hs : sortStable (d.flatten ++ rv.flatten) with
  | nil => rw [hs] at hm; cases hm
  | cons f tl =>
    rw [hs] at f1
    -- every match is a direct match of a rule of `loc`: it merges `(c, g)` into what has been collected
    have hstep : ∀ m ∈ f :: tl, ∀ acc, selStep acc m = (mergeDicts acc.1 c, mergeDicts acc.2 g) := by
      intro m hm acc
      obtain ⟨-, e2, e3, -⟩ := f1 m hm
      simp only [selStep, e2, hpl.noIgnore m.rule (List.mem_append_left _ e3), hch m.rule e3, Bool.not_false, if_true]
    have hfix : tl.foldl selStep (c, g) = (c, g) :=
      List.foldlRecOn tl selStep (motive := (· = (c, g))) rfl fun acc hacc m hm => by
        rw [hacc, hstep m (List.mem_cons_of_mem _ hm)]; exact h1
    obtain ⟨e1, e2, e3, -⟩ := f1 f List.mem_cons_self
    simp only [Bool.false_and, Bool.false_eq_true, if_false, selectMatch_eq, e1, e2,
      hpl.noIgnore f.rule (List.mem_append_left _ e3), Bool.not_false, if_true, List.foldl_cons,
      hstep f List.mem_cons_self, h0, hfix, h2]

/-- checked by evaluation on each of the generators' ACLs: literal rule rows, none in negated form -/
def headsOk (v : Vendor) (loc : List Rule) : Bool :=
  flatRulesOk v ⟨loc, []⟩ && loc.all fun r =>
    !(v.reverse ++ " ").toList.isPrefixOf r.row.toList && (stripLit true v.reverse.toList r.row.toList).isNone

theorem head_row_passes (v : Vendor) (hj : v.juniper = false) (hw : plainWord v.reverse.toList = true)
    (loc c g : List Rule) (hok : headsOk v loc = true) (hch : ∀ x ∈ loc, x.children = some (c, g))
    (h0 : (mergeDicts [] c, mergeDicts [] g) = (c, g)) (h1 : (mergeDicts c c, mergeDicts g g) = (c, g))
    (h2 : mergeDicts g [] = g) (r : Rule) (hr : r ∈ loc) (text : Str) (hs : StartsWith r.row text) :
    passRow v ⟨loc, []⟩ (String.ofList text) = some ⟨c, g⟩ := by
  simp only [headsOk, Bool.and_eq_true, List.all_eq_true, Bool.not_eq_true', Option.isNone_iff_eq_none] at hok
  obtain ⟨hflat, hrest⟩ := hok
  obtain ⟨hp, hhead⟩ := flatRulesOk_plain hflat
  obtain ⟨p, hpp, hm⟩ := headOk_match r.row (hhead r (by simpa using hr)) text hs
  obtain ⟨tail, ht, rfl⟩ := hs
  have hnosp : NoSp v.reverse.toList := by
    intro c hc
    simp only [plainWord, Bool.and_eq_true, Bool.not_eq_true', List.any_eq_false] at hw
    simpa using hw.2 c hc
  exact passRow_same_children v hj hw loc c g hp hch (fun x hx => (hrest x hx).1) h0 h1 h2 _
    (by rw [stripLit_append true hnosp _ ht, (hrest r hr).2]; rfl) r hr p hpp hm

def flatOk (v : Vendor) (loc : List Rule) : Bool :=
  headsOk v loc && loc.all fun r => match r.children with | some ([], []) => true | _ => false

/-- a flat ACL is a block ACL whose rules hand nothing down -/
theorem flat_row_passes (v : Vendor) (hj : v.juniper = false) (hw : plainWord v.reverse.toList = true) (loc : List Rule)
    (hok : flatOk v loc = true) (r : Rule) (hr : r ∈ loc) (text : Str) (hs : StartsWith r.row text) :
    passRow v ⟨loc, []⟩ (String.ofList text) = some ⟨[], []⟩ := by
  simp only [flatOk, Bool.and_eq_true, List.all_eq_true] at hok
  refine head_row_passes v hj hw loc [] [] hok.1 (fun x hx => ?_) rfl rfl rfl r hr text hs
  have := hok.2 x hx
  split at this
  next h => exact h
  · cases this

theorem joinSp_cons2 (w w2 : Str) (ws : List Str) : joinSp (w :: w2 :: ws) = w ++ ' ' :: joinSp (w2 :: ws) := rfl

theorem startsWith_of_toks (h : String) (w : Str) (hw : w = h.toList) (w2 : Str) (ws : List Str) :
    StartsWith h (joinSp (w :: w2 :: ws)) :=
  ⟨' ' :: joinSp (w2 :: ws), .inr ⟨_, rfl⟩, by rw [joinSp_cons2, hw]⟩

theorem startsWith_of_toks2 (h : String) (w1 w2 : Str) (hw : w1 ++ ' ' :: w2 = h.toList) (w3 : Str) (ws : List Str) :
    StartsWith h (joinSp (w1 :: w2 :: w3 :: ws)) :=
  ⟨' ' :: joinSp (w3 :: ws), .inr ⟨_, rfl⟩, by rw [joinSp_cons2, joinSp_cons2, ← hw]; simp⟩

/-- "ip extcommunity-list soo" starts with the rule row "ip extcommunity-list" -/
theorem startsWith_of_longer (h : String) (w : Str) (more : Str) (hw : w = h.toList ++ ' ' :: more) (w2 : Str) (ws : List Str) :
    StartsWith h (joinSp (w :: w2 :: ws)) :=
  ⟨' ' :: more ++ ' ' :: joinSp (w2 :: ws), .inr ⟨_, rfl⟩, by rw [joinSp_cons2, hw]; simp⟩

def flatRule (row : String) : Rule := Rule.mk row row false [false] 0 [] (some ([], []))
def tildeRule : Rule := Rule.mk "~" "~" false [false] 0 [] none
def blockRule (row : String) : Rule := Rule.mk row row false [false] 0 [] (some ([], [tildeRule]))

theorem compile_flat1 (a : String) : compileAcl [[plainRule a]] = ⟨[flatRule a], []⟩ := rfl

def rulesPrefixH : List Rule := [flatRule "ip ip-prefix", flatRule "ip ipv6-prefix"]

theorem compile_prefixH : compileAcl [[plainRule "ip ip-prefix", plainRule "ip ipv6-prefix"]] = ⟨rulesPrefixH, []⟩ := by
  simp [compileAcl, compileAclFuel, mergeToplevel, mergeInto, Merged.ofRaw, plainRule, depthRaw.depthList, depthRaw,
    rulesPrefixH, flatRule]

def rulesCommunityH : List Rule := [flatRule "ip community-filter", flatRule "ip extcommunity-filter",
    flatRule "ip extcommunity-list", flatRule "ip large-community-filter"]

theorem compile_communityH :
    compileAcl [[plainRule "ip community-filter", plainRule "ip extcommunity-filter",
                 plainRule "ip extcommunity-list", plainRule "ip large-community-filter"]] = ⟨rulesCommunityH, []⟩ := by
  simp [compileAcl, compileAclFuel, mergeToplevel, mergeInto, Merged.ofRaw, plainRule, depthRaw.depthList, depthRaw,
    rulesCommunityH, flatRule]

def rulesCommunityA : List Rule :=
  [flatRule "ip community-list", flatRule "ip extcommunity-list", flatRule "ip large-community-list"]

theorem compile_communityA :
    compileAcl [[plainRule "ip community-list", plainRule "ip extcommunity-list",
                 plainRule "ip large-community-list"]] = ⟨rulesCommunityA, []⟩ := by
  simp [compileAcl, compileAclFuel, mergeToplevel, mergeInto, Merged.ofRaw, plainRule, depthRaw.depthList, depthRaw,
    rulesCommunityA, flatRule]

abbrev vH : Vendor := aclVendor .huawei
abbrev vA : Vendor := aclVendor .arista

theorem aclVendor_plain (v : Vend) :
    (aclVendor v).juniper = false ∧ plainWord (aclVendor v).reverse.toList = true := by
  cases v <;> exact ⟨rfl, by decide +kernel⟩

def Walks (v : Vendor) (rules : Rules) (l : Line) : Prop :=
  (walk v rules ((l.path ++ [l.text]).map String.ofList)).isSome = true

theorem walks_top {v : Vendor} {rules : Rules} {toks : List Str}
    (h : (passRow v rules (String.ofList (joinSp toks))).isSome = true) : Walks v rules ⟨[], toks⟩ := by
  obtain ⟨cr, hcr⟩ := Option.isSome_iff_exists.mp h
  show (walk v rules [String.ofList (joinSp toks)]).isSome = true
  rw [walk_cons, hcr]
  rfl

theorem walks_child {v : Vendor} {rules cr : Rules} {header : Str} {toks : List Str}
    (hh : passRow v rules (String.ofList header) = some cr)
    (h : (passRow v cr (String.ofList (joinSp toks))).isSome = true) : Walks v rules ⟨[header], toks⟩ := by
  show (walk v rules [String.ofList header, String.ofList (joinSp toks)]).isSome = true
  rw [walk_cons, hh]
  exact walks_top h

theorem covered_of_walks {v : Vend} {k : GenKind} {a : List RawRule} {rules : Rules} (ha : genAcl v k = some a)
    (hc : compileAcl [a] = rules) {l : Line} (h : Walks (aclVendor v) rules l) : Covered v k l := by
  simp only [Covered, rulesFor, ha, hc]
  exact h

def FlatCovered (loc : List Rule) (l : Line) : Prop :=
  l.path = [] ∧ ∃ r ∈ loc, StartsWith r.row l.text

theorem flatCovered_walks (v : Vendor) (hj : v.juniper = false) (hw : plainWord v.reverse.toList = true) (loc : List Rule)
    (hok : flatOk v loc = true) {l : Line} (h : FlatCovered loc l) : Walks v ⟨loc, []⟩ l := by
  obtain ⟨path, toks⟩ := l
  obtain ⟨rfl, r, hr, hs⟩ := h
  exact walks_top (Option.isSome_iff_exists.mpr ⟨_, flat_row_passes v hj hw loc hok r hr _ hs⟩)

theorem covered_of_flat {v : Vend} {k : GenKind} {a : List RawRule} {loc : List Rule} (ha : genAcl v k = some a)
    (hc : compileAcl [a] = ⟨loc, []⟩) (hok : flatOk (aclVendor v) loc = true) {l : Line}
    (h : FlatCovered loc l) : Covered v k l :=
  covered_of_walks ha hc (flatCovered_walks _ (aclVendor_plain v).1 (aclVendor_plain v).2 loc hok h)

theorem flatCovered_of_toks {loc : List Rule} {h : String} (hr : flatRule h ∈ loc) (w2 : Str) (ws : List Str) :
    FlatCovered loc ⟨[], s h :: w2 :: ws⟩ := ⟨rfl, _, hr, startsWith_of_toks _ _ rfl _ _⟩

theorem commFilterRowH_flat {i : Nat} {c : CommList} {m : Str} {l : Line} (h : commFilterRowH i c m = .ok l) :
    FlatCovered rulesCommunityH l := by
  unfold commFilterRowH at h
  cases ht : c.type <;> simp only [ht] at h
  · cases h
    exact flatCovered_of_toks (.head _) _ _
  · cases h
    exact flatCovered_of_toks (.tail _ (.head _)) _ _
  · cases h
    exact ⟨rfl, flatRule "ip extcommunity-list", .tail _ (.tail _ (.head _)), startsWith_of_longer _ _ (s "soo") (by decide +kernel) _ _⟩
  · cases h
  · cases h
    exact flatCovered_of_toks (.tail _ (.tail _ (.tail _ (.head _)))) _ _

theorem commListH_flat (c : CommList) : AllRows (FlatCovered rulesCommunityH) (commListH c) := by
  unfold commListH
  refine .ite .fail ?_
  simp only []
  split
  · exact .ofExcept_one fun _ => commFilterRowH_flat
  · exact .seqAll_map fun _ _ => .ofExcept_one fun _ => commFilterRowH_flat

theorem runCommunityH_flat (inp : Input) : AllRows (FlatCovered rulesCommunityH) (runCommunityH inp) := by
  unfold runCommunityH
  split
  · exact .fail
  · exact .seqAll_map fun c _ => commListH_flat c

theorem runPrefixH_flat (inp : Input) : AllRows (FlatCovered rulesPrefixH) (runPrefixH inp) := by
  refine prefixStmts_rows (fun pl l hl => ?_) (fun pl l hl => ?_) _ _
  · obtain ⟨im, _, rfl⟩ := List.mem_map.mp hl
    exact ⟨rfl, flatRule "ip ip-prefix", .head _, startsWith_of_toks2 _ _ _ (by decide +kernel) _ _⟩
  · obtain ⟨im, _, rfl⟩ := List.mem_map.mp hl
    exact ⟨rfl, flatRule "ip ipv6-prefix", .tail _ (.head _), startsWith_of_toks2 _ _ _ (by decide +kernel) _ _⟩

theorem runAsPathH_flat (inp : Input) : AllRows (FlatCovered [flatRule "ip as-path-filter"]) (runAsPathH inp) := by
  unfold runAsPathH
  split
  · exact .fail
  · exact .emit_map fun f _ => flatCovered_of_toks (.head _) _ _

theorem runRdH_flat (inp : Input) : AllRows (FlatCovered [flatRule "ip rd-filter"]) (runRdH inp) := by
  unfold runRdH
  split
  · exact .fail
  · intro l hl
    obtain ⟨f, _, im, _, rfl⟩ : ∃ f ∈ _, ∃ im ∈ _, _ = l := by simpa only [emit_fst, List.mem_flatMap, List.mem_map] using hl
    exact flatCovered_of_toks (.head _) _ _

theorem passRow_tilde_child (v : Vendor) (hj : v.juniper = false) (hrt : (reversePat v tildeRule).isSome = true)
    {toks : List Str} (hne : RowNE toks) :
    (passRow v ⟨[], [tildeRule]⟩ (String.ofList (joinSp toks))).isSome = true := by
  obtain ⟨rp, hr⟩ := Option.isSome_iff_exists.mp hrt
  obtain ⟨m, hm, hc⟩ := matchRow_tilde "~" [false] 0 [] v false rp hj rfl hr (.inr rfl) _
    (by rw [String.toList_ofList]; exact hne)
  unfold passRow tildeRule
  rw [hm]
  simp [hc]

/-- checked by evaluation on the ACL of each policy generator: `p` is the pattern of the header rule -/
def blockOk (v : Vendor) (row : String) (p : Pat) : Bool :=
  !(v.reverse ++ " ").toList.isPrefixOf row.toList && directPat (blockRule row) == some p &&
    (reversePat v (blockRule row)).isSome && (reversePat v tildeRule).isSome

theorem block_lines_walk (v : Vendor) (hj : v.juniper = false) (hw : plainWord v.reverse.toList = true) (row : String)
    (p : Pat) (hok : blockOk v row p = true) (header : List Str) (hm : (p.match? (joinSp header)).isSome = true)
    (hneg : stripLit true v.reverse.toList (joinSp header) = none) (body : Out (List Str)) (hne : AllRows RowNE body) :
    AllRows (Walks v ⟨[blockRule row], []⟩) (inBlock header body) := by
  simp only [blockOk, Bool.and_eq_true, Bool.not_eq_true', beq_iff_eq] at hok
  obtain ⟨⟨⟨hn, hd⟩, hr⟩, hrt⟩ := hok
  have hpl : PlainRules v ⟨[blockRule row], []⟩ := by
    constructor <;> intro r hr' <;> cases List.mem_singleton.mp hr'
    · rw [hd]; rfl
    · exact hr
    · rfl
    · rfl
  -- the one rule matches the header directly: the children are governed by its `~ %global` child
  have hpass : passRow v ⟨[blockRule row], []⟩ (String.ofList (joinSp header)) = some ⟨[], [tildeRule]⟩ :=
    passRow_same_children v hj hw _ [] [tildeRule] hpl (fun x hx => List.mem_singleton.mp hx ▸ rfl)
      (fun x hx => List.mem_singleton.mp hx ▸ hn) rfl rfl (mergeDicts_nil_right _) _ hneg _ (.head _) p hd hm
  exact .seq (.emit_one (walks_top (by rw [hpass]; rfl)))
    (.mapRows fun toks htoks => walks_child hpass (passRow_tilde_child v hj hrt (hne toks htoks)))

theorem headerH_match (name res num : Str) (hname : cleanWord name) :
    (({ toks := [.lit (s "route-policy"), .star] } : Pat).match?
      (joinSp [s "route-policy", name, res, s "node", num])).isSome = true := by
  have hw : cleanWord (s "route-policy") := by unfold cleanWord; decide +kernel
  have hg : Good (name ++ ' ' :: (res ++ ' ' :: (s "node" ++ ' ' :: num))) := good_of_clean_append hname _
  have hs : stripLit false (s "route-policy") (s "route-policy") = some [] := by
    simpa using stripLit_self false (s "route-policy") []
  simp only [Pat.match?, joinSp]
  rw [matchToks_word false (t := .lit _) hw hw [.star] (.inr ⟨_, rfl, hg⟩), wordOne, if_pos hs]
  simp only [Option.bind_some, star_last false hname (.inr ⟨_, rfl⟩)]
  rfl

theorem runAsPathA_flat (inp : Input) :
    AllRows (FlatCovered [flatRule "ip as-path access-list"]) (runAsPathA inp) := by
  unfold runAsPathA
  split
  · exact .fail
  · exact .emit_map fun f _ => flatCovered_of_toks (.head _) _ _

theorem commListRowA_flat {name : Str} {rx : Bool} {t : CType} {m : Str} {l : Line}
    (h : commListRowA name rx t m = .ok l) : FlatCovered rulesCommunityA l := by
  unfold commListRowA at h
  cases t <;> simp only at h
  · cases h
    exact flatCovered_of_toks (.head _) _ _
  · cases h
    exact flatCovered_of_toks (.tail _ (.head _)) _ _
  · cases h
    exact flatCovered_of_toks (.tail _ (.head _)) _ _
  · cases h
  · cases h
    exact flatCovered_of_toks (.tail _ (.tail _ (.head _))) _ _

theorem commListA_flat (name : Str) (c : CommList) : AllRows (FlatCovered rulesCommunityA) (commListA name c) := by
  unfold commListA
  refine .ite .fail ?_
  split
  · exact .fail
  · split
    · exact .ofExcept_one fun _ => commListRowA_flat
    · exact .seqAll_map fun _ _ => .ofExcept_one fun _ => commListRowA_flat

theorem runCommunityA_flat (inp : Input) : AllRows (FlatCovered rulesCommunityA) (runCommunityA inp) := by
  unfold runCommunityA
  split
  · exact .fail
  · exact .seqAll_map fun u _ => .seqAll_map fun c _ => commListA_flat _ c

def seqBlock (row : String) : Rule := Rule.mk row row false [false] 0 [] (some ([flatRule "seq"], []))

def rulesPrefixA : Rules := ⟨[seqBlock "ip prefix-list", seqBlock "ipv6 prefix-list"], []⟩

theorem compile_prefixA :
    compileAcl [[plainRule "ip prefix-list" [plainRule "seq"], plainRule "ipv6 prefix-list" [plainRule "seq"]]] =
      rulesPrefixA := by
  simp [compileAcl, compileAclFuel, mergeToplevel, mergeInto, Merged.ofRaw, plainRule, depthRaw.depthList, depthRaw,
    rulesPrefixA, seqBlock, flatRule]

theorem prefixRowsA_walk (x : Rule) (hx : x ∈ rulesPrefixA.loc) (w : Str)
    (hw : w ++ ' ' :: s "prefix-list" = x.row.toList) (pl : PrefixList) :
    ∀ l ∈ prefixRowsA w pl, Walks vA rulesPrefixA l := by
  have hpass : passRow vA rulesPrefixA _ = some ⟨[flatRule "seq"], []⟩ :=
    head_row_passes vA rfl (aclVendor_plain .arista).2 rulesPrefixA.loc _ _ (by decide +kernel)
    (List.forall_mem_cons.mpr ⟨rfl, List.forall_mem_cons.mpr ⟨rfl, nofun⟩⟩) rfl rfl rfl x hx _
    (startsWith_of_toks2 _ w _ hw pl.name [])
  unfold prefixRowsA
  refine List.forall_mem_cons.mpr ⟨walks_top (by rw [hpass]; rfl), List.forall_mem_map.mpr fun im _ => ?_⟩
  have hseq : s "seq " = "seq".toList ++ [' '] := by decide +kernel
  exact walks_child hpass (Option.isSome_iff_exists.mpr ⟨_, flat_row_passes vA rfl (aclVendor_plain .arista).2
    [flatRule "seq"] (by decide +kernel) (flatRule "seq") (.head _) _
    (startsWith_of_longer "seq" _ (natStr (im.1 * 10 + 10)) (by rw [hseq]; simp) _ _)⟩)

theorem runPrefixA_walks (inp : Input) : AllRows (Walks vA rulesPrefixA) (runPrefixA inp) :=
  prefixStmts_rows (prefixRowsA_walk _ (.head _) (s "ip") (by decide +kernel))
    (prefixRowsA_walk _ (.tail _ (.head _)) (s "ipv6") (by decide +kernel)) _ _

end Annet.Rpl.Lemmas
