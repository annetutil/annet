/-
RouterOS in three steps.  `join` on the well-formed domain prints `rosText`: `/path words` for every section, leaf rows behind
`w * path length` blanks.  `split` turns that text into `rosLines`: every `/path words` line becomes one
word per line at depths 0, 1, …, leaf rows are re-indented to the depth of their section.  The offside
parser on `rosLines` (section paths announced again and again) rebuilds the tree: repeated ancestors merge.
Prefixes `rj_`, `rs_`, `rp_`: the join, split and parse step.
-/
import AnnetModel.Lemmas.FormatSplitOffside

namespace Annet.FormatSplit.Lemmas
open Annet Annet.Offside Annet.FormatSplit

theorem rosBodyL_distinct {p : List String} {seen : Bool} {k : String} {c : Cfg}
    {rest : List (String × Cfg)} (h : rosBodyL p seen ((k, c) :: rest) = true) :
    (!rest.any fun e => e.1 == k) = true := by
  simp only [rosBodyL, Bool.and_eq_true] at h
  exact h.1

theorem rosBodyL_leaf {p : List String} {seen : Bool} {k : String} {c : Cfg}
    {rest : List (String × Cfg)} (h : rosBodyL p seen ((k, c) :: rest) = true)
    (hc : c.kids.isEmpty = true) :
    seen = false ∧ rowBase k.toList = true ∧ rosBodyL p seen rest = true := by
  simp only [rosBodyL, hc, if_true, Bool.and_eq_true, Bool.not_eq_true'] at h
  exact ⟨h.2.1.1, h.2.1.2, h.2.2⟩

theorem rosBodyL_section {p : List String} {seen : Bool} {k : String} {c : Cfg}
    {rest : List (String × Cfg)} (h : rosBodyL p seen ((k, c) :: rest) = true)
    (hc : c.kids.isEmpty = false) :
    rosWord k = true ∧ rosHasSplitter ('/' :: pathStr (p ++ [k])) = false ∧
      rosBody (p ++ [k]) c = true ∧ rosBodyL p true rest = true := by
  simp only [rosBodyL, hc, Bool.false_eq_true, if_false, Bool.and_eq_true, Bool.not_eq_true'] at h
  exact ⟨h.2.1.1.1, h.2.1.1.2, h.2.1.2, h.2.2⟩

theorem rosBodyL_induction
    {motive : (ks : List (String × Cfg)) → (p : List String) → (seen : Bool) → rosBodyL p seen ks = true → Prop}
    (nil : ∀ p seen h, motive [] p seen h)
    (leaf : ∀ p k rest, (!rest.any fun e => e.1 == k) = true → rowBase k.toList = true →
      ∀ (hrest : rosBodyL p false rest = true) h,
      motive rest p false hrest → motive ((k, .mk []) :: rest) p false h)
    (sec : ∀ p seen k ks rest, (!rest.any fun e => e.1 == k) = true → ks.isEmpty = false → rosWord k = true →
      rosHasSplitter ('/' :: pathStr (p ++ [k])) = false →
      ∀ (hbody : rosBodyL (p ++ [k]) false ks = true) (hrest : rosBodyL p true rest = true) h,
      motive ks (p ++ [k]) false hbody → motive rest p true hrest → motive ((k, .mk ks) :: rest) p seen h) :
    (ks : List (String × Cfg)) → ∀ p seen (h : rosBodyL p seen ks = true), motive ks p seen h
  | [], p, seen, h => nil p seen h
  | (k, .mk ks) :: rest, p, seen, h => by
    have h1 := rosBodyL_induction nil leaf sec ks (p ++ [k]) false
    have h2 := rosBodyL_induction nil leaf sec rest p
    cases hk : ks.isEmpty
    · obtain ⟨hw, hs, hb, hr⟩ := rosBodyL_section h hk
      exact sec p seen k ks rest (rosBodyL_distinct h) hk hw hs hb hr h (h1 hb) (h2 true hr)
    · have hnd := rosBodyL_distinct h
      obtain ⟨rfl, hrow, hr⟩ := rosBodyL_leaf h hk
      obtain rfl := List.isEmpty_iff.1 hk
      exact leaf p k rest hnd hrow hr h (h2 false hr)

/-- what `strip` needs: not empty, no whitespace at either end -/
def rj_good (r : Str) : Prop :=
  ∃ c cs, r = c :: cs ∧ pyIsSpace c = false ∧ (r.getLast?.any pyIsSpace) = false

theorem rj_good_join (a b : Str) (ha : rj_good a) (hb : rj_good b) : rj_good (a ++ ' ' :: b) := by
  obtain ⟨c, cs, rfl, hc, _⟩ := ha
  obtain ⟨d, ds, rfl, _, hl⟩ := hb
  refine ⟨c, cs ++ ' ' :: d :: ds, by simp, hc, ?_⟩
  have e : (c :: cs ++ ' ' :: d :: ds) = (c :: cs ++ [' ']) ++ (d :: ds) := by simp
  rw [e, List.getLast?_append]
  cases hq : (d :: ds).getLast? with
  | none => simp at hq
  | some x => rw [hq] at hl; simpa using hl

theorem rj_strip (n : Nat) (r : Str) (hg : rj_good r) : strip (blanks n ++ r) = r := by
  obtain ⟨c, cs, rfl, hc, hlast⟩ := hg
  exact strip_blanks n _ (by simpa using hc) hlast

theorem rj_pathStr_snoc (p : List String) (k : String) (hp : p ≠ []) :
    pathStr (p ++ [k]) = pathStr p ++ ' ' :: k.toList := by
  induction p with
  | nil => exact absurd rfl hp
  | cons a q ih =>
    cases q with
    | nil => simp [pathStr]
    | cons b q' =>
      have := ih (by simp)
      simp only [List.cons_append] at this ⊢
      simp only [pathStr, this, List.append_assoc, List.cons_append]

/-- the printed path of `p` can be stripped, or there is none -/
def rj_okp (p : List String) : Prop := p = [] ∨ rj_good (pathStr p)

theorem rs_rosWord_base (k : String) (h : rosWord k = true) : rowBase k.toList = true := by
  simp only [rosWord, Bool.and_eq_true] at h
  exact h.1

theorem rj_rosWord_good (k : String) (h : rosWord k = true) : rj_good k.toList :=
  let ⟨c, cs, hr, hc, _, _, hl, _⟩ := rowBase_facts (rs_rosWord_base k h)
  ⟨c, cs, hr, hc, hl⟩

theorem rj_okp_snoc (p : List String) (k : String) (hp : rj_okp p) (hk : rj_good k.toList) :
    rj_good (pathStr (p ++ [k])) := by
  rcases hp with rfl | hp
  · simpa [pathStr] using hk
  · have hne : p ≠ [] := by
      intro e; subst e
      obtain ⟨c, cs, e, _, _⟩ := hp
      simp [pathStr] at e
    rw [rj_pathStr_snoc p k hne]
    exact rj_good_join _ _ hp hk


mutual
  /-- the token stream `rosBlocks` yields on the domain: a section row is its whole printed path -/
  def rj_toks (p : List String) : Cfg → List Tok
    | .mk ks => rj_toksL p ks
  def rj_toksL (p : List String) : List (String × Cfg) → List Tok
    | [] => []
    | (k, c) :: rest =>
      if c.kids.isEmpty then .row k.toList :: rj_toksL p rest
      else .row (pathStr (p ++ [k])) :: .bb :: (rj_toks (p ++ [k]) c ++ .be :: rj_toksL p rest)
end

/-- `ctx` is the context chain of the section with path `p` -/
def rj_inv (p : List String) (ctx : List Str) : Prop :=
  (p = [] ∧ ctx = []) ∨ (rj_good (pathStr p) ∧ ∃ ctx', ctx = pathStr p :: ctx')

theorem rj_blocksL (ks : List (String × Cfg)) (p : List String) (seen : Bool)
    (hb : rosBodyL p seen ks = true) (ctx : List Str) (prev : Option Str) (b : Bool) (hi : rj_inv p ctx)
    (hs : (seen = true ∧ b = false) ∨ (seen = false ∧ prev = none)) :
    rosBlocksL ctx prev b ks = rj_toksL p ks := by
  induction ks, p, seen, hb using rosBodyL_induction generalizing ctx prev b with
  | nil =>
    simp only [rosBlocksL, rj_toksL]
    rcases hs with ⟨_, rfl⟩ | ⟨_, rfl⟩ <;> simp
  | leaf p k rest _ _ _ _ ih =>
    obtain rfl : prev = none := by simpa using hs
    simp only [rosBlocksL, rj_toksL, Cfg.kids, List.isEmpty_nil, if_true,
      ih ctx none true hi (Or.inr ⟨rfl, rfl⟩)]
    simp
  | sec p seen k ks rest _ hks hw _ _ _ _ ih1 ih2 =>
    simp only [rosBlocksL, rosBlocks, rj_toksL, rj_toks, Cfg.kids, hks, Bool.false_eq_true, if_false,
      Bool.and_eq_true]
    have hgp := rj_okp_snoc p k (Or.imp And.left And.left hi) (rj_rosWord_good k hw)
    have hwrap : ¬ (b = true ∧ Option.any (fun x => !List.isEmpty x) prev = true) := by
      rcases hs with ⟨_, rfl⟩ | ⟨_, rfl⟩ <;> simp
    rw [if_neg hwrap]
    rcases hi with ⟨rfl, rfl⟩ | ⟨hg, ctx', rfl⟩
    · simp only [List.nil_append]
      rw [ih1 [k.toList] none false (Or.inr ⟨hgp, [], by simp [pathStr]⟩) (Or.inr ⟨rfl, rfl⟩),
        ih2 [] prev false (Or.inl ⟨rfl, rfl⟩) (Or.inl ⟨rfl, rfl⟩)]
      simp [pathStr]
    · have ⟨c, cs, hpc, _⟩ := hg
      have hne : p ≠ [] := by
        rintro rfl
        simp [pathStr] at hpc
      have hpe : (pathStr p).isEmpty = false := by rw [hpc]; rfl
      simp only [List.nil_append, hpe, Bool.not_false, if_true]
      rw [← rj_pathStr_snoc p k hne,
        ih1 (pathStr (p ++ [k]) :: pathStr p :: ctx') none false (Or.inr ⟨hgp, _, rfl⟩) (Or.inr ⟨rfl, rfl⟩),
        ih2 (pathStr p :: ctx') (some (pathStr p)) false (Or.inr ⟨hg, ctx', rfl⟩) (Or.inl ⟨rfl, rfl⟩)]
      simp

theorem rj_blocks : (c : Cfg) → ∀ (p : List String) (ctx : List Str), rj_inv p ctx →
      rosBody p c = true → rosBlocks ctx c = rj_toks p c
  | .mk ks, p, ctx, hi, hb => rj_blocksL ks p false hb ctx none false hi (Or.inr ⟨rfl, rfl⟩)

/-- what a pending token prints when the next token is not `BlockBegin` -/
def rj_flush : Option Tok → List Str
  | some (.row s) => [s]
  | _ => []

theorem rj_F_row (pend : Option Tok) (s : Str) (r : List Tok) :
    rosFormatted pend (.row s :: r) = rj_flush pend ++ rosFormatted (some (.row s)) r := by
  simp only [rosFormatted]
  rcases pend with _ | t
  · rfl
  · cases t <;> rfl

theorem rj_F_be (pend : Option Tok) (r : List Tok) :
    rosFormatted pend (.be :: r) = rj_flush pend ++ rosFormatted (some .be) r := by
  simp only [rosFormatted]
  rcases pend with _ | t
  · rfl
  · cases t <;> rfl

theorem rj_F_bb (s : Str) (r : List Tok) :
    rosFormatted (some (.row s)) (.bb :: r) = ('/' :: strip s) :: rosFormatted (some .bb) r := by
  simp only [rosFormatted]
  rfl

theorem rj_fmtL (w : Nat) : (ks : List (String × Cfg)) → ∀ (p : List String) (seen : Bool)
      (pend : Option Tok) (rest : List Tok),
      rj_okp p → rosBodyL p seen ks = true →
      rosFormatted pend (indentBlocks (blanks w) (p.length : Int) (rj_toksL p ks ++ Tok.be :: rest))
        = rj_flush pend ++ rosTextL w p ks
          ++ rosFormatted (some .be) (indentBlocks (blanks w) ((p.length : Int) - 1) rest) := by
  intro ks p seen pend rest hp hb
  induction ks, p, seen, hb using rosBodyL_induction generalizing pend rest with
  | nil => simp only [rj_toksL, rosTextL, List.nil_append, indentBlocks, rj_F_be, List.append_nil]
  | leaf p k more _ _ _ _ ih =>
    simp only [rj_toksL, rosTextL, Cfg.kids, List.isEmpty_nil, if_true, List.cons_append, indentBlocks,
      rj_F_row, Int.toNat_natCast, strMul_blanks, ih _ rest hp]
    simp [rj_flush]
  | sec p seen k ks more _ hks hw _ _ _ _ ih1 ih2 =>
    have hgp := rj_okp_snoc p k hp (rj_rosWord_good k hw)
    simp only [rj_toksL, rj_toks, rosTextL, rosText, Cfg.kids, hks, Bool.false_eq_true, if_false,
      List.cons_append, List.append_assoc, indentBlocks, rj_F_row, rj_F_bb, Int.toNat_natCast,
      strMul_blanks, rj_strip _ _ hgp]
    have e1 : ((p.length : Int) + 1) = ((p ++ [k]).length : Int) := by simp
    rw [e1, ih1 (some .bb) _ (Or.inr hgp)]
    have e2 : (((p ++ [k]).length : Int) - 1) = (p.length : Int) := by simp
    rw [e2, ih2 (some .be) rest hp]
    simp [rj_flush]

/-- the top level: sections only, no closing `BlockEnd` -/
theorem rj_fmt_top (w : Nat) (ks : List (String × Cfg)) : ∀ (seen : Bool) (pend : Option Tok),
    rj_flush pend = [] → ks.all (fun e => !e.2.kids.isEmpty) = true → rosBodyL [] seen ks = true →
    rosFormatted pend (indentBlocks (blanks w) 0 (rj_toksL [] ks)) = rosTextL w [] ks := by
  induction ks with
  | nil => intro seen pend _ _ _; simp [rj_toksL, rosTextL, indentBlocks, rosFormatted]
  | cons e more ih =>
    obtain ⟨k, ⟨cks⟩⟩ := e
    intro seen pend hf ha hb
    simp only [List.all_cons, Bool.and_eq_true, Bool.not_eq_true'] at ha
    have hk : cks.isEmpty = false := by simpa [Cfg.kids] using ha.1
    obtain ⟨hw, -, hbc, hbr⟩ := rosBodyL_section hb hk
    have hgk := rj_rosWord_good k hw
    have hgp : rj_good (pathStr [k]) := rj_okp_snoc [] k (Or.inl rfl) hgk
    have hbc : rosBodyL [k] false cks = true := hbc
    simp only [rj_toksL, rj_toks, rosTextL, rosText, Cfg.kids, hk, Bool.false_eq_true, if_false]
    simp only [indentBlocks, rj_F_row, rj_F_bb, hf, List.nil_append]
    have e0 : strMul (blanks w) (0 : Int).toNat = blanks (w * 0) := by
      rw [← strMul_blanks]; rfl
    rw [e0, rj_strip _ _ hgp]
    have e1 : ((0 : Int) + 1) = (([k] : List String).length : Int) := by simp
    rw [e1, rj_fmtL w cks [k] false (some .bb) _ (Or.inr hgp) hbc]
    have e2 : ((([k] : List String).length : Int) - 1) = 0 := by simp
    rw [e2, ih true (some .be) rfl ha.2 hbr]
    simp [rj_flush]

theorem ros_join_text (w : Nat) (t : Cfg) (h : rosTop t = true) :
    rosJoin (blanks w) t = joinNl (rosText w [] t) := by
  cases t with
  | mk ks =>
    simp only [rosTop, Cfg.kids, Bool.and_eq_true, rosBody] at h
    simp only [rosJoin, rosText, rosBlocks]
    rw [rj_blocksL ks [] false h.2 [] none false (Or.inl ⟨rfl, rfl⟩) (Or.inr ⟨rfl, rfl⟩)]
    rw [rj_fmt_top w ks false none rfl h.1 h.2]

def rs_words (p : List String) : Prop := ∀ k ∈ p, rosWord k = true

theorem rs_words_snoc (p : List String) (k : String) (hp : rs_words p) (hk : rosWord k = true) :
    rs_words (p ++ [k]) :=
  List.forall_mem_append.2 ⟨hp, List.forall_mem_singleton.2 hk⟩

theorem rs_rosWord_chars (k : String) (h : rosWord k = true) :
    ∀ c ∈ k.toList, pyIsSpace c = false ∧ c ≠ '/' := by
  simp only [rosWord, Bool.and_eq_true, Bool.not_eq_true', List.any_eq_false, Bool.or_eq_true,
    not_or, beq_iff_eq] at h
  intro c hc
  have := h.2 c hc
  exact ⟨by simpa using this.1, this.2⟩

theorem rs_rosWord_ne (k : String) (h : rosWord k = true) (cur : Str) : (k.toList.reverse ++ cur).isEmpty = false := by
  obtain ⟨c, cs, e, -⟩ := rowBase_facts (rs_rosWord_base k h)
  simp [e]

theorem rs_splitWsAux_word (x : Str) (hx : ∀ c ∈ x, pyIsSpace c = false) : ∀ (cur rest : Str),
    splitWsAux cur (x ++ rest) = splitWsAux (x.reverse ++ cur) rest := by
  induction x with
  | nil => intro cur rest; simp
  | cons c cs ih =>
    intro cur rest
    have hc := hx c (by simp)
    simp only [List.cons_append, splitWsAux, hc, Bool.false_eq_true, if_false]
    rw [ih (fun d hd => hx d (by simp [hd]))]
    simp

theorem rs_splitWsAux_path : ∀ (q : List String) (k : String) (cur : Str), rosWord k = true →
    rs_words q →
    splitWsAux cur (pathStr (k :: q)) = (cur.reverse ++ k.toList) :: q.map String.toList
  | [], k, cur, hk, _ => by
    have h := rs_splitWsAux_word k.toList (fun c hc => (rs_rosWord_chars k hk c hc).1) cur []
    rw [List.append_nil] at h
    simp [pathStr, h, splitWsAux, rs_rosWord_ne k hk cur]
  | k' :: q, k, cur, hk, hq => by
    have hsp : pyIsSpace ' ' = true := by decide
    simp only [pathStr]
    rw [rs_splitWsAux_word k.toList (fun c hc => (rs_rosWord_chars k hk c hc).1)]
    simp only [splitWsAux, hsp, if_true, rs_rosWord_ne k hk cur, Bool.false_eq_true, if_false]
    rw [rs_splitWsAux_path q k' [] (hq k' (by simp)) (fun x hx => hq x (by simp [hx]))]
    simp

theorem rs_splitWs_path (q : List String) (k : String) (hk : rosWord k = true) (hq : rs_words q) :
    splitWs ('/' :: pathStr (k :: q)) = ('/' :: k.toList) :: q.map String.toList := by
  have hs : pyIsSpace '/' = false := by decide
  simp only [splitWs, splitWsAux, hs, Bool.false_eq_true, if_false]
  rw [rs_splitWsAux_path q k ['/'] hk hq]
  simp

theorem rs_replace_id (x : Str) (h : ∀ c ∈ x, c ≠ '/') : replaceChar '/' [] x = x := by
  induction x with
  | nil => simp [replaceChar]
  | cons c cs ih =>
    have h1 := ih (fun d hd => h d (by simp [hd]))
    have hc : c ≠ '/' := h c (by simp)
    simp only [replaceChar, beq_iff_eq] at h1 ⊢
    simp [hc, h1]

theorem rs_replace_slash (x : Str) : replaceChar '/' [] ('/' :: x) = replaceChar '/' [] x := rfl

theorem rs_rosGroups (w : Nat) : ∀ (q : List String) (i : Nat), rs_words q →
    rosGroups (blanks w) i (q.map String.toList)
      = (q.zipIdx i).map fun e => blanks (w * e.2) ++ e.1.toList
  | [], i, _ => by simp [rosGroups]
  | k :: q, i, hq => by
    simp only [List.map_cons, rosGroups, List.zipIdx_cons, strMul_blanks]
    rw [rs_replace_id k.toList (fun c hc => (rs_rosWord_chars k (hq k (by simp)) c hc).2)]
    rw [rs_rosGroups w q (i + 1) (fun x hx => hq x (by simp [hx]))]

theorem rs_rosGroups_path (w : Nat) (q : List String) (k : String) (hq : rs_words (k :: q)) :
    rosGroups (blanks w) 0 (('/' :: k.toList) :: q.map String.toList)
      = ((k :: q).zipIdx).map fun e => blanks (w * e.2) ++ e.1.toList := by
  rw [← rs_rosGroups w (k :: q) 0 hq, List.map_cons, rosGroups, rosGroups, rs_replace_slash]

theorem rs_section_line (w : Nat) (q : List String) (hne : q ≠ []) (hq : rs_words q)
    (hs : rosHasSplitter ('/' :: pathStr q) = false) (level : Nat) (rest : List Str) :
    rosSplitLoop (blanks w) level (('/' :: pathStr q) :: rest)
      = (rosSplitLoop (blanks w) q.length rest).map
          ((q.zipIdx.map fun e => blanks (w * e.2) ++ e.1.toList) ++ ·) := by
  cases q with
  | nil => exact absurd rfl hne
  | cons k q =>
    have hk : rosWord k = true := hq k (by simp)
    have hq' : rs_words q := fun x hx => hq x (by simp [hx])
    have hpre : ['/'].isPrefixOf ('/' :: pathStr (k :: q)) = true := by simp
    simp only [rosSplitLoop, hpre, if_true, hs, Bool.false_eq_true, if_false]
    rw [rs_splitWs_path q k hk hq', rs_rosGroups_path w q k hq]
    simp

theorem rs_leaf_line (w m n : Nat) (hm : 0 < m) (hn : 0 < n) (r : Str) (hr : rowBase r = true)
    (rest : List Str) :
    rosSplitLoop (blanks w) n ((blanks m ++ r) :: rest)
      = (rosSplitLoop (blanks w) n rest).map ((blanks (w * n) ++ r) :: ·) := by
  have hpre : ['/'].isPrefixOf (blanks m ++ r) = false := by
    obtain ⟨m', rfl⟩ : ∃ m', m = m' + 1 := ⟨m - 1, by omega⟩
    simp [blanks, List.replicate_succ, List.isPrefixOf]
  simp only [rosSplitLoop, hpre, Bool.false_eq_true, if_false, hn, if_true, strip_line m r hr,
    strMul_blanks]

theorem rs_loopL (w : Nat) (hw : 0 < w) (ks : List (String × Cfg)) (p : List String) (seen : Bool)
    (hb : rosBodyL p seen ks = true) (level : Nat) (tail out : List Str) (hp : rs_words p)
    (hne : p ≠ [] ∨ ks.all (fun e => !e.2.kids.isEmpty) = true) (hl : seen = true ∨ level = p.length)
    (hc : ∀ lvl, rosSplitLoop (blanks w) lvl tail = some out) :
    rosSplitLoop (blanks w) level (rosTextL w p ks ++ tail) = some (rosLinesL w p ks ++ out) := by
  induction ks, p, seen, hb using rosBodyL_induction generalizing level tail out with
  | nil => simp [rosTextL, rosLinesL, hc]
  | leaf p k rest _ hrow _ _ ih =>
    obtain rfl : level = p.length := by simpa using hl
    have hpne : p ≠ [] := by simpa [Cfg.kids] using hne
    have hlen : 0 < p.length := List.length_pos_iff.mpr hpne
    simp only [rosTextL, rosLinesL, Cfg.kids, List.isEmpty_nil, if_true, List.cons_append]
    rw [rs_leaf_line w _ _ (Nat.mul_pos hw hlen) hlen _ hrow,
      ih p.length tail out hp (Or.inl hpne) (Or.inr rfl) hc]
    simp
  | sec p seen k ks rest _ hks hword hspl _ _ _ ih1 ih2 =>
    have hq := rs_words_snoc p k hp hword
    have hne' : p ≠ [] ∨ rest.all (fun e => !e.2.kids.isEmpty) = true := by
      simpa [Cfg.kids, hks] using hne
    simp only [rosTextL, rosText, rosLinesL, rosLines, Cfg.kids, hks, Bool.false_eq_true, if_false,
      List.cons_append, List.append_assoc]
    rw [rs_section_line w (p ++ [k]) (by simp) hq hspl,
      ih1 _ _ _ hq (Or.inl (by simp)) (Or.inr rfl) fun lvl => ih2 lvl tail out hp hne' (Or.inl rfl) hc]
    simp

theorem rs_loop (w : Nat) (hw : 0 < w) : (t : Cfg) → ∀ (p : List String) (tail out : List Str),
      rs_words p → p ≠ [] → rosBody p t = true →
      (∀ lvl, rosSplitLoop (blanks w) lvl tail = some out) →
      rosSplitLoop (blanks w) p.length (rosText w p t ++ tail) = some (rosLines w p t ++ out)
  | .mk ks, p, tail, out, hp, hne, hb, hc =>
    rs_loopL w hw ks p false hb p.length tail out hp (Or.inl hne) (Or.inr rfl) hc

theorem rs_pathStr_nl : ∀ (q : List String), rs_words q → '\n' ∉ pathStr q
  | [], _ => by simp [pathStr]
  | [k], hq => by
    simp only [pathStr]
    intro hm
    have := (rs_rosWord_chars k (hq k (by simp)) _ hm).1
    exact absurd this (by decide)
  | k :: k' :: q, hq => by
    simp only [pathStr, List.mem_append, List.mem_cons, not_or]
    refine ⟨?_, by decide, rs_pathStr_nl (k' :: q) (fun x hx => hq x (by simp [hx]))⟩
    intro hm
    have := (rs_rosWord_chars k (hq k (by simp)) _ hm).1
    exact absurd this (by decide)

theorem rs_text_nlL (w : Nat) (ks : List (String × Cfg)) (p : List String) (seen : Bool)
    (hb : rosBodyL p seen ks = true) (hp : rs_words p) : ∀ l ∈ rosTextL w p ks, '\n' ∉ l := by
  intro l hl
  induction ks, p, seen, hb using rosBodyL_induction with
  | nil => cases hl
  | leaf p k rest _ hrow _ _ ih =>
    simp only [rosTextL, Cfg.kids, List.isEmpty_nil, if_true, List.mem_cons] at hl
    rcases hl with rfl | hl
    · exact (line_plain _ _ hrow).2
    · exact ih hp hl
  | sec p seen k ks rest _ hks hword _ _ _ _ ih1 ih2 =>
    simp only [rosTextL, rosText, Cfg.kids, hks, Bool.false_eq_true, if_false, List.cons_append,
      List.mem_cons, List.mem_append] at hl
    have hq := rs_words_snoc p k hp hword
    rcases hl with rfl | hl | hl
    · simp only [List.mem_cons, not_or]
      exact ⟨by decide, rs_pathStr_nl _ hq⟩
    · exact ih1 hq hl
    · exact ih2 hp hl

theorem rs_text_nl (w : Nat) : (t : Cfg) → ∀ (p : List String), rs_words p → rosBody p t = true →
      ∀ l ∈ rosText w p t, '\n' ∉ l
  | .mk ks, p, hp, hb => rs_text_nlL w ks p false hb hp

theorem rs_lines_neL (w : Nat) (ks : List (String × Cfg)) (p : List String) (seen : Bool)
    (hb : rosBodyL p seen ks = true) (hp : rs_words p) : ∀ l ∈ rosLinesL w p ks, l ≠ [] := by
  intro l hl
  induction ks, p, seen, hb using rosBodyL_induction with
  | nil => cases hl
  | leaf p k rest _ hrow _ _ ih =>
    simp only [rosLinesL, Cfg.kids, List.isEmpty_nil, if_true, List.mem_cons] at hl
    rcases hl with rfl | hl
    · exact (line_plain _ _ hrow).1
    · exact ih hp hl
  | sec p seen k ks rest _ hks hword _ _ _ _ ih1 ih2 =>
    simp only [rosLinesL, rosLines, Cfg.kids, hks, Bool.false_eq_true, if_false, List.mem_append,
      List.mem_map] at hl
    have hq := rs_words_snoc p k hp hword
    rcases hl with (⟨e, he, rfl⟩ | hl) | hl
    · exact (line_plain _ _ (rs_rosWord_base _ (hq _ (List.fst_mem_of_mem_zipIdx he)))).1
    · exact ih1 hq hl
    · exact ih2 hp hl

theorem rs_lines_ne (w : Nat) : (t : Cfg) → ∀ (p : List String), rs_words p → rosBody p t = true →
      ∀ l ∈ rosLines w p t, l ≠ []
  | .mk ks, p, hp, hb => rs_lines_neL w ks p false hb hp

theorem ros_split_text (w : Nat) (hw : 0 < w) (t : Cfg) (h : rosTop t = true) :
    rosSplit (blanks w) (joinNl (rosText w [] t)) = some (rosLines w [] t) := by
  cases t with
  | mk ks =>
    simp only [rosTop, Cfg.kids, Bool.and_eq_true, rosBody] at h
    have hwords : rs_words [] := by intro x hx; simp at hx
    simp only [rosText, rosLines, rosSplit]
    have hloop : rosSplitLoop (blanks w) 0 (rosTextL w [] ks) = some (rosLinesL w [] ks) := by
      have := rs_loopL w hw ks [] false h.2 0 [] [] hwords (Or.inr h.1) (Or.inr rfl)
        (fun lvl => by simp [rosSplitLoop])
      simpa using this
    have hfilter := nonEmpty_eq_self (rs_lines_neL w ks [] false h.2 hwords)
    rw [splitNl_joinNl_under (fun x => (rosSplitLoop (blanks w) 0 x).map nonEmpty) rfl _
      (rs_text_nlL w ks [] false h.2 hwords), hloop]
    simp [hfilter]

/-- the header of a section: word `i` of its path at depth `i` -/
def rp_hdrItems (w : Nat) (q : List String) (n : Nat) : List Item :=
  (q.zipIdx n).map fun e => Item.text (w * e.2) e.1

mutual
  /-- `rosLines` as offside items -/
  def rp_items (w : Nat) (p : List String) : Cfg → List Item
    | .mk ks => rp_itemsL w p ks
  def rp_itemsL (w : Nat) (p : List String) : List (String × Cfg) → List Item
    | [] => []
    | (k, c) :: rest =>
      if c.kids.isEmpty then Item.text (w * p.length) k :: rp_itemsL w p rest
      else (rp_hdrItems w (p ++ [k]) 0 ++ rp_items w (p ++ [k]) c) ++ rp_itemsL w p rest
end

theorem rp_classify_hdr (w : Nat) (q : List String) (hq : ∀ x ∈ q, rowBase x.toList = true) :
    ((q.zipIdx.map fun e => blanks (w * e.2) ++ e.1.toList).map
        fun l => classify comments (String.ofList l)) = rp_hdrItems w q 0 := by
  unfold rp_hdrItems
  rw [List.map_map]
  apply List.map_congr_left
  intro e he
  simp only [Function.comp]
  exact classify_line _ _ (hq e.1 (List.fst_mem_of_mem_zipIdx he))

theorem rp_classifyL (w : Nat) : (ks : List (String × Cfg)) → ∀ (p : List String) (seen : Bool),
    (∀ x ∈ p, rowBase x.toList = true) → rosBodyL p seen ks = true →
    (rosLinesL w p ks).map (fun l => classify comments (String.ofList l)) = rp_itemsL w p ks := by
  intro ks p seen hp hb
  induction ks, p, seen, hb using rosBodyL_induction with
  | nil => simp [rosLinesL, rp_itemsL]
  | leaf p k rest _ hk _ _ ih =>
    simp only [rosLinesL, rp_itemsL, Cfg.kids, List.isEmpty_nil, if_true, List.map_cons, ih hp,
      classify_line _ k hk]
  | sec p seen k ks rest _ hks hk _ _ _ _ ih1 ih2 =>
    have hp' : ∀ x ∈ p ++ [k], rowBase x.toList = true :=
      List.forall_mem_append.2 ⟨hp, List.forall_mem_singleton.2 (rs_rosWord_base k hk)⟩
    simp only [rosLinesL, rosLines, rp_itemsL, rp_items, Cfg.kids, hks, Bool.false_eq_true, if_false,
      List.map_append, ih1 hp', ih2 hp, rp_classify_hdr w _ hp']

/-- the paths `a ++ b.take 1`, `a ++ b.take 2`, … -/
def rp_pre : List String → List String → List (List String)
  | _, [] => []
  | a, x :: b => (a ++ [x]) :: rp_pre (a ++ [x]) b

mutual
  /-- the stacks the parser yields: a section announces every prefix of its path again (`rp_pre`), a leaf its path -/
  def rp_paths (p : List String) : Cfg → List (List String)
    | .mk ks => rp_pathsL p ks
  def rp_pathsL (p : List String) : List (String × Cfg) → List (List String)
    | [] => []
    | (k, c) :: rest =>
      if c.kids.isEmpty then (p ++ [k]) :: rp_pathsL p rest
      else (rp_pre [] (p ++ [k]) ++ rp_paths (p ++ [k]) c) ++ rp_pathsL p rest
end

theorem rp_run_hdr (w : Nat) (hw : 0 < w) : ∀ (b a : List String) (st : St) (stack : List String),
    OffGood w a.length st → stack.take a.length = a →
    ∃ st' stack', OffGood w (a ++ b).length st' ∧ stack'.take (a ++ b).length = a ++ b ∧
      ∀ rest n, ∃ m, runItems (rp_hdrItems w b a.length ++ rest) st stack n
        = (runItems rest st' stack' m).map (fun out => rp_pre a b ++ out)
  | [], a, st, stack, hst, hstack => by
    refine ⟨st, stack, by simpa using hst, by simpa using hstack, fun rest n => ⟨n, ?_⟩⟩
    simp only [rp_hdrItems, rp_pre, List.zipIdx_nil, List.map_nil, List.nil_append]
    exact (Except.map_id' _).symm
  | x :: b, a, st, stack, hst, hstack => by
    obtain ⟨st1, hg1, H1⟩ := run_row w hw hst stack x
    rw [hstack] at H1
    obtain ⟨st2, stack2, hg2, hs2, H2⟩ := rp_run_hdr w hw b (a ++ [x]) st1 (a ++ [x]) (by simpa using hg1)
      (List.take_of_length_le (by simp))
    refine ⟨st2, stack2, by simpa using hg2, by simpa using hs2, ?_⟩
    intro rest n
    obtain ⟨m, hm⟩ := H2 rest (n + 1)
    refine ⟨m, ?_⟩
    simp only [rp_hdrItems, List.length_append, List.length_cons, List.length_nil] at hm
    simp only [rp_hdrItems, List.zipIdx_cons, List.map_cons, List.cons_append]
    simp only [Nat.zero_add] at hm
    rw [H1, hm, Except.map_map]
    simp [rp_pre]

theorem rp_runL (w : Nat) (hw : 0 < w) : (ks : List (String × Cfg)) → ∀ (p : List String)
    (seen : Bool) (st : St) (stack : List String), rosBodyL p seen ks = true → OffGood w 0 st →
    (seen = false → OffGood w p.length st ∧ stack.take p.length = p) →
    ∃ st' stack', OffGood w 0 st' ∧ ∀ rest n, ∃ m,
      runItems (rp_itemsL w p ks ++ rest) st stack n
        = (runItems rest st' stack' m).map (fun out => rp_pathsL p ks ++ out) := by
  intro ks p seen st stack hb hst0 hready
  induction ks, p, seen, hb using rosBodyL_induction generalizing st stack with
  | nil =>
    refine ⟨st, stack, hst0, fun rest n => ⟨n, ?_⟩⟩
    simp only [rp_itemsL, rp_pathsL, List.nil_append]
    exact (Except.map_id' _).symm
  | leaf p k rest0 _ _ _ _ ih =>
    obtain ⟨hst, hstack⟩ := hready rfl
    obtain ⟨st1, hg1, H1⟩ := run_row w hw hst stack k
    rw [hstack] at H1
    obtain ⟨st3, stack3, hg3, H3⟩ := ih st1 (p ++ [k]) (OffGood_mono (Nat.zero_le _) hg1) (fun _ => ⟨OffGood_mono (Nat.le_succ _) hg1, by simp⟩)
    refine ⟨st3, stack3, hg3, fun rest n => ?_⟩
    obtain ⟨m, hm⟩ := H3 rest (n + 1)
    refine ⟨m, ?_⟩
    simp only [rp_itemsL, rp_pathsL, Cfg.kids, List.isEmpty_nil, if_true, List.cons_append]
    rw [H1, hm, Except.map_map]
  | sec p seen k ks rest0 _ hks _ _ _ _ _ ih1 ih2 =>
    obtain ⟨stH, stackH, hgH, hsH, HH⟩ := rp_run_hdr w hw (p ++ [k]) [] st stack
      (by simpa using hst0) (by simp)
    simp only [List.nil_append, List.length_nil] at hgH hsH HH
    obtain ⟨st2, stack2, hg2, H2⟩ := ih1 stH stackH (OffGood_mono (Nat.zero_le _) hgH) (fun _ => ⟨hgH, hsH⟩)
    obtain ⟨st3, stack3, hg3, H3⟩ := ih2 st2 stack2 hg2 (by intro h; cases h)
    refine ⟨st3, stack3, hg3, fun rest n => ?_⟩
    obtain ⟨m1, hm1⟩ := HH (rp_itemsL w (p ++ [k]) ks ++ (rp_itemsL w p rest0 ++ rest)) n
    obtain ⟨m2, hm2⟩ := H2 (rp_itemsL w p rest0 ++ rest) m1
    obtain ⟨m3, hm3⟩ := H3 rest m2
    refine ⟨m3, ?_⟩
    simp only [rp_itemsL, rp_items, rp_pathsL, rp_paths, Cfg.kids, hks, Bool.false_eq_true, if_false,
      List.append_assoc]
    rw [hm1, hm2, hm3, Except.map_map, Except.map_map]

theorem rp_stacks (w : Nat) (hw : 0 < w) (ks : List (String × Cfg)) (h : rosBodyL [] false ks = true) :
    stacks (rp_itemsL w [] ks) = .ok (rp_pathsL [] ks) := by
  have h0 : OffGood w 0 St.init := ⟨0, none, by simp [St.init], by simp, Or.inr ⟨rfl, rfl, rfl⟩⟩
  obtain ⟨st', stack', -, H⟩ := rp_runL w hw ks [] false St.init [] h h0 (fun _ => ⟨h0, rfl⟩)
  obtain ⟨m, hm⟩ := H [] 1
  simp only [List.append_nil] at hm
  simp only [stacks, hm, runItems]
  simp [Except.map]

/-- the path `q` exists in `T` (under every entry carrying the right key) -/
def rp_hasPath : Cfg → List String → Prop
  | _, [] => True
  | .mk ks, k :: rest => Cfg.hasKey ks k = true ∧ ∀ e ∈ ks, e.1 = k → rp_hasPath e.2 rest

theorem rp_insAll_cons (a : List String) (qs : List (List String)) (T : Cfg) :
    insAll (a :: qs) T = insAll qs (Cfg.insertPath a T) := by
  simp [insAll]

theorem rp_insAll_pre : ∀ (b a : List String) (k : String) (T : Cfg),
    insAll (rp_pre a (b ++ [k])) T = Cfg.insertPath (a ++ b ++ [k]) T
  | [], a, k, T => by simp [rp_pre, insAll]
  | x :: b, a, k, T => by
    have h2 := rp_insAll_pre b (a ++ [x]) k (Cfg.insertPath (a ++ [x]) T)
    rw [List.append_assoc (a ++ [x]), Gen.Lemmas.insertPath_append] at h2
    simpa [rp_pre, rp_insAll_cons] using h2

/-- the prefixes a section announces again are lines above the one that follows them (`insertPath_append`) -/
theorem insAll_rp_pathsL (ks : List (String × Cfg)) : ∀ (p : List String) (T : Cfg),
    insAll (rp_pathsL p ks) T = insAll ((Cfg.pathsList ks).map (p ++ ·)) T := by
  induction ks using Cfg.forest_induction with
  | nil => intros; simp [rp_pathsL, Cfg.pathsList]
  | cons k cks rest ih1 ih2 =>
    intro p T
    have h0 := rp_insAll_pre p [] k T
    simp only [List.nil_append] at h0
    -- a leaf is announced like a section without body
    have hL : insAll (rp_pathsL p ((k, .mk cks) :: rest)) T
        = insAll (rp_pathsL p rest) (insAll (rp_pathsL (p ++ [k]) cks) (Cfg.insertPath (p ++ [k]) T)) := by
      cases cks with
      | nil => simp [rp_pathsL, insAll, Cfg.kids]
      | cons e es => simp only [rp_pathsL, rp_paths, Cfg.kids, List.isEmpty_cons, Bool.false_eq_true, if_false,
          insAll_append, h0]
    rw [hL, ih1, ih2]
    simp [Cfg.pathsList, Cfg.paths, insAll_append, rp_insAll_cons, Function.comp_def]

theorem rp_insL : (ks : List (String × Cfg)) → ∀ (p : List String) (T : Cfg), rp_hasPath T p →
    insAll (rp_pathsL p ks) T = insAll ((Cfg.pathsList ks).map (p ++ ·)) T :=
  fun ks p T _ => insAll_rp_pathsL ks p T

theorem rp_wfL : (ks : List (String × Cfg)) → ∀ (p : List String) (seen : Bool),
    rosBodyL p seen ks = true → wfL (fun _ => true) ks = true := by
  intro ks p seen hb
  induction ks, p, seen, hb using rosBodyL_induction with
  | nil => rfl
  | leaf p k rest hnd _ _ _ ih => simp only [wfL, wf, hnd, ih, Bool.and_self]
  | sec p seen k ks rest hnd _ _ _ _ _ _ ih1 ih2 => simp only [wfL, wf, hnd, ih1, ih2, Bool.and_self]

theorem ros_parse_lines (w : Nat) (hw : 0 < w) (t : Cfg) (h : rosTop t = true) :
    parseToTree comments ((rosLines w [] t).map String.ofList) = .ok t := by
  obtain ⟨ks⟩ := t
  simp only [rosTop, Bool.and_eq_true, rosBody] at h
  obtain ⟨-, hb⟩ := h
  have hA := rp_classifyL w ks [] false (by simp) hb
  have hB := rp_stacks w hw ks hb
  have hC : treeOfStacks (rp_pathsL [] ks) = treeOfStacks (Cfg.pathsList ks) := by
    simpa [treeOfStacks_eq_insAll] using insAll_rp_pathsL ks [] Cfg.empty
  have hD := treeOfStacks_pathsList _ ks (rp_wfL ks [] false hb)
  simp only [parseToTree, rosLines, List.map_map, Function.comp_def, hA, parseItems, hB, hC, hD]

end Annet.FormatSplit.Lemmas
