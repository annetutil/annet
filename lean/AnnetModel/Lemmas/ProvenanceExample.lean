/-
The provenance theorem of C02 clause (a) on a closed instance: a two-level diff whose patch is computed (kernel
evaluation), with every kind of item but `commit`.
-/
import AnnetModel.Lemmas.Provenance

namespace Annet.Patch.ProvExample
open Annet.Rules Annet.Diff

def v : Vendor := { reverse := "no", exit := "" }

def attrsOf (row : String) : PAttrs :=
  { row := row, logic := "common.default", diffLogic := "common.default_diff", parent := false, forceCommit := false }

def d : List DItem :=
  [ .mk .affected "interface eth0"
      [ .mk .added "mtu 9000" [] ⟨"mtu *", ["9000"], attrsOf "mtu *"⟩,
        .mk .removed "description foo" [] ⟨"description *", ["foo"], attrsOf "description *"⟩ ]
      ⟨"interface *", ["eth0"], attrsOf "interface *"⟩,
    .mk .removed "x 1" [] ⟨"x *", ["1"], attrsOf "x *"⟩ ]

def p : PTree := .mk
  [ ("interface eth0", some (.mk
      [ ("no description foo", none, ⟨.fin 0, "description *", false⟩),
        ("mtu 9000", none, ⟨.fin 0, "mtu *", true⟩) ]), ⟨.fin 0, "interface *", true⟩),
    ("no x 1", none, ⟨.fin 0, "x *", false⟩) ]

-- (`decide +kernel` on the checker `Prov.okIs`: `PTree` has no `DecidableEq`, and `rfl` / `decide` would run `makePatch` in
-- the elaborator's evaluator)
theorem patch_eq : makePatch v [] true (makePre d) = .ok p := Prov.okIs_sound (by decide +kernel)

example : ProvT v d p := patch_provenance v [] true d p patch_eq

end Annet.Patch.ProvExample
