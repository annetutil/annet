/-
The stable insertion sort `Patch.stableSort` (the model's one sort, defined in `Model/Patch`), for any comparison.  Everything
follows from the normal form of one insertion (`insertBy_eq`, `insertBy_split`); the lifts to the fold go through core's
`List.foldl_rel`.  `foldl_insert_eq_sort` ties the other insertion sorts (`Diff`, `Multiline`, `Acl.sortStable`) to it.
Then the comparisons the model sorts by: Python's tuple comparison is `lexLt`, a strict weak order when the leading
components are totally ordered (`lexLt_strictWeak`), hence `SortKey.lt`, `ocLt` (and `Diff`'s `ltIdx`) are.
-/
import AnnetModel.Spec.Sort

namespace Annet.Patch.Lemmas
open Annet Annet.Patch Annet.Patch.Spec

theorem insertBy_eq {α : Type} (lt : α → α → Bool) (x : α) (l : List α) :
    insertBy lt x l = l.takeWhile (fun y => !lt x y) ++ x :: l.dropWhile (fun y => !lt x y) := by
  induction l with
  | nil => rfl
  | cons y ys ih =>
    rw [insertBy, List.takeWhile_cons, List.dropWhile_cons]
    cases lt x y
    · simp [ih]
    · rfl

theorem insertBy_perm {α : Type} (lt : α → α → Bool) (x : α) (l : List α) :
    (insertBy lt x l).Perm (x :: l) := by
  rw [insertBy_eq]
  exact List.perm_middle.trans (by rw [List.takeWhile_append_dropWhile])

theorem sublist_insertBy {α : Type} (lt : α → α → Bool) (x : α) (l : List α) :
    List.Sublist l (insertBy lt x l) := by
  rw [insertBy_eq]
  simpa using (List.Sublist.refl (l.takeWhile fun y => !lt x y)).append
    (List.sublist_cons_self x (l.dropWhile fun y => !lt x y))

theorem insertBy_append_of_all_not_gt {α : Type} (lt : α → α → Bool) (x : α) (l r : List α)
    (h : ∀ z ∈ l, lt x z = false) : insertBy lt x (l ++ r) = l ++ insertBy lt x r := by
  have h' : ∀ z ∈ l, (!lt x z) = true := fun z hz => by rw [h z hz]; rfl
  rw [insertBy_eq, insertBy_eq, List.takeWhile_append_of_pos h', List.dropWhile_append_of_pos h', List.append_assoc]

theorem insertBy_of_all_not_gt {α : Type} (lt : α → α → Bool) (x : α) (l : List α)
    (h : ∀ z ∈ l, lt x z = false) : insertBy lt x l = l ++ [x] := by
  have := insertBy_append_of_all_not_gt lt x l [] h
  rwa [List.append_nil] at this

theorem insertBy_of_all_gt {α : Type} (lt : α → α → Bool) (x : α) (l : List α)
    (h : ∀ z ∈ l, lt x z = true) : insertBy lt x l = x :: l := by
  cases l with
  | nil => rfl
  | cons y ys => rw [insertBy, if_pos (h y List.mem_cons_self)]

theorem strictWeak_asymm {α : Type} {lt : α → α → Bool} (h : StrictWeak lt) {a b : α}
    (hab : lt a b = true) : lt b a = false := by
  cases hba : lt b a with
  | false => rfl
  | true => have := h.trans a b a hab hba; rw [h.irrefl] at this; cases this

theorem insertBy_split {α : Type} {lt : α → α → Bool} (h : StrictWeak lt) (x : α) {l : List α} (hs : Sorted lt l) :
    ∃ l₁ l₂, l = l₁ ++ l₂ ∧ insertBy lt x l = l₁ ++ x :: l₂ ∧
      (∀ z ∈ l₁, lt x z = false) ∧ ∀ z ∈ l₂, lt x z = true := by
  refine ⟨_, _, List.takeWhile_append_dropWhile.symm, insertBy_eq lt x l,
    fun z hz => by simpa using List.all_eq_true.mp List.all_takeWhile z hz, ?_⟩
  induction l with
  | nil => intro z hz; cases hz
  | cons y ys ih =>
    have hs' := List.pairwise_cons.mp hs
    rw [List.dropWhile_cons]
    cases hxy : lt x y with
    | false => exact ih hs'.2
    | true =>
      -- everything after `y` is not less than `y`, hence greater than `x` as well
      intro z hz
      rcases List.mem_cons.mp hz with rfl | hz
      · exact hxy
      · cases hxz : lt x z with
        | true => rfl
        | false => rw [h.negTrans x z y hxz (hs'.1 z hz)] at hxy; cases hxy

theorem insertBy_sorted {α : Type} (lt : α → α → Bool) (h : StrictWeak lt) (x : α) (l : List α)
    (hs : Sorted lt l) : Sorted lt (insertBy lt x l) := by
  obtain ⟨l₁, l₂, rfl, hi, hle, hgt⟩ := insertBy_split h x hs
  have hs' := List.pairwise_append.mp hs
  rw [hi]
  refine List.pairwise_append.mpr
    ⟨hs'.1, List.pairwise_cons.mpr ⟨fun z hz => strictWeak_asymm h (hgt z hz), hs'.2.1⟩, fun a ha b hb => ?_⟩
  rcases List.mem_cons.mp hb with rfl | hb
  · exact hle a ha
  · exact hs'.2.2 a ha b hb

theorem insertBy_filter {α : Type} (lt : α → α → Bool) (h : StrictWeak lt) (x : α) (p : α → Bool) (l : List α)
    (hs : Sorted lt l) :
    (insertBy lt x l).filter p = if p x then insertBy lt x (l.filter p) else l.filter p := by
  obtain ⟨l₁, l₂, rfl, hi, hle, hgt⟩ := insertBy_split h x hs
  rw [hi, List.filter_append, List.filter_append, List.filter_cons]
  split
  · rw [insertBy_append_of_all_not_gt lt x _ _ (fun z hz => hle z (List.mem_filter.mp hz).1),
      insertBy_of_all_gt lt x _ (fun z hz => hgt z (List.mem_filter.mp hz).1)]
  · rfl

theorem insertBy_pair_sublist {α : Type} (lt : α → α → Bool) (h : StrictWeak lt) (x y : α) (l : List α)
    (hs : Sorted lt l) (hx : x ∈ l) (hxy : lt y x = false) : List.Sublist [x, y] (insertBy lt y l) := by
  obtain ⟨l₁, l₂, rfl, hi, _, hgt⟩ := insertBy_split h y hs
  rw [hi]
  rcases List.mem_append.mp hx with hx | hx
  · exact (List.singleton_sublist.mpr hx).append (List.singleton_sublist.mpr List.mem_cons_self)
  · rw [hgt x hx] at hxy; cases hxy

theorem foldl_of_sorted {α : Type} (lt : α → α → Bool) (l acc : List α)
    (hs : Sorted lt (acc ++ l)) : l.foldl (fun acc x => insertBy lt x acc) acc = acc ++ l := by
  induction l generalizing acc with
  | nil => simp
  | cons x xs ih =>
    have hx : insertBy lt x acc = acc ++ [x] :=
      insertBy_of_all_not_gt lt x acc fun z hz => (List.pairwise_append.mp hs).2.2 z hz x List.mem_cons_self
    rw [List.foldl_cons, hx, ih (acc ++ [x]) (by simpa using hs)]
    simp

/-- a fold of any insertion that steps like `insertBy` is the stable sort -/
theorem foldl_insert_eq_sort {α : Type} (lt : α → α → Bool) (ins : α → List α → List α) (hnil : ∀ x, ins x [] = [x])
    (hcons : ∀ x y ys, ins x (y :: ys) = if lt x y then x :: y :: ys else y :: ins x ys) (l : List α) :
    l.foldl (fun acc x => ins x acc) [] = stableSort lt l := by
  have h : ∀ x acc, ins x acc = insertBy lt x acc := by
    intro x acc
    induction acc with
    | nil => exact hnil x
    | cons y ys ih => rw [hcons, insertBy, ih]
  simp only [h, stableSort]

theorem sort_perm {α : Type} (lt : α → α → Bool) (l : List α) : (stableSort lt l).Perm l := by
  -- against the fold that only collects the elements
  have := List.foldl_rel (l := l) (f := fun acc x => insertBy lt x acc) (g := fun acc x => x :: acc) (r := List.Perm)
    .nil fun x _ c c' h => (insertBy_perm lt x c).trans (h.cons x)
  rw [List.foldl_flip_cons_eq_append', List.append_nil] at this
  exact this.trans (List.reverse_perm l)

theorem sort_sorted {α : Type} (lt : α → α → Bool) (h : StrictWeak lt) (l : List α) :
    Sorted lt (stableSort lt l) :=
  List.foldlRecOn l _ List.Pairwise.nil fun acc hs x _ => insertBy_sorted lt h x acc hs

theorem sort_of_sorted {α : Type} (lt : α → α → Bool) (l : List α) (hs : Sorted lt l) :
    stableSort lt l = l := by
  simpa [stableSort] using foldl_of_sorted lt l [] (by simpa using hs)

theorem sort_idempotent {α : Type} (lt : α → α → Bool) (h : StrictWeak lt) (l : List α) :
    stableSort lt (stableSort lt l) = stableSort lt l :=
  sort_of_sorted lt _ (sort_sorted lt h l)

theorem sort_filter_comm {α : Type} (lt : α → α → Bool) (h : StrictWeak lt) (l : List α) (p : α → Bool) :
    stableSort lt (l.filter p) = (stableSort lt l).filter p := by
  rw [stableSort, List.foldl_filter]
  exact (List.foldl_rel (r := fun c' c => Sorted lt c ∧ c' = c.filter p) ⟨.nil, rfl⟩ fun x _ c' c ⟨hs, hc⟩ =>
    ⟨insertBy_sorted lt h x c hs, by rw [insertBy_filter lt h x p c hs, hc]⟩).2

theorem sort_keeps_nonlt_order {α : Type} (lt : α → α → Bool) (h : StrictWeak lt) (l1 l2 l3 : List α) (x y : α)
    (hxy : lt y x = false) :
    List.Sublist [x, y] (stableSort lt (l1 ++ x :: l2 ++ y :: l3)) := by
  unfold stableSort
  rw [List.foldl_append, List.foldl_cons]
  refine List.foldlRecOn l3 _ ?_ fun acc hs z _ => hs.trans (sublist_insertBy lt z acc)
  apply insertBy_pair_sublist lt h x y _ (sort_sorted lt h _) _ hxy
  exact (sort_perm lt _).mem_iff.mpr (by simp)

theorem sort_single {α : Type} (lt : α → α → Bool) (t : α) : stableSort lt [t] = [t] := by
  simp [stableSort, insertBy]

theorem sort_pair {α : Type} (lt : α → α → Bool) (t1 t2 : α) (h21 : lt t2 t1 = false) :
    stableSort lt [t1, t2] = [t1, t2] := by
  apply sort_of_sorted lt
  simp [Sorted, h21]

/-- a strict total order: what the leading components of a Python key tuple must be (`lexLt_strictWeak`) -/
structure StrictTotal {α : Type} (lt : α → α → Bool) : Prop where
  irrefl : ∀ a, lt a a = false
  trans : ∀ a b c, lt a b = true → lt b c = true → lt a c = true
  tri : ∀ a b, lt a b = false → lt b a = false → a = b

theorem StrictTotal.strictWeak {α : Type} {lt : α → α → Bool} (h : StrictTotal lt) : StrictWeak lt where
  irrefl := h.irrefl
  trans := h.trans
  negTrans := by
    intro a b c hab hbc
    cases hba : lt b a with
    | true => exact Bool.eq_false_iff.mpr fun hac => by rw [h.trans b a c hba hac] at hbc; cases hbc
    | false => exact h.tri a b hab hba ▸ hbc

/-- lexicographic comparison of pairs, as Python compares tuples -/
def lexLt {α β : Type} [DecidableEq α] (lt1 : α → α → Bool) (lt2 : β → β → Bool) (a b : α × β) : Bool :=
  lt1 a.1 b.1 || (a.1 == b.1 && lt2 a.2 b.2)

theorem lexLt_strictWeak {α β : Type} [DecidableEq α] {lt1 : α → α → Bool} {lt2 : β → β → Bool}
    (h1 : StrictTotal lt1) (h2 : StrictWeak lt2) : StrictWeak (lexLt lt1 lt2) where
  irrefl := by intro a; simp [lexLt, h1.irrefl, h2.irrefl]
  trans := by
    intro a b c hab hbc
    simp only [lexLt, Bool.or_eq_true, Bool.and_eq_true, beq_iff_eq] at *
    rcases hab with hab | ⟨hab, hab'⟩ <;> rcases hbc with hbc | ⟨hbc, hbc'⟩
    · exact Or.inl (h1.trans _ _ _ hab hbc)
    · exact Or.inl (hbc ▸ hab)
    · exact Or.inl (hab ▸ hbc)
    · exact Or.inr ⟨hab.trans hbc, h2.trans _ _ _ hab' hbc'⟩
  negTrans := by
    intro a b c hab hbc
    simp only [lexLt, Bool.or_eq_false_iff, Bool.and_eq_false_iff, beq_eq_false_iff_ne] at *
    refine ⟨h1.strictWeak.negTrans _ _ _ hab.1 hbc.1, ?_⟩
    by_cases hac : a.1 = c.1
    · -- then `a.1 = b.1 = c.1`, and the second components decide
      have heq : a.1 = b.1 := h1.tri _ _ hab.1 (hac ▸ hbc.1)
      exact .inr (h2.negTrans _ _ _ (hab.2.resolve_left (· heq)) (hbc.2.resolve_left (· (heq ▸ hac))))
    · exact .inl hac

theorem sord_strictTotal : StrictTotal SOrd.lt where
  irrefl := by intro a; cases a <;> simp [SOrd.lt]
  trans := by
    intro a b c
    cases a <;> cases b <;> cases c <;> simp [SOrd.lt]
    omega
  tri := by
    intro a b
    cases a <;> cases b <;> simp [SOrd.lt]
    omega

theorem bool_strictWeak : StrictWeak (fun a b : Bool => !a && b) := ⟨by decide, by decide, by decide⟩

theorem string_strictTotal : StrictTotal (fun a b : String => decide (a < b)) where
  irrefl := by intro a; simp
  trans := by
    intro a b c hab hbc
    simp only [decide_eq_true_eq] at *
    exact String.lt_trans hab hbc
  tri := by
    intro a b hab hba
    simp only [decide_eq_false_iff_not, String.not_lt] at *
    exact String.le_antisymm hba hab

theorem strictWeak_comap {α β : Type} {lt : β → β → Bool} (f : α → β) (h : StrictWeak lt) :
    StrictWeak (fun a b => lt (f a) (f b)) :=
  ⟨fun _ => h.irrefl _, fun _ _ _ => h.trans _ _ _, fun _ _ _ => h.negTrans _ _ _⟩

theorem sortKey_strictWeak : StrictWeak SortKey.lt :=
  strictWeak_comap (fun k : SortKey => (k.ord, k.rawRule, k.direct))
    (lexLt_strictWeak sord_strictTotal (lexLt_strictWeak string_strictTotal bool_strictWeak))

theorem ocLt_strictWeak : StrictWeak ocLt :=
  strictWeak_comap ocKey
    (lexLt_strictWeak sord_strictTotal bool_strictWeak)

theorem removal_key_not_after_creation (n1 n2 : Nat) (raw : String) :
    SortKey.lt ⟨signed (.fin n2) true, raw, true⟩ ⟨signed (.fin n1) false, raw, false⟩ = false := by
  simp [SortKey.lt, signed, SOrd.lt]

end Annet.Patch.Lemmas
