/-
C06, third clause, positive part: merging ACLs is monotone when no rule is `%global` / ignore and nothing can match in
negated form (otherwise the clause is false of the code: F06a–d in Props/C06.lean).  The filter `keep` is monotone in the
dictionary (`keep_mono_good`, an induction over the configuration tree).  Below it: dictionaries denote sets of rule-row
paths (`InD`) and `mergeDicts` is their union (`AclMergeDict`); `compileAcl` of a plain text denotes the text's row paths
(`AclMergeCompile`); a row not in negated form has only direct matches and hands its children the union of the matching
rules' children (`AclMergeRev`, `AclMergeMatch`).  Vocabulary: `AclMergeDefs`.
-/
import AnnetModel.Lemmas.AclMergeCompile
import AnnetModel.Lemmas.AclMergeMatch

namespace Annet.Acl.Lemmas
open Annet Annet.Acl Annet.Acl.Spec

theorem noNegRuleL_iff (v : Vendor) (l : List RawRule) :
    NoNegRuleL v l = true ↔ ∀ x ∈ l, NoNegRule v x = true := by
  induction l with
  | nil => simp [NoNegRuleL]
  | cons x xs ih => simp [NoNegRuleL, ih]

theorem noNegRuleL_append {v : Vendor} {A B : List RawRule} (hA : NoNegRuleL v A = true) (hB : NoNegRuleL v B = true) :
    NoNegRuleL v (A ++ B) = true :=
  (noNegRuleL_iff v _).2 fun x hx =>
    (List.mem_append.1 hx).elim ((noNegRuleL_iff v _).1 hA x) ((noNegRuleL_iff v _).1 hB x)

theorem noNegRule_inv {v : Vendor} {x : RawRule} (h : NoNegRule v x = true) :
    (v.reverse ++ " ").toList.isPrefixOf (rawRow x).toList = false ∧ NoNegRuleL v (rawKids x) = true := by
  match x, h with
  | .mk row _ _ _ _ _ ch, h =>
    simp only [NoNegRule, Bool.and_eq_true, Bool.not_eq_true'] at h
    exact h

theorem noNeg_inDR (v : Vendor) : ∀ (p : List String) (l : List RawRule), NoNegRuleL v l = true → InDR l p →
    ∀ r ∈ p, (v.reverse ++ " ").toList.isPrefixOf r.toList = false := by
  intro p
  induction p with
  | nil => intro _ _ _ r hr; cases hr
  | cons r0 q ih =>
    rintro l hl ⟨x, hx, hxr, hq⟩ r hr
    obtain ⟨h1, h2⟩ := noNegRule_inv ((noNegRuleL_iff v l).1 hl x hx)
    rcases List.mem_cons.1 hr with rfl | hr
    · rw [← hxr]; exact h1
    · exact ih _ h2 hq r hr

/-- What `compileAcl` makes of one plain text without negated rows: rules the monotonicity argument applies to, denoting
the text's row paths. -/
theorem compile_good (v : Vendor) (A : List RawRule) (hA : PlainRawL A = true) (hn : NoNegRuleL v A = true) :
    GoodRules v (compileAcl [A]) ∧ ∀ p, InD (compileAcl [A]).loc p ↔ InDR A p :=
  have ⟨a1, a2, a3⟩ := compileAcl_single_spec A hA
  ⟨⟨a1, a2, fun p hp => noNeg_inDR v p A hn ((a3 p).1 hp)⟩, a3⟩

mutual
  theorem keep_mono_good (v : Vendor) (hw : plainWord v.reverse.toList = true) :
      (t : Cfg) → (R1 R2 : Rules) → GoodRules v R1 → GoodRules v R2 → (∀ p, InD R1.loc p → InD R2.loc p) →
      NoNegRow v t = true → Parses v R1 t → Parses v R2 t → Sub (keep v R1 t) (keep v R2 t)
    | .mk ks, R1, R2, g1, g2, hle, ht, p1, p2 => by
      rw [keep, keep]; rw [NoNegRow] at ht; rw [Parses] at p1 p2
      exact .mk (keepL_mono_good v hw ks R1 R2 g1 g2 hle ht p1 p2)
  theorem keepL_mono_good (v : Vendor) (hw : plainWord v.reverse.toList = true) :
      (ks : List (String × Cfg)) → (R1 R2 : Rules) → GoodRules v R1 → GoodRules v R2 →
      (∀ p, InD R1.loc p → InD R2.loc p) → NoNegRowL v ks = true → ParsesL v R1 ks → ParsesL v R2 ks →
      SubL (keepL v R1 ks) (keepL v R2 ks)
    | [], _, _, _, _, _, _, _, _ => by rw [keepL]; exact .nil _
    | (row, ch) :: rest, R1, R2, g1, g2, hle, ht, p1, p2 => by
      rw [NoNegRowL] at ht
      simp only [Bool.and_eq_true, Bool.not_eq_true'] at ht
      obtain ⟨⟨hrow, hch⟩, hrest⟩ := ht
      rw [ParsesL] at p1 p2
      have ihr := keepL_mono_good v hw rest R1 R2 g1 g2 hle hrest p1.2.2 p2.2.2
      rw [keepL_cons, keepL_cons]
      rcases passRow_plain v hw row hrow R1 g1 p1.1 with ⟨h1, _⟩ | ⟨cr1, h1, ⟨r, hr, hin⟩, gcr1, hD1⟩
      · rw [h1]
        cases passRow v R2 row with
        | none => exact ihr
        | some cr2 => exact .skip _ ihr
      · -- the paths of `R1` are paths of `R2`: the row passes there too, and hands down more
        rcases passRow_plain v hw row hrow R2 g2 p2.1 with ⟨_, hno⟩ | ⟨cr2, h2, _, gcr2, hD2⟩
        · exact absurd ⟨r, hr, hle _ hin⟩ hno
        · rw [h1, h2]
          refine .keep row (keep_mono_good v hw ch cr1 cr2 gcr1 gcr2 (fun p hp => (hD2 p).2 ?_) hch
            (p1.2.1 _ h1) (p2.2.1 _ h2)) ihr
          exact ((hD1 p).1 hp).imp_right fun ⟨r', hr', h⟩ => ⟨r', hr', hle _ h⟩
end

theorem mono_list (v : Vendor) (hw : plainWord v.reverse.toList = true) :
    (ks : List (String × Cfg)) → (R1 R2 : Rules) → (path1 path2 : List String) →
    (ka kab : List (String × Cfg)) →
    GoodRules v R1 → GoodRules v R2 → (∀ p, InD R1.loc p → InD R2.loc p) → NoNegRowL v ks = true →
    applyAclList v false false R1 path1 ks = .ok ka → applyAclList v false false R2 path2 ks = .ok kab →
    SubL ka kab := by
  intro ks R1 R2 path1 path2 ka kab g1 g2 hle ht h1 h2
  obtain ⟨e1, p1⟩ := applyAclList_ok _ _ _ _ _ _ _ h1
  obtain ⟨e2, p2⟩ := applyAclList_ok _ _ _ _ _ _ _ h2
  rw [e1, e2]
  exact keepL_mono_good v hw ks R1 R2 g1 g2 hle ht p1 p2

end Annet.Acl.Lemmas

namespace Annet.Acl.Spec
open Annet Annet.Acl Annet.Acl.Lemmas

/-! ### the hypotheses of `C06_merge_monotone_partial` cannot be weakened to the obvious ones

`hw` (the negation word is a plain literal word) and `NoNegRow` (no row in negated form *as the matcher sees it*: after
`jun_activate`, ignoring ASCII case, any whitespace after the word) are needed as they stand.  Each example satisfies the
weaker `draftHyps` (no `hw`; `NoNegRow₀`: no row has the literal prefix `<negation word><blank>`), both runs succeed, and
yet the row passed by `A` alone is dropped by `A ++ B`: the negated form of `B`'s `cant_delete` rule becomes the first match. -/
namespace MergeDraft

def resPaths (r : Except Err Cfg) : Option (List (List String)) :=
  match r with
  | .ok c => some c.paths
  | .error _ => none

mutual
  def NoNegRow₀ (v : Vendor) : Cfg → Bool
    | .mk ks => NoNegRowL₀ v ks
  def NoNegRowL₀ (v : Vendor) : List (String × Cfg) → Bool
    | [] => true
    | (row, ch) :: rest => !((v.reverse ++ " ").toList.isPrefixOf row.toList) && NoNegRow₀ v ch && NoNegRowL₀ v rest
end

def draftHyps (v : Vendor) (A B : List RawRule) (t : Cfg) : Bool :=
  PlainRawL A && PlainRawL B && NoNegRuleL v A && NoNegRuleL v B && NoNegRow₀ v t

def A₀ : List RawRule := [.mk "~" false false [false] 0 ["g0"] []]

/-- the row separates the negation word from the rest by a tab (any `\s+` is accepted by the pattern) -/
example :
    let B : List RawRule := [.mk "foo" false false [true] 2 ["g1"] []]
    let t : Cfg := .mk [("undo\tfoo", .mk [])]
    let v : Vendor := { reverse := "undo" }
    draftHyps v A₀ B t = true ∧ plainWord v.reverse.toList = true ∧ NoNegRow v t = false ∧
    resPaths (applyAcl v false false (compileAcl [A₀]) [] t) = some [["undo\tfoo"]] ∧
    resPaths (applyAcl v false false (compileAcl [A₀ ++ B]) [] t) = some [] := by decide +kernel

/-- a `(?i)` rule: its negated form is matched ignoring case -/
example :
    let B : List RawRule := [.mk "(?i)foo" false false [true] 2 ["g1"] []]
    let t : Cfg := .mk [("UNDO foo", .mk [])]
    let v : Vendor := { reverse := "undo" }
    draftHyps v A₀ B t = true ∧ plainWord v.reverse.toList = true ∧ NoNegRow v t = false ∧
    resPaths (applyAcl v false false (compileAcl [A₀]) [] t) = some [["UNDO foo"]] ∧
    resPaths (applyAcl v false false (compileAcl [A₀ ++ B]) [] t) = some [] := by decide +kernel

/-- Juniper: `inactive: ` is stripped from the row before matching -/
example :
    let B : List RawRule := [.mk "foo" false false [true] 2 ["g1"] []]
    let t : Cfg := .mk [("inactive: delete foo", .mk [])]
    let v : Vendor := { reverse := "delete", juniper := true }
    draftHyps v A₀ B t = true ∧ plainWord v.reverse.toList = true ∧ NoNegRow v t = false ∧
    resPaths (applyAcl v false false (compileAcl [A₀]) [] t) = some [["inactive: delete foo"]] ∧
    resPaths (applyAcl v false false (compileAcl [A₀ ++ B]) [] t) = some [] := by decide +kernel

/-- the negation word is a pattern token: the "negated form" `* foo` matches a row that does not contain
the word at all (here even `NoNegRow` holds: `hw` is needed) -/
example :
    let B : List RawRule := [.mk "foo" false false [true] 2 ["g1"] []]
    let t : Cfg := .mk [("x foo", .mk [])]
    let v : Vendor := { reverse := "*" }
    draftHyps v A₀ B t = true ∧ plainWord v.reverse.toList = false ∧ NoNegRow v t = true ∧
    resPaths (applyAcl v false false (compileAcl [A₀]) [] t) = some [["x foo"]] ∧
    resPaths (applyAcl v false false (compileAcl [A₀ ++ B]) [] t) = some [] := by decide +kernel

/-- the negation word contains a blank (two tokens, any whitespace between them) -/
example :
    let B : List RawRule := [.mk "foo" false false [true] 2 ["g1"] []]
    let t : Cfg := .mk [("a  b foo", .mk [])]
    let v : Vendor := { reverse := "a b" }
    draftHyps v A₀ B t = true ∧ plainWord v.reverse.toList = false ∧ NoNegRow v t = true ∧
    resPaths (applyAcl v false false (compileAcl [A₀]) [] t) = some [["a  b foo"]] ∧
    resPaths (applyAcl v false false (compileAcl [A₀ ++ B]) [] t) = some [] := by decide +kernel

/-- Non-vacuity of `C06_merge_monotone_partial`: nested rules on both sides, `interface *` in both texts. -/
example :
    let A : List RawRule := [.mk "interface *" false false [true] 0 ["g0"] [.mk "description ~" false false [false] 0 ["g0"] []],
                             .mk "vlan *" false false [false] 0 ["g0"] []]
    let B : List RawRule := [.mk "interface *" false false [false] 1 ["g1"] [.mk "mtu *" false false [false] 0 ["g1"] []],
                             .mk "snmp ~" false false [false] 0 ["g1"] []]
    let t : Cfg := .mk [("interface Eth1", .mk [("description x y", .mk []), ("mtu 9000", .mk []), ("shutdown", .mk [])]),
                        ("snmp community c", .mk []), ("vlan 10", .mk []), ("undocumented", .mk [])]
    let v : Vendor := { reverse := "undo" }
    plainWord v.reverse.toList = true ∧ PlainRawL A = true ∧ PlainRawL B = true ∧
    NoNegRuleL v A = true ∧ NoNegRuleL v B = true ∧ NoNegRow v t = true ∧
    resPaths (applyAcl v false false (compileAcl [A]) [] t)
      = some [["interface Eth1"], ["interface Eth1", "description x y"], ["vlan 10"]] ∧
    resPaths (applyAcl v false false (compileAcl [A ++ B]) [] t)
      = some [["interface Eth1"], ["interface Eth1", "description x y"], ["interface Eth1", "mtu 9000"],
              ["snmp community c"], ["vlan 10"]] := by decide +kernel

end MergeDraft

end Annet.Acl.Spec
