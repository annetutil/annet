/-
The flat theorem of C02 clause (b) on a closed instance (kernel evaluation): rules `user *` and `ntp *`, ACL `user *`; the
line `ntp 1.1.1.1` stays although the new configuration does not hold it.
-/
import AnnetModel.Lemmas.OutsideFlat
import AnnetModel.Lemmas.ExampleVendor

namespace Annet.AclDiff.OutsideFlat
open Annet Annet.Rules Annet.Diff Annet.Device Annet.Device.Abs Annet.ConvergeNested

namespace Example

def v : Vendor := { reverse := "undo", exit := "quit" }
def av : Acl.Vendor := { reverse := "undo" }
def env : Env := { reverse := "undo", exits := ["quit"] }

def mkAttrs (row : String) : PAttrs :=
  { row := row, logic := "common.default", diffLogic := "common.default_diff", parent := false, forceCommit := false }

def userRule : PRule := .mk "user *" false (mkAttrs "user *") (some ([], []))
def ntpRule : PRule := .mk "ntp *" false (mkAttrs "ntp *") (some ([], []))

def rules : PRules := ⟨[userRule, ntpRule], []⟩

def acl : Acl.Rules := Acl.compileAcl [[.mk "user *" false false [false] 0 ["gen"] []]]

def old : Cfg := .mk [("user alice", .mk []), ("ntp 1.1.1.1", .mk [])]
def new : Cfg := .mk [("user bob", .mk []), ("ntp 2.2.2.2", .mk [])]

def s : Slot := ("ntp *", ["1.1.1.1"])

/-- what `_diff_and_patch` computes: the patch is `undo user alice`, `user bob` (`#eval leafCmds exRes.patch`) -/
def exRes : Api.Result :=
  match deviceModeAcl Patch.runLogic v av acl rules [] old new with
  | .ok r => r
  | .error _ => ⟨[], .mk []⟩

theorem run_evaluated :
    Except.isOk (deviceModeAcl Patch.runLogic v av acl rules [] old new) = true ∧
    ((leafCmds exRes.patch).length = 2 ∧ (topCmds exRes.patch).length = 2 ∧ exRes.diff.length = 2) ∧
    ((leafCmds exRes.patch).foldl (fun k c => execLeaf env rules c k) old.kids).map (·.1) =
      ["ntp 1.1.1.1", "user bob"] := by
  decide +kernel

theorem input_evaluated :
    ((old.kids.filter fun e => slotOf rules e.1 == some s).map (·.1) = ["ntp 1.1.1.1"] ∧
      (new.kids.filter fun e => slotOf rules e.1 == some s) = []) ∧
    AclSlotClosed av acl env rules old new s ∧
    ((old.kids ++ new.kids).filter (fun e => aclCovers av acl e.1)).map (·.1) = ["user alice", "user bob"] ∧
    ¬ AclSlotClosed av (Acl.compileAcl [[.mk "user *" false false [false] 0 ["gen"] [],
      .mk "ntp *" false false [false] 0 ["gen"] []]]) env rules old new s := by
  decide +kernel

theorem res_ok : deviceModeAcl Patch.runLogic v av acl rules [] old new = .ok exRes := by
  have h := run_evaluated.1
  -- `rw`, not `unfold`: checking the cast that `unfold` leaves, the kernel evaluates the run once more
  rw [exRes]
  cases hr : deviceModeAcl Patch.runLogic v av acl rules [] old new with
  | ok r => rfl
  | error e => rw [hr] at h; cases h

/-- the patch is not trivial -/
theorem patch_rows : (leafCmds exRes.patch).length = 2 ∧ (topCmds exRes.patch).length = 2 ∧ exRes.diff.length = 2 :=
  run_evaluated.2.1

theorem rawDetRow : RawDetRow rules := by decide +kernel
theorem noForceCommit : NoForceCommit rules := by decide +kernel

theorem reverseInSlot : ReverseInSlot v env rules := fun _ _ _ hcl _ hc =>
  (ConvergeNested.Example.removal_simple
    (spec := [(userRule, 'u', "ser".toList, true), (ntpRule, 'n', "tp".toList, true)]) rfl (by decide +kernel)
    (by decide +kernel) hcl hc).2

theorem aclSlotClosed : AclSlotClosed av acl env rules old new s := input_evaluated.2.1

/-- the input-only hypothesis is not vacuous: the ACL matches lines of both configurations -/
example : ((old.kids ++ new.kids).filter (fun e => aclCovers av acl e.1)).map (·.1) =
    ["user alice", "user bob"] := input_evaluated.2.2.1

/-- without the ACL's restriction the hypothesis fails, as it must (`ntp 1.1.1.1` is removed then) -/
example : ¬ AclSlotClosed av (Acl.compileAcl [[.mk "user *" false false [false] 0 ["gen"] [],
    .mk "ntp *" false false [false] 0 ["gen"] []]]) env rules old new s := input_evaluated.2.2.2

theorem outside_flat_of_closed_instance (res : Api.Result)
    (h : deviceModeAcl Patch.runLogic v av acl rules [] old new = .ok res) (kids : List (String × Cfg)) :
    ((leafCmds res.patch).foldl (fun k c => execLeaf env rules c k) kids).filter
        (fun e => slotOf rules e.1 == some s) = kids.filter (fun e => slotOf rules e.1 == some s) :=
  outside_cmds h reverseInSlot rawDetRow (.inl noForceCommit) (diff_outside_of_closed h aclSlotClosed)
    (leafCmds_subset _) kids

theorem noRewrite : NoRewrite rules := by decide +kernel

theorem outside_flat_applyCmds_instance (res : Api.Result)
    (h : deviceModeAcl Patch.runLogic v av acl rules [] old new = .ok res) :
    ((applyCmds env rules (flatPaths res.patch) old).kids.filter (fun e => slotOf rules e.1 == some s)).map (·.1) =
      ["ntp 1.1.1.1"] := by
  rw [applyCmds_flatPaths env rules noRewrite, outside_cmds h reverseInSlot rawDetRow (.inl noForceCommit)
    (diff_outside_of_closed h aclSlotClosed) (fun _ hc => hc) old.kids]
  exact input_evaluated.1.1

/-- the whole device after the patch -/
example : ((leafCmds exRes.patch).foldl (fun k c => execLeaf env rules c k) old.kids).map (·.1) =
    ["ntp 1.1.1.1", "user bob"] := run_evaluated.2.2

/-- why `addresses` has its second clause -/
example :
    let env : Env := { reverse := "no", exits := [] }
    let rules : PRules := ⟨[.mk "no shutdown" false (mkAttrs "no shutdown") (some ([], [])),
      .mk "shutdown" false (mkAttrs "shutdown") (some ([], []))], []⟩
    slotOf rules "no shutdown" ≠ some ("shutdown", []) ∧ addresses env rules "no shutdown" ("shutdown", []) = true ∧
    ((execLeaf env rules "no shutdown" [("shutdown", .mk [])]).filter
      (fun e => slotOf rules e.1 == some ("shutdown", []))).map (·.1) = [] := by
  decide +kernel

end Example

end Annet.AclDiff.OutsideFlat
