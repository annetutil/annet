/-
The vendor theorems of C11: `_process_vlandb` of either vendor, on the leaf lines of one key, is rewritten into its two
lists of `pieces` (`hPart_eq`, `cPart_eq`) and meets `Changes` (`exact_pieces`), or sends the device's clear command
(`changes_clear`); `diff_rows` says that the changed lines suffice.
-/
import AnnetModel.Lemmas.VlanRanges
import AnnetModel.Lemmas.VlanDevice

namespace Annet.Vlan.Lemmas
open Annet.Vlan Annet.Vlan.Spec

theorem emits_mono {ρ χ : Type} {res : Except Err (List (Yield ρ χ))} {P Q : List ρ → Prop} (hPQ : ∀ cs, P cs → Q cs)
    (h : ∃ ys, res = .ok ys ∧ ∀ cs, cs.Perm (ys.map (·.row)) → P cs) :
    ∃ ys, res = .ok ys ∧ ∀ cs, cs.Perm (ys.map (·.row)) → Q cs :=
  h.imp fun _ => And.imp_right fun h cs hc => hPQ cs (h cs hc)

theorem mem_setOf {ρ : Type} (vl : ρ → List Nat) (rows : List ρ) (v : Nat) :
    v ∈ setOf vl rows ↔ ∃ r ∈ rows, v ∈ vl r :=
  List.mem_flatMap

section Rows
variable {ρ : Type} [BEq ρ] [LawfulBEq ρ]

theorem diff_rows (vl : ρ → List Nat) (a b : List ρ) (ha : Disj vl a) (v : Nat) :
    v ∈ sdiff (setOf vl (a.filter fun x => !b.contains x)) (setOf vl (b.filter fun x => !a.contains x))
      ↔ v ∈ setOf vl a ∧ v ∉ setOf vl b := by
  simp only [mem_sdiff, mem_setOf, List.mem_filter, List.contains_eq_mem, Bool.not_eq_true', decide_eq_false_iff_not]
  constructor
  · rintro ⟨⟨r, hr, hv⟩, hn⟩
    refine ⟨⟨r, hr.1, hv⟩, ?_⟩
    rintro ⟨r', hr', hv'⟩
    by_cases h : r' ∈ a
    · exact ha r hr.1 r' h (fun e => hr.2 (e ▸ hr')) v hv hv'
    · exact hn ⟨r', ⟨hr', h⟩, hv'⟩
  · rintro ⟨⟨r, hr, hv⟩, hn⟩
    exact ⟨⟨r, ⟨hr, fun h => hn ⟨r, h, hv⟩⟩, hv⟩, fun ⟨r', hr', hv'⟩ => hn ⟨r', hr'.1, hv'⟩⟩

omit [LawfulBEq ρ] in
theorem filter_split_nil (a b : List ρ) (h1 : a.filter (fun x => !b.contains x) = [])
    (h2 : a.filter (fun x => b.contains x) = []) : a = [] := by
  rw [List.filter_eq_nil_iff] at h1 h2
  exact List.eq_nil_iff_forall_not_mem.mpr fun x hx => h1 x hx (by simpa using h2 x hx)

end Rows

section Emit
variable {ρ : Type} {interp : ρ → Option Act} {Sold Snew : List Nat}

/-- Both vendors' `_process_vlandb` end in this list: one removing command per piece of `R`, one adding command per
piece of `A`.  With `R = Sold \ Snew` and `A = Snew \ Sold` it is exact in every order and never drops a common id. -/
theorem exact_pieces {χ : Type} {split : List (Nat × Nat) → List (List (Nat × Nat))} (hs : Splits split) (tiny : Bool)
    {R A : List Nat} {yR yA : List (Nat × Nat) → Yield ρ χ}
    (hR : R ≠ [] → ∀ c, c ≠ [] → (∀ r ∈ c, r.1 ≤ r.2) → interp (yR c).row = some (.rem (ids c)))
    (hA : A ≠ [] → ∀ c, c ≠ [] → (∀ r ∈ c, r.1 ≤ r.2) → interp (yA c).row = some (.add (ids c)))
    (hRs : ∀ v, v ∈ R ↔ v ∈ Sold ∧ v ∉ Snew) (hAs : ∀ v, v ∈ A ↔ v ∈ Snew ∧ v ∉ Sold) :
    ∀ cs, cs.Perm (((pieces split tiny R).map yR ++ (pieces split tiny A).map yA).map (·.row)) →
      EndsIn interp cs Sold Snew ∧ KeepsCommon interp cs Sold Snew := by
  obtain ⟨hP, hPm⟩ := pieces_spec hs tiny R
  obtain ⟨hQ, hQm⟩ := pieces_spec hs tiny A
  have hR' : ∀ c ∈ pieces split tiny R, interp (((·.row) ∘ yR) c) = some (.rem (ids c)) :=
    fun c hc => hR (hP c hc).1 c (hP c hc).2.1 (hP c hc).2.2
  have hA' : ∀ c ∈ pieces split tiny A, interp (((·.row) ∘ yA) c) = some (.add (ids c)) :=
    fun c hc => hA (hQ c hc).1 c (hQ c hc).2.1 (hQ c hc).2.2
  rw [List.map_append, List.map_map, List.map_map]
  refine Changes.exact ⟨fun c hc => ?_, fun v => ?_⟩
  · rcases List.mem_append.mp hc with h | h <;> obtain ⟨i, hi, rfl⟩ := List.mem_map.mp h
    · exact ⟨_, hR' i hi⟩
    · exact ⟨_, hA' i hi⟩
  · -- what is removed is exactly `R`, what is added exactly `A`
    simp only [Rem, Add, does_append, does_map hR', does_map hA', rems, adds, and_false, exists_false,
      or_false, false_or, ← hPm, ← hQm, hRs, hAs]
    exact ⟨And.right, And.intro, And.left, And.intro⟩

end Emit

theorem interpH_rem (d : HDev) (toks : HRow) (hne : toks ≠ [])
    (hclear : d.clearCmd ≠ some (.w "undo" :: (d.pfx ++ toks))) :
    interpH d (.w "undo" :: (d.pfx ++ toks)) = (readH toks).map .rem := by
  simp [interpH, hclear.symm, hne]

theorem interpH_add (d : HDev) (toks : HRow) (hne : toks ≠ [])
    (hhead : (d.pfx ++ toks).head? ≠ some (.w "undo"))
    (hclear : d.clearCmd ≠ some (d.pfx ++ toks)) :
    interpH d (d.pfx ++ toks) = (readH toks).map .add := by
  unfold interpH
  rw [if_neg hclear.symm]
  cases hc : d.pfx ++ toks with
  | nil => exact absurd (List.append_eq_nil_iff.mp hc).2 hne
  | cons t rest =>
    have ht : t ≠ .w "undo" := fun e => hhead (by rw [hc, e]; rfl)
    simp [ht, ← hc, hne]

theorem setOf_cons {ρ : Type} (vl : ρ → List Nat) (r : ρ) (rs : List ρ) : setOf vl (r :: rs) = vl r ++ setOf vl rs :=
  List.flatMap_cons

theorem setOf_nil {ρ : Type} (vl : ρ → List Nat) : setOf vl ([] : List ρ) = [] := rfl

theorem sdiff_nil_left (b : List Nat) : sdiff [] b = [] := rfl

theorem rows_ne_nil {ρ : Type} (vl : ρ → List Nat) {rows : List ρ} {b : List Nat}
    (h : sdiff (setOf vl rows) b ≠ []) : rows ≠ [] := by
  rintro rfl; exact h rfl

theorem hParseActions_ok (p : HRow) (vl : HRow → List Nat) (rows : List HRow)
    (h : ∀ r ∈ rows, hParseVlancfg r = .ok (p, vl r)) :
    hParseActions rows = .ok (if rows.isEmpty then none else some p, setOf vl rows) := by
  induction rows with
  | nil => rfl
  | cons r rs ih =>
    simp only [hParseActions, h r List.mem_cons_self, ih fun r hr => h r (List.mem_cons_of_mem _ hr),
      except_bind_ok, except_pure, setOf_cons]
    cases rs <;> rfl

theorem head?_append_ne {p t : HRow} {x : HTok} (hp : p.head? ≠ some x) (ht : t.head? ≠ some x) :
    (p ++ t).head? ≠ some x := by
  cases p with
  | nil => exact ht
  | cons a as => exact hp

theorem numTo_head_ne_undo {t : HRow} (h : ∀ x ∈ t, x.isNumTo = true) : t.head? ≠ some (.w "undo") := by
  cases t with
  | nil => nofun
  | cons a as =>
    intro e
    cases Option.some.inj e
    cases h _ List.mem_cons_self

/-- the command that deletes the whole list: `undo … all` (`multi_all`), the rule's reverse command (`single`) -/
theorem hLogic_clear (m : HMode) (hm : m ≠ .multi) (rev : HRow) (d : Buckets HRow) (haff : d.affected = [])
    (hR : d.removed ≠ []) (hA : d.added = []) (hU : d.unchanged = []) (hlen : m = .single → d.removed.length ≤ 1) :
    hLogic m rev d = .ok [⟨false, if m = .multiAll then rev ++ [.w "all"] else rev, none⟩] := by
  cases m with
  | multi => exact absurd rfl hm
  | multiAll => simp [hLogic, hProcess, haff, hA, hU, hR]
  | single => simp [hLogic, hProcess, haff, hA, hU, hR, Nat.not_lt.mpr (hlen rfl)]

theorem huawei_single_refuses (rev : HRow) (old new : List HRow)
    (hlen : 1 < (leafBuckets old new).removed.length ∨ 1 < (leafBuckets old new).added.length) :
    hLeaf .single rev old new = .error .assertion := by
  have g : (decide ((leafBuckets old new).added.length > 1) || decide ((leafBuckets old new).removed.length > 1)) = true := by
    rcases hlen with h | h <;> simp [h]
  have haff : (leafBuckets old new).affected = [] := rfl
  simp only [hLeaf, hLogic, hProcess, haff, List.isEmpty_nil, Bool.not_true, Bool.false_eq_true, if_false, Bool.not_false,
    Bool.true_and, g, if_true]

section Huawei
/- `hrevAll`: the reverse command of a `multi_all` rule is `undo <pfx>`.  `hrevSingle`: the reverse command of a `single`
rule (`undo instance 1`) is no add or remove command of the list, so the device cannot take it for one. -/
variable (m : HMode) (p rev : HRow) (old new : List HRow) (vl : HRow → List Nat)
  (hp : p.head? ≠ some (.w "undo"))
  (hparse : ∀ r, r ∈ old ∨ r ∈ new → hParseVlancfg r = .ok (p, vl r))
  (hold : Disj vl old) (hnew : Disj vl new)
  (hrevAll : m = .multiAll → rev = .w "undo" :: p)
  (hrevSingle : m = .single → ∀ t, rev ≠ p ++ t ∧ rev ≠ .w "undo" :: (p ++ t))
include hp hparse hold hnew hrevAll hrevSingle

theorem huawei_core (hsingle : m = .single →
      (leafBuckets old new).removed.length ≤ 1 ∧ (leafBuckets old new).added.length ≤ 1) :
    ∃ ys, hLeaf m rev old new = .ok ys ∧
      ∀ cs, cs.Perm (ys.map (·.row)) →
        EndsIn (interpH (hDevice m p rev)) cs (setOf vl old) (setOf vl new) ∧
        KeepsCommon (interpH (hDevice m p rev)) cs (setOf vl old) (setOf vl new) := by
  have haff : (leafBuckets old new).affected = [] := rfl
  by_cases hclr : m ≠ .multi ∧ (leafBuckets old new).removed ≠ [] ∧ (leafBuckets old new).added = [] ∧
      (leafBuckets old new).unchanged = []
  · -- nothing of the key stays, and the one command sent is the device's clear command
    obtain ⟨hm, hR, hA, hU⟩ := hclr
    refine ⟨_, hLogic_clear m hm rev _ rfl hR hA hU fun h => (hsingle h).1, ?_⟩
    rw [filter_split_nil new old hA hU]
    refine (changes_clear ?_ _).exact
    cases m with
    | multi => exact absurd rfl hm
    | multiAll => simp [interpH, hDevice, hrevAll rfl]
    | single => simp [interpH, hDevice]
  · -- otherwise: one `undo` command per piece of the ids that go, one plain command per piece of the ids that come
    have hb : m ≠ .multi → (!(leafBuckets old new).removed.isEmpty && (leafBuckets old new).added.isEmpty
        && (leafBuckets old new).unchanged.isEmpty) = false := fun hm => by
      rw [Bool.eq_false_iff]; intro h
      simp only [Bool.and_eq_true, Bool.not_eq_true', List.isEmpty_eq_false_iff, List.isEmpty_iff] at h
      exact hclr ⟨hm, h.1.1, h.1.2, h.2⟩
    have hg : m = .single → (decide ((leafBuckets old new).added.length > 1) ||
        decide ((leafBuckets old new).removed.length > 1)) = false := fun h => by
      have := hsingle h; simp; omega
    have hclear : ∀ c : List (Nat × Nat), c ≠ [] →
        (hDevice m p rev).clearCmd ≠ some (p ++ renderHs c) ∧
        (hDevice m p rev).clearCmd ≠ some (.w "undo" :: (p ++ renderHs c)) := fun c hne => by
      cases m with
      | multi => exact ⟨nofun, nofun⟩
      | single => exact ⟨fun h => (hrevSingle rfl _).1 (Option.some.inj h), fun h => (hrevSingle rfl _).2 (Option.some.inj h)⟩
      | multiAll =>
        constructor
        · intro h
          exact head?_append_ne hp (numTo_head_ne_undo (renderHs_numTo c)) (congrArg List.head? (Option.some.inj h)).symm
        · intro h
          have := List.append_cancel_left (List.cons.inj (Option.some.inj h)).2
          cases renderHs_numTo c (.w "all") (by rw [← this]; exact List.mem_singleton_self _)
    have hU : ∀ c : List (Nat × Nat), c ≠ [] → (∀ r ∈ c, r.1 ≤ r.2) →
        interpH (hDevice m p rev) (.w "undo" :: (p ++ renderHs c)) = some (.rem (ids c)) := fun c hne hwf =>
      (interpH_rem (hDevice m p rev) _ (renderHs_ne_nil hne) (hclear c hne).2).trans (congrArg _ (readH_render c hwf))
    have hP : ∀ c : List (Nat × Nat), c ≠ [] → (∀ r ∈ c, r.1 ≤ r.2) →
        interpH (hDevice m p rev) (p ++ renderHs c) = some (.add (ids c)) := fun c hne hwf =>
      (interpH_add (hDevice m p rev) _ (renderHs_ne_nil hne) (head?_append_ne hp (numTo_head_ne_undo (renderHs_numTo c)))
        (hclear c hne).1).trans (congrArg _ (readH_render c hwf))
    have hA' : ∀ r ∈ (leafBuckets old new).added, hParseVlancfg r = .ok (p, vl r) :=
      fun r hr => hparse r (.inr (List.mem_filter.mp hr).1)
    have hR' : ∀ r ∈ (leafBuckets old new).removed, hParseVlancfg r = .ok (p, vl r) :=
      fun r hr => hparse r (.inl (List.mem_filter.mp hr).1)
    -- one piece for `single`, chunks of 10 otherwise: `by assumption` below takes the one that fits the mode
    have s1 : Splits fun l => [l] := splits_one
    have s10 : Splits fun l => chunked 10 l := splits_chunked (by decide)
    cases m <;>
      simp only [hLeaf, hLogic, hProcess, haff, List.isEmpty_nil, Bool.not_true, Bool.not_false,
        Bool.false_and, Bool.and_true, Bool.and_false, hb, hg, ne_eq, reduceCtorEq, not_false_eq_true,
        Bool.false_eq_true, if_false, if_true,
        hParseActions_ok p vl _ hA', hParseActions_ok p vl _ hR', except_bind_ok, hPart_eq, except_pure] <;>
      exact ⟨_, rfl, exact_pieces (by assumption) true
        (fun hX c hne hwf => by
          simp only [List.isEmpty_eq_false_iff.mpr (rows_ne_nil vl hX), Bool.false_eq_true, if_false, pfxH]
          exact hU c hne hwf)
        (fun hX c hne hwf => by
          simp only [List.isEmpty_eq_false_iff.mpr (rows_ne_nil vl hX), Bool.false_eq_true, if_false, pfxH]
          exact hP c hne hwf)
        (diff_rows vl old new hold) (diff_rows vl new old hnew)⟩

theorem huawei_total :
    (∃ ys, hLeaf m rev old new = .ok ys ∧
      ∀ cs, cs.Perm (ys.map (·.row)) →
        EndsIn (interpH (hDevice m p rev)) cs (setOf vl old) (setOf vl new) ∧
        KeepsCommon (interpH (hDevice m p rev)) cs (setOf vl old) (setOf vl new)) ∨
    (m = .single ∧
      (1 < (leafBuckets old new).removed.length ∨ 1 < (leafBuckets old new).added.length) ∧
      hLeaf m rev old new = .error .assertion) := by
  by_cases hs : m = .single ∧
      (1 < (leafBuckets old new).removed.length ∨ 1 < (leafBuckets old new).added.length)
  · obtain ⟨rfl, hlen⟩ := hs
    exact .inr ⟨rfl, hlen, huawei_single_refuses rev old new hlen⟩
  · exact .inl (huawei_core m p rev old new vl hp hparse hold hnew hrevAll hrevSingle
      fun h => ⟨Nat.le_of_not_lt fun h' => hs ⟨h, .inl h'⟩, Nat.le_of_not_lt fun h' => hs ⟨h, .inr h'⟩⟩)

end Huawei

theorem huawei_sound (m : HMode) (p rev : HRow) (old new : List HRow) (vl : HRow → List Nat)
    (hp : p.head? ≠ some (.w "undo"))
    (hparse : ∀ r, r ∈ old ∨ r ∈ new → hParseVlancfg r = .ok (p, vl r))
    (hold : Disj vl old) (hnew : Disj vl new)
    (hrevAll : m = .multiAll → rev = .w "undo" :: p)
    (hrevSingle : m = .single → ∀ t, rev ≠ p ++ t ∧ rev ≠ .w "undo" :: (p ++ t))
    (ys : List (Yield HRow Unit)) (hys : hLeaf m rev old new = .ok ys) :
    ∀ cs, cs.Perm (ys.map (·.row)) →
      EndsIn (interpH (hDevice m p rev)) cs (setOf vl old) (setOf vl new) ∧
      KeepsCommon (interpH (hDevice m p rev)) cs (setOf vl old) (setOf vl new) := by
  rcases huawei_total m p rev old new vl hp hparse hold hnew hrevAll hrevSingle with
    ⟨ys', h1, h2⟩ | ⟨_, _, he⟩
  · rw [h1] at hys; cases hys; exact h2
  · rw [he] at hys; cases hys

theorem cParseActionsGo_leaf {χ : Type} (p : CRow) (vl : CRow → List Nat) (rows : List CRow)
    (h : ∀ r ∈ rows, cParseVlancfg r = .ok (p, vl r)) (q : Option CRow) (acc : List Nat) :
    cParseActionsGo (rows.map (leafAction (χ := χ))) ⟨q, acc, []⟩
      = .ok ⟨if rows.isEmpty then q else some p, acc ++ setOf vl rows, []⟩ := by
  induction rows generalizing q acc with
  | nil => simp [cParseActionsGo, setOf]
  | cons r rs ih =>
    simp only [List.map_cons, cParseActionsGo, leafAction, h r List.mem_cons_self, except_bind_ok, except_pure]
    rw [ih (fun r hr => h r (List.mem_cons_of_mem _ hr)) (some p) (acc ++ vl r)]
    simp [setOf_cons, List.append_assoc]

theorem cParseActions_leaf {χ : Type} (p : CRow) (vl : CRow → List Nat) (rows : List CRow)
    (h : ∀ r ∈ rows, cParseVlancfg r = .ok (p, vl r)) :
    cParseActions (rows.map (leafAction (χ := χ)))
      = .ok ⟨if rows.isEmpty then none else some p, setOf vl rows, []⟩ :=
  cParseActionsGo_leaf p vl rows h none []

theorem sdiff_nil_right (a : List Nat) : sdiff a [] = a := by
  simp [sdiff]

theorem interpC_rem (t : CTok) (ts : CRow) (e : Bool) (parts : List (List Nat)) (hne : parts ≠ []) (ht : t ≠ .w "no") :
    interpC ⟨t :: ts, e⟩ ([.w "no"] ++ (t :: ts) ++ (if e then [CTok.w "remove"] else []) ++ [CTok.spec parts])
      = (readC parts).map .rem := by
  cases e <;> simp [interpC, readC1, hne, Ne.symm ht]

theorem interpC_add (t : CTok) (ts : CRow) (e : Bool) (parts : List (List Nat)) (hne : parts ≠ []) (ht : t ≠ .w "no") :
    interpC ⟨t :: ts, e⟩ ((t :: ts) ++ (if e then [CTok.w "add"] else []) ++ [CTok.spec parts])
      = (readC parts).map .add := by
  cases e <;> simp [interpC, readC1, hne, ht]

/-- the prefix choice of cisco/vlandb.py:28-31 -/
theorem pfx_choice (t : CTok) (ts : CRow) (a r : Bool) :
    pickPfx (if a then (none : Option CRow) else some (t :: ts)) (if r then none else some (t :: ts))
      = if a && r then none else some (t :: ts) := by
  cases a <;> cases r <;> rfl

theorem cProcess_none {χ : Type} (b : Buckets CRow) (catalyst explicit : Bool) (chunk : Nat) (t : CTok) (ts : CRow)
    (vl : CRow → List Nat)
    (haff : b.affected = [])
    (hA : ∀ r ∈ b.added, cParseVlancfg r = .ok (t :: ts, vl r))
    (hR : ∀ r ∈ b.removed, cParseVlancfg r = .ok (t :: ts, vl r))
    (hn : b.added.length = 1 ∧ setOf vl b.added = []) :
    cProcess (χ := χ) (b.map leafAction) catalyst explicit chunk = .ok [⟨true, t :: ts ++ [.w "none"], none⟩] := by
  have hne : b.added ≠ [] := fun e => by rw [e] at hn; cases hn.1
  simp [cProcess, Buckets.map, haff, cParseActions_leaf (t :: ts) vl _ hA, cParseActions_leaf (t :: ts) vl _ hR,
    hn.1, hn.2, hne, pfxC, pickPfx]

section Cisco
variable {χ : Type} (catalyst : Bool) (p : CRow) (old new : List CRow) (vl : CRow → List Nat)
  (hp0 : p ≠ []) (hp : p.head? ≠ some (.w "no"))
  (hparse : ∀ r, r ∈ old ∨ r ∈ new → cParseVlancfg r = .ok (p, vl r))
  (hold : Disj vl old) (hnew : Disj vl new)
  (hnone : ∀ r ∈ new, vl r = [] → new = [r])
include hp0 hp hparse hold hnew hnone

theorem cProcess_core (explicit : Bool) (chunk : Nat) (hchunk : 0 < chunk) :
    ∃ ys, cProcess (χ := χ) ((leafBuckets old new).map leafAction) catalyst explicit chunk = .ok ys ∧
      ∀ cs, cs.Perm (ys.map (·.row)) →
        EndsIn (interpC ⟨p, explicit⟩) cs (setOf vl old) (setOf vl new) ∧
        KeepsCommon (interpC ⟨p, explicit⟩) cs (setOf vl old) (setOf vl new) := by
  obtain ⟨t, ts, rfl⟩ := List.exists_cons_of_ne_nil hp0
  have ht : t ≠ .w "no" := fun e => hp (by rw [e]; rfl)
  have hA : ∀ r ∈ (leafBuckets old new).added, cParseVlancfg r = .ok (t :: ts, vl r) :=
    fun r hr => hparse r (.inr (List.mem_filter.mp hr).1)
  have hR : ∀ r ∈ (leafBuckets old new).removed, cParseVlancfg r = .ok (t :: ts, vl r) :=
    fun r hr => hparse r (.inl (List.mem_filter.mp hr).1)
  by_cases hn : (leafBuckets old new).added.length = 1 ∧ setOf vl (leafBuckets old new).added = []
  · refine ⟨_, cProcess_none (χ := χ) (leafBuckets old new) catalyst explicit chunk t ts vl rfl hA hR hn, ?_⟩
    -- the one added line reads as the empty set: it is `… none`, which stands alone
    obtain ⟨a, ha⟩ := List.length_eq_one_iff.mp hn.1
    have hva : vl a = [] := by have := hn.2; rwa [ha, setOf_cons, setOf_nil, List.append_nil] at this
    have hnew0 : setOf vl new = [] := by
      rw [hnone a (List.mem_filter.mp (ha ▸ List.mem_singleton_self a : a ∈ (leafBuckets old new).added)).1 hva,
        setOf_cons, hva]; rfl
    rw [hnew0]
    exact (changes_clear (by simp [interpC]) _).exact
  · -- otherwise: one `no` command per piece of the ids that go, one plain command per piece of the ids that come
    have haff : (leafBuckets old new).affected = [] := rfl
    have g : (decide ((List.map (leafAction (χ := χ)) (leafBuckets old new).added).length = 1) &&
        (setOf vl (leafBuckets old new).added).isEmpty) = false := by
      rw [List.length_map, Bool.and_eq_false_iff, decide_eq_false_iff_not, ← Bool.not_eq_true, List.isEmpty_iff]
      exact Classical.not_and_iff_not_or_not.mp hn
    have hmap : ∀ c : List (Nat × Nat), c ≠ [] → c.map renderC ≠ [] := fun c h => by simpa using h
    simp only [cProcess, Buckets.map, haff, List.map_nil, cParseActions_leaf (t :: ts) vl _ hA,
      cParseActions_leaf (t :: ts) vl _ hR, except_bind_ok, pfx_choice, g, Bool.false_eq_true, if_false]
    simp only [sdiff_nil_right, ite_self, cPart_eq, except_bind_ok, except_pure, List.nil_append, List.append_nil,
      norm, List.foldr_nil, List.filter_nil, List.filterMap_nil]
    refine ⟨_, rfl, exact_pieces (splits_chunked hchunk) catalyst (fun hX c hne hwf => ?_) (fun hX c hne hwf => ?_)
      (diff_rows vl old new hold) (diff_rows vl new old hnew)⟩
    · simp only [List.isEmpty_eq_false_iff.mpr (rows_ne_nil vl hX), Bool.and_false, Bool.false_eq_true, if_false, pfxC]
      exact (interpC_rem t ts explicit _ (hmap c hne) ht).trans (congrArg _ (readC_render c hwf))
    · simp only [List.isEmpty_eq_false_iff.mpr (rows_ne_nil vl hX), Bool.false_and, Bool.false_eq_true, if_false, pfxC]
      exact (interpC_add t ts explicit _ (hmap c hne) ht).trans (congrArg _ (readC_render c hwf))

/-- the two modes of the rulebook: `simple` (chunks of 15), `swtrunk` (explicit `add`/`remove`, chunks of 5) -/
theorem cisco_core (m : CMode) :
    ∃ ys, cLeaf (χ := χ) m catalyst old new = .ok ys ∧
      ∀ cs, cs.Perm (ys.map (·.row)) →
        EndsIn (interpC (cDevice m p)) cs (setOf vl old) (setOf vl new) ∧
        KeepsCommon (interpC (cDevice m p)) cs (setOf vl old) (setOf vl new) := by
  cases m with
  | simple => exact cProcess_core catalyst p old new vl hp0 hp hparse hold hnew hnone false 15 (by omega)
  | swtrunk => exact cProcess_core catalyst p old new vl hp0 hp hparse hold hnew hnone true 5 (by omega)

end Cisco

/-- NX-OS keeps a member's `switchport` rows: membership does not matter for the VLAN logic -/
theorem cLeafIface_nexus {χ : Type} (m : CMode) (catalyst oldMember newMember : Bool) (old new : List CRow) :
    cLeafIface (χ := χ) .nexus m catalyst oldMember newMember old new = cLeaf m catalyst old new := by
  simp [cLeafIface, memberRows, switchportAllowedOnMember]

end Annet.Vlan.Lemmas
