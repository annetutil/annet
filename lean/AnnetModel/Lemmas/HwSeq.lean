/-
C18, the sequences of the device database (`Model/Hw.lean`, db.py): prefixes, contiguous slices and variants by
membership; the counter behind `allowed`; `lookup` (that of `Lemmas/Assoc`, `lookup_eq`); the dict of `_make_allowed_by_seq` read at a key (`tableGet_eq`).
-/
import AnnetModel.Model.Hw
import AnnetModel.Lemmas.Assoc

namespace Annet.Hw.Lemmas
open Annet.Hw

variable {α : Type} {ρ : Type}

-- core `List.eq_nil_or_concat` in append form: what follows a case split here (`seqSubs_concat`,
-- `List.prefix_concat_iff`, `List.dropLast_concat`) is stated for `l ++ [a]`
theorem eq_nil_or_snoc {β : Type} (l : List β) : l = [] ∨ ∃ init z, l = init ++ [z] := by
  simpa only [List.concat_eq_append] using List.eq_nil_or_concat l

theorem mem_prefixes {x l : List α} : x ∈ prefixes l ↔ x <+: l := by
  induction l generalizing x with
  | nil => simp [prefixes]
  | cons a l ih => simp [prefixes, List.prefix_cons_iff, ih, and_comm, eq_comm]

theorem mem_neInfixes {x l : List α} : x ∈ neInfixes l ↔ x ≠ [] ∧ x <:+: l := by
  induction l generalizing x with
  | nil => simp [neInfixes]
  | cons a l ih =>
    simp only [neInfixes, List.mem_append, List.mem_map, mem_prefixes, List.infix_cons_iff, ih, List.prefix_cons_iff]
    grind

theorem mem_infixes {x l : List α} : x ∈ infixes l ↔ x <:+: l := by
  simp only [infixes, List.mem_cons, mem_neInfixes]
  grind

theorem mem_variants {v s : List α} :
    v ∈ variants s ↔ ∃ pre mid post z, s = pre ++ mid ++ post ++ [z] ∧ v = mid ++ [z] := by
  rcases eq_nil_or_snoc s with rfl | ⟨init, z, rfl⟩
  · simp [variants]
  · simp only [variants, List.getLast?_concat, List.dropLast_concat, List.mem_map,
      mem_infixes, List.IsInfix]
    constructor
    · rintro ⟨mid, ⟨pre, post, rfl⟩, rfl⟩
      exact ⟨pre, mid, post, z, rfl, rfl⟩
    · rintro ⟨pre, mid, post, z', h, rfl⟩
      obtain ⟨rfl, hz⟩ := List.append_inj' h rfl
      obtain rfl : z = z' := by simpa using hz
      exact ⟨mid, ⟨pre, post, rfl⟩, rfl⟩

theorem variant_prefix {v s q : List α} (hv : v ∈ variants s) (hq : q <+: v) (hne : q ≠ [])
    (hlt : q ≠ v) : ∃ s', s' <+: s ∧ s' ≠ [] ∧ s' ≠ s ∧ q ∈ variants s' := by
  obtain ⟨pre, mid, post, z, rfl, rfl⟩ := mem_variants.mp hv
  rcases List.prefix_concat_iff.mp hq with rfl | ⟨r, rfl⟩
  · exact absurd rfl hlt
  rcases eq_nil_or_snoc q with rfl | ⟨q₀, y, rfl⟩
  · exact absurd rfl hne
  refine ⟨pre ++ q₀ ++ [y], ⟨r ++ post ++ [z], by simp⟩, by simp, fun h => ?_,
    mem_variants.mpr ⟨pre, q₀, [], y, by simp, rfl⟩⟩
  simpa using congrArg List.length h

theorem mem_seqSubs {x s : List α} : x ∈ seqSubs s ↔ x ≠ [] ∧ x <+: s := by
  induction s generalizing x with
  | nil => simp [seqSubs]
  | cons a s ih =>
    simp only [seqSubs, List.mem_cons, List.mem_map, ih, List.prefix_cons_iff]
    grind

theorem self_mem_seqSubs {s : List α} (h : s ≠ []) : s ∈ seqSubs s :=
  mem_seqSubs.mpr ⟨h, List.prefix_refl s⟩

theorem seqSubs_prefix {q p x : List α} (h : q <+: p) (hx : x ∈ seqSubs q) : x ∈ seqSubs p :=
  mem_seqSubs.mpr ⟨(mem_seqSubs.mp hx).1, (mem_seqSubs.mp hx).2.trans h⟩

theorem seqSubs_concat (s : List α) (a : α) : seqSubs (s ++ [a]) = seqSubs s ++ [s ++ [a]] := by
  induction s with
  | nil => rfl
  | cons b s ih => simp [seqSubs, ih]


variable [DecidableEq α]

theorem variantCount_eq (P : List (List α × ρ)) (v : List α) :
    variantCount P v = P.countP fun e => decide (v ∈ variants e.1) := by
  simp [variantCount, countIn, variantLists, List.countP_eq_length_filter, List.filter_map, Function.comp_def]

theorem mem_allowed {P : List (List α × ρ)} {s v : List α} :
    v ∈ allowed P s ↔ v ∈ variants s ∧ variantCount P v ≤ 1 := by
  simp [allowed, allowedIn, variantCount]

theorem variantCount_pos {P : List (List α × ρ)} {v : List α} :
    1 ≤ variantCount P v ↔ ∃ e ∈ P, v ∈ variants e.1 := by
  simp [variantCount_eq, List.one_le_countP_iff]

theorem mem_allSequences {P : List (List α × ρ)} {v : List α} :
    v ∈ allSequences P ↔ variantCount P v = 1 := by
  have := variantCount_pos (P := P) (v := v)
  simp only [allSequences, List.mem_flatMap, mem_allowed]
  grind

theorem lookup_eq (P : List (List α × ρ)) (s : List α) : lookup P s = Assoc.lookup s P := by
  induction P with
  | nil => rfl
  | cons e rest ih =>
    obtain ⟨k, v⟩ := e
    simp only [lookup, Assoc.lookup, ih]

theorem lookup_some {P : List (List α × ρ)} {s : List α} {r : ρ} (h : lookup P s = some r) :
    (s, r) ∈ P :=
  Assoc.mem_of_lookup (lookup_eq P s ▸ h)

theorem lookup_isSome {P : List (List α × ρ)} {e : List α × ρ} (he : e ∈ P) : (lookup P e.1).isSome = true :=
  Option.isSome_iff_ne_none.mpr fun h =>
    Assoc.lookup_eq_none_iff.mp (lookup_eq P e.1 ▸ h) (List.mem_map_of_mem he)

theorem tableGet_eq {P : List (List α × ρ)} {s : List α} (h : lookup P s ≠ none) :
    tableGet (allowedTable P) s = allowed P s := by
  unfold tableGet allowedTable allowed
  generalize variantLists P = vs
  induction P with
  | nil => simp [lookup] at h
  | cons e rest ih =>
    simp only [List.map_cons, assocGet]
    by_cases he : e.1 = s
    · simp [he]
    · simp only [he, if_false]
      apply ih
      simpa [lookup, he] using h

theorem tableGet_mem {P : List (List α × ρ)} {e : List α × ρ} (he : e ∈ P) :
    tableGet (allowedTable P) e.1 = allowed P e.1 :=
  tableGet_eq fun h => by simpa [h] using lookup_isSome he

section
-- kept results whose statements carry instance binders their proofs do not use
variable {α : Type} [DecidableEq α] {ρ : Type} [DecidableEq ρ]
set_option linter.unusedSectionVars false

theorem variants_ne_nil {v s : List α} (h : v ∈ variants s) : v ≠ [] := by
  obtain ⟨_, _, _, _, _, rfl⟩ := mem_variants.mp h
  simp

theorem self_mem_variants {s : List α} (h : s ≠ []) : s ∈ variants s := by
  rcases eq_nil_or_snoc s with rfl | ⟨init, z, rfl⟩
  · exact absurd rfl h
  · exact mem_variants.mpr ⟨[], init, [], z, by simp, rfl⟩

theorem length_seqSubs (s : List α) : (seqSubs s).length = s.length := by
  induction s with
  | nil => rfl
  | cons a s ih => simp [seqSubs, ih]

theorem entry_unique {P : List (List α × ρ)} {e₁ e₂ : List α × ρ} {v : List α}
    (h₁ : e₁ ∈ P) (h₂ : e₂ ∈ P) (v₁ : v ∈ variants e₁.1) (v₂ : v ∈ variants e₂.1)
    (hc : variantCount P v ≤ 1) : e₁ = e₂ := by
  rw [variantCount_eq, List.countP_eq_length_filter] at hc
  have m₁ : e₁ ∈ P.filter fun e => decide (v ∈ variants e.1) := by simp [h₁, v₁]
  have m₂ : e₂ ∈ P.filter fun e => decide (v ∈ variants e.1) := by simp [h₂, v₂]
  generalize P.filter (fun e => decide (v ∈ variants e.1)) = l at hc m₁ m₂
  match l, hc, m₁, m₂ with
  | [x], _, m₁, m₂ =>
    simp at m₁ m₂; rw [m₁, m₂]

end

end Annet.Hw.Lemmas
