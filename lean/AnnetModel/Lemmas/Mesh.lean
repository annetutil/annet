/-
The merge algebra (`Model/Mesh.lean`): values of one shape (`Shape`), `Equiv` as an equivalence, `_merge` field by field,
the leaf mergers.  `Mesh.lookup` is `Assoc.lookup`.
-/
import AnnetModel.Lemmas.MeshRel
import AnnetModel.Lemmas.Assoc

namespace Annet.Mesh

theorem keys_cons {κ α : Type} (k : κ) (v : α) (l : List (κ × α)) : keys ((k, v) :: l) = k :: keys l := rfl

theorem Table.forall_iff {T : Table → Prop} {Q : String → Merger → Prop} (hnil : T [])
    (hcons : ∀ f m t, T ((f, m) :: t) ↔ Q f m ∧ T t) (t : Table) : T t ↔ ∀ f m, (f, m) ∈ t → Q f m := by
  induction t with
  | nil => exact ⟨fun _ _ _ h => (nomatch h), fun _ => hnil⟩
  | cons p t ih =>
    obtain ⟨f', m'⟩ := p
    simp only [hcons, ih, List.mem_cons]
    constructor
    · rintro ⟨h1, h2⟩ f m (h | h)
      · cases h; exact h1
      · exact h2 f m h
    · intro h
      exact ⟨h f' m' (Or.inl rfl), fun f m hm => h f m (Or.inr hm)⟩

theorem Table.WF_mem {t : Table} (h : Table.WF t) {f : String} {m : Merger} (hm : (f, m) ∈ t) : m.WF :=
  (Table.forall_iff trivial (fun _ _ _ => Iff.rfl) t).mp h f m hm

theorem Table.Sym_mem {t : Table} (h : Table.Sym t) {f : String} {m : Merger} (hm : (f, m) ∈ t) : m.Sym :=
  (Table.forall_iff trivial (fun _ _ _ => Iff.rfl) t).mp h f m hm

theorem Table.DictFree_mem {t : Table} (h : Table.DictFree t) {f : String} {m : Merger} (hm : (f, m) ∈ t) :
    m.DictFree :=
  (Table.forall_iff trivial (fun _ _ _ => Iff.rfl) t).mp h f m hm

/-- induction principle for the nested inductive `Merger` (through `List (String × Merger)`), with the cases named
for `induction … using`: the recursor, with "every merger in the table" as the motive for tables -/
theorem Merger.ind {P : Merger → Prop}
    (forbidChange : P .forbidChange) (useFirst : P .useFirst) (useLast : P .useLast) (forbid : P .forbid)
    (unite : P .unite) (concat : P .concat)
    (merge : ∀ t, (∀ f m, (f, m) ∈ t → P m) → P (.merge t))
    (dictMerge : ∀ vm, P vm → P (.dictMerge vm)) : ∀ m, P m :=
  Merger.rec (motive_1 := P) (motive_2 := fun t => ∀ f m, (f, m) ∈ t → P m) (motive_3 := fun p => P p.2)
    forbidChange useFirst useLast forbid unite concat merge dictMerge (fun _ _ h => nomatch h)
    (fun _ _ ihp iht f m h => by
      cases h with
      | head => exact ihp
      | tail _ h' => exact iht f m h')
    (fun _ _ ih => ih)

theorem Table.ind_aux {P : Merger → Prop}
    (leaf_fc : P .forbidChange) (leaf_uf : P .useFirst) (leaf_ul : P .useLast) (leaf_fb : P .forbid)
    (leaf_un : P .unite) (leaf_cc : P .concat)
    (hmerge : ∀ t, (∀ f m, (f, m) ∈ t → P m) → P (.merge t))
    (hdict : ∀ vm, P vm → P (.dictMerge vm)) : ∀ (t : Table) f m, (f, m) ∈ t → P m :=
  fun _ _ m _ => Merger.ind leaf_fc leaf_uf leaf_ul leaf_fb leaf_un leaf_cc hmerge hdict m

theorem lookup_cons_self {κ α : Type} [DecidableEq κ] (k : κ) (v : α) (l : List (κ × α)) :
    lookup k ((k, v) :: l) = some v :=
  if_pos rfl

theorem lookup_cons_ne {κ α : Type} [DecidableEq κ] {k k' : κ} (h : k' ≠ k) (v : α) (l : List (κ × α)) :
    lookup k ((k', v) :: l) = lookup k l :=
  if_neg h

theorem lookup_eq {κ α : Type} [DecidableEq κ] (k : κ) (l : List (κ × α)) : lookup k l = Assoc.lookup k l := by
  induction l with
  | nil => rfl
  | cons p l ih => simp only [lookup, Assoc.lookup, ih]

theorem lookup_eq_none_iff {κ α : Type} [DecidableEq κ] {k : κ} {l : List (κ × α)} :
    lookup k l = none ↔ k ∉ keys l :=
  lookup_eq k l ▸ Assoc.lookup_eq_none_iff

theorem mem_of_lookup {κ α : Type} [DecidableEq κ] {k : κ} {v : α} {l : List (κ × α)} (h : lookup k l = some v) :
    (k, v) ∈ l :=
  Assoc.mem_of_lookup (lookup_eq k l ▸ h)

theorem lookup_of_mem {κ α : Type} [DecidableEq κ] {k : κ} {v : α} {l : List (κ × α)} (hnd : (keys l).Nodup)
    (h : (k, v) ∈ l) : lookup k l = some v :=
  lookup_eq k l ▸ Assoc.lookup_of_mem hnd h

theorem lookup_isSome_of_mem_keys {κ α : Type} [DecidableEq κ] {k : κ} {l : List (κ × α)} (h : k ∈ keys l) :
    ∃ v, lookup k l = some v :=
  Option.ne_none_iff_exists'.mp fun hl => lookup_eq_none_iff.mp hl h

/-! ### Values of one shape

`Unite`, `Concat`, `Merge()` and `DictMerge` each act on one shape of value (set, tuple, model, dict) and raise
`TypeError` on any other; the four equivalences compare two values of their shape by a relation on the contents and
everything else by `=`.  Stated once over a `Shape`, a law needs the cases "has the shape / has not" of each operand
instead of the constructors of `Val`. -/

/-- one constructor of `Val`, as a partial view and its inverse -/
structure Shape (β : Type) where
  view : Val → Option β
  make : β → Val
  view_make : ∀ c, view (make c) = some c
  eq_make : ∀ {x c}, view x = some c → x = make c

def Shape.set : Shape (List String) where
  view | .set a => some a | _ => none
  make := .set
  view_make _ := rfl
  eq_make {x _} h := by cases x <;> cases h; rfl

def Shape.seq : Shape (List String) where
  view | .seq a => some a | _ => none
  make := .seq
  view_make _ := rfl
  eq_make {x _} h := by cases x <;> cases h; rfl

def Shape.model : Shape Fields where
  view | .model a => some a | _ => none
  make := .model
  view_make _ := rfl
  eq_make {x _} h := by cases x <;> cases h; rfl

def Shape.dict : Shape (List (String × Val)) where
  view | .dict a => some a | _ => none
  make := .dict
  view_make _ := rfl
  eq_make {x _} h := by cases x <;> cases h; rfl

section Shape
variable {β : Type} {sh : Shape β}

def shapeEqv (sh : Shape β) (R : β → β → Prop) (x y : Val) : Prop :=
  match sh.view x, sh.view y with
  | some a, some b => R a b
  | _, _ => x = y

def shapeOp (sh : Shape β) (g : β → β → Except MergeErr β) (x y : Val) : Except MergeErr Val :=
  match sh.view x, sh.view y with
  | some a, some b => (g a b).map sh.make
  | _, _ => .error .typeError

theorem shapeEqv.of_view {R : β → β → Prop} {x y : Val} {a b : β} (hx : sh.view x = some a) (hy : sh.view y = some b) :
    shapeEqv sh R x y ↔ R a b := by
  simp only [shapeEqv, hx, hy]

theorem shapeEqv.of_mk {R : β → β → Prop} {c c' : β} (r : R c c') : shapeEqv sh R (sh.make c) (sh.make c') :=
  (shapeEqv.of_view (sh.view_make c) (sh.view_make c')).mpr r

theorem shapeEqv.inv {R : β → β → Prop} {x y : Val} (h : shapeEqv sh R x y) :
    (x = y ∧ sh.view x = none) ∨ ∃ a b, sh.view x = some a ∧ sh.view y = some b ∧ R a b := by
  cases hx : sh.view x with
  | none =>
    simp only [shapeEqv, hx] at h
    exact Or.inl ⟨h, rfl⟩
  | some a =>
    cases hy : sh.view y with
    | none =>
      simp only [shapeEqv, hx, hy] at h
      rw [← h, hx] at hy
      cases hy
    | some b => exact Or.inr ⟨a, b, rfl, rfl, (shapeEqv.of_view hx hy).mp h⟩

theorem shapeEqv.equivalence {R : β → β → Prop} (hR : Equivalence R) : Equivalence (shapeEqv sh R) where
  refl x := by
    cases hx : sh.view x with
    | none => simp only [shapeEqv, hx]
    | some a => exact (shapeEqv.of_view hx hx).mpr (hR.refl a)
  symm {x y} h := by
    rcases h.inv with ⟨rfl, _⟩ | ⟨a, b, hx, hy, r⟩
    · exact h
    · exact (shapeEqv.of_view hy hx).mpr (hR.symm r)
  trans {x y z} h1 h2 := by
    rcases h1.inv with ⟨rfl, _⟩ | ⟨a, b, hx, hy, r1⟩
    · exact h2
    rcases h2.inv with ⟨rfl, _⟩ | ⟨b', c, hy', hz, r2⟩
    · exact h1
    · rw [hy] at hy'
      cases hy'
      exact (shapeEqv.of_view hx hz).mpr (hR.trans r1 r2)

variable {g : β → β → Except MergeErr β}

theorem shapeOp_of_view {x y : Val} {a b : β} (hx : sh.view x = some a) (hy : sh.view y = some b) :
    shapeOp sh g x y = (g a b).map sh.make := by
  simp only [shapeOp, hx, hy]

theorem shapeOp_none_left {x : Val} (hx : sh.view x = none) (y : Val) : shapeOp sh g x y = .error .typeError := by
  simp only [shapeOp, hx]

theorem shapeOp_none_right (x : Val) {y : Val} (hy : sh.view y = none) : shapeOp sh g x y = .error .typeError := by
  cases hx : sh.view x <;> simp only [shapeOp, hx, hy]

theorem shapeOp_ok {x y r : Val} (h : shapeOp sh g x y = .ok r) :
    ∃ a b c, sh.view x = some a ∧ sh.view y = some b ∧ g a b = .ok c ∧ r = sh.make c := by
  cases hx : sh.view x with
  | none => rw [shapeOp_none_left hx] at h; cases h
  | some a =>
    cases hy : sh.view y with
    | none => rw [shapeOp_none_right _ hy] at h; cases h
    | some b =>
      rw [shapeOp_of_view hx hy] at h
      cases hg : g a b with
      | error e => rw [hg] at h; cases h
      | ok c => rw [hg] at h; cases h; exact ⟨a, b, c, rfl, rfl, hg, rfl⟩

theorem shapeOp.cong {R : β → β → Prop} {x x' y y' : Val}
    (hx : shapeEqv sh R x x') (hy : shapeEqv sh R y y')
    (h : ∀ a a' b b', sh.view x = some a → sh.view x' = some a' → sh.view y = some b → sh.view y' = some b' →
      R a a' → R b b' → RE R (g a b) (g a' b')) :
    RE (shapeEqv sh R) (shapeOp sh g x y) (shapeOp sh g x' y') := by
  rcases hx.inv with ⟨rfl, vx⟩ | ⟨a, a', vx, vx', ra⟩
  · rw [shapeOp_none_left vx, shapeOp_none_left vx]
    trivial
  rcases hy.inv with ⟨rfl, vy⟩ | ⟨b, b', vy, vy', rb⟩
  · rw [shapeOp_none_right _ vy, shapeOp_none_right _ vy]
    trivial
  rw [shapeOp_of_view vx vy, shapeOp_of_view vx' vy']
  exact RE.map (h a a' b b' vx vx' vy vy' ra rb) fun _ _ => shapeEqv.of_mk

theorem shapeOp.comm {R : β → β → Prop} {x y : Val}
    (h : ∀ a b, sh.view x = some a → sh.view y = some b → RE R (g a b) (g b a)) :
    RE (shapeEqv sh R) (shapeOp sh g x y) (shapeOp sh g y x) := by
  cases hx : sh.view x with
  | none =>
    rw [shapeOp_none_left hx, shapeOp_none_right _ hx]
    trivial
  | some a =>
    cases hy : sh.view y with
    | none =>
      rw [shapeOp_none_left hy, shapeOp_none_right _ hy]
      trivial
    | some b =>
      rw [shapeOp_of_view hx hy, shapeOp_of_view hy hx]
      exact RE.map (h a b hx hy) fun _ _ => shapeEqv.of_mk

theorem shapeOp.assoc {R : β → β → Prop} {S : Val → Val → Prop} (hS : ∀ c c', R c c' → S (sh.make c) (sh.make c'))
    {x y z : Val}
    (h : ∀ a b c, sh.view x = some a → sh.view y = some b → sh.view z = some c →
      RE R (g a b >>= fun r => g r c) (g b c >>= fun r => g a r)) :
    RE S (shapeOp sh g x y >>= fun r => shapeOp sh g r z) (shapeOp sh g y z >>= fun r => shapeOp sh g x r) := by
  cases hx : sh.view x with
  | none =>
    simp only [shapeOp_none_left hx, error_bind]
    exact RE.error_bind_error _ _ _
  | some a =>
    cases hy : sh.view y with
    | none =>
      rw [shapeOp_none_left hy, shapeOp_none_right _ hy]
      trivial
    | some b =>
      cases hz : sh.view z with
      | none =>
        simp only [shapeOp_none_right _ hz, error_bind]
        exact RE.bind_error_error _ _ _
      | some c =>
        have e1 : ∀ r, shapeOp sh g (sh.make r) z = (g r c).map sh.make := fun r => shapeOp_of_view (sh.view_make r) hz
        have e2 : ∀ r, shapeOp sh g x (sh.make r) = (g a r).map sh.make := fun r => shapeOp_of_view hx (sh.view_make r)
        simp only [shapeOp_of_view hx hy, shapeOp_of_view hy hz, Except.map_bind, e1, e2, Except.bind_map]
        exact RE.map (h a b c hx hy hz) hS

end Shape

/-! `Equiv` is written with one relation per shape, as the properties are read; the proofs use each as a `shapeEqv`
and each merger as a `shapeOp`. -/

theorem leafEqv_eq : leafEqv = shapeEqv .set fun a b => ∀ s, s ∈ a ↔ s ∈ b := by
  funext x y
  cases x <;> cases y <;> rfl

theorem mergeVal_unite : mergeVal .unite = shapeOp .set fun a b => .ok (setUnion a b) := by
  funext x y
  cases x <;> cases y <;> rfl

theorem mergeVal_concat : mergeVal .concat = shapeOp .seq fun a b => .ok (a ++ b) := by
  funext x y
  cases x <;> cases y <;> rfl

theorem mergeVal_merge (t : Table) : mergeVal (.merge t) = shapeOp .model (mergeFields t) := by
  funext x y
  cases x <;> cases y <;> rfl

theorem mergeVal_dictMerge (vm : Merger) : mergeVal (.dictMerge vm) = shapeOp .dict (dictMergeWith (mergeVal vm)) := by
  funext x y
  cases x <;> cases y <;> rfl

theorem Equiv_concat : Equiv .concat = shapeEqv .seq List.Perm := by
  funext x y
  cases x <;> cases y <;> rfl

theorem Equiv_merge (t : Table) : Equiv (.merge t) = shapeEqv .model (EquivFields t) := by
  funext x y
  cases x <;> cases y <;> rfl

theorem Equiv_dictMerge (vm : Merger) : Equiv (.dictMerge vm) =
    shapeEqv .dict fun a b => ∀ k : String, OptRel (Equiv vm) (lookup k a) (lookup k b) := by
  funext x y
  cases x <;> cases y <;> rfl

theorem leafEqv.equivalence : Equivalence leafEqv :=
  leafEqv_eq ▸ shapeEqv.equivalence ⟨fun _ _ => Iff.rfl, fun h s => (h s).symm, fun h1 h2 s => (h1 s).trans (h2 s)⟩

theorem EquivFields_iff (t : Table) (a b : Fields) :
    EquivFields t a b ↔ ∀ f m, (f, m) ∈ t → OptRel (Equiv m) (lookup f a) (lookup f b) :=
  Table.forall_iff (T := fun t => EquivFields t a b) trivial (fun _ _ _ => Iff.rfl) t

theorem EquivFields.equivalence_of {t : Table} (h : ∀ f m, (f, m) ∈ t → Equivalence (Equiv m)) :
    Equivalence (EquivFields t) where
  refl a := (EquivFields_iff t a a).mpr fun f m hm => (OptRel.equivalence (h f m hm)).refl _
  symm {a b} hab := (EquivFields_iff t b a).mpr fun f m hm =>
    (OptRel.equivalence (h f m hm)).symm ((EquivFields_iff t a b).mp hab f m hm)
  trans {a b c} hab hbc := (EquivFields_iff t a c).mpr fun f m hm =>
    (OptRel.equivalence (h f m hm)).trans ((EquivFields_iff t a b).mp hab f m hm) ((EquivFields_iff t b c).mp hbc f m hm)

theorem Equiv.equivalence (m : Merger) : Equivalence (Equiv m) := by
  induction m using Merger.ind with
  | merge t ih => exact Equiv_merge t ▸ shapeEqv.equivalence (EquivFields.equivalence_of ih)
  | concat => exact Equiv_concat ▸ shapeEqv.equivalence ⟨List.Perm.refl, List.Perm.symm, List.Perm.trans⟩
  | dictMerge vm ih =>
    have e := OptRel.equivalence ih
    exact Equiv_dictMerge vm ▸ shapeEqv.equivalence
      ⟨fun _ _ => e.refl _, fun h k => e.symm (h k), fun h1 h2 k => e.trans (h1 k) (h2 k)⟩
  | _ => exact leafEqv.equivalence

theorem Equiv.refl (m : Merger) (x : Val) : Equiv m x x := (Equiv.equivalence m).refl x

theorem EquivFields.equivalence (t : Table) : Equivalence (EquivFields t) :=
  EquivFields.equivalence_of fun _ m _ => Equiv.equivalence m

theorem EquivFields.refl (t : Table) (a : Fields) : EquivFields t a a := (EquivFields.equivalence t).refl a

theorem EquivFields.symm {t : Table} {a b : Fields} (h : EquivFields t a b) : EquivFields t b a :=
  (EquivFields.equivalence t).symm h

theorem EquivFields.trans {t : Table} {a b c : Fields} (h1 : EquivFields t a b) (h2 : EquivFields t b c) :
    EquivFields t a c :=
  (EquivFields.equivalence t).trans h1 h2

def consOpt (f : String) : Option Val → Fields → Fields
  | none, r => r
  | some v, r => (f, v) :: r

theorem lookup_consOpt_self {f : String} {rest : Fields} (h : lookup f rest = none) (r : Option Val) :
    lookup f (consOpt f r rest) = r := by
  cases r
  · exact h
  · exact lookup_cons_self f _ rest

theorem lookup_consOpt_ne {f f' : String} (h : f' ≠ f) (r : Option Val) (rest : Fields) :
    lookup f (consOpt f' r rest) = lookup f rest := by
  cases r
  · rfl
  · exact lookup_cons_ne h _ rest

theorem mergeFields_cons (f : String) (m : Merger) (t : Table) (a b : Fields) :
    mergeFields ((f, m) :: t) a b =
      mergeOpt m (lookup f a) (lookup f b) >>= fun r =>
        mergeFields t a b >>= fun rest => .ok (consOpt f r rest) := by
  simp only [mergeFields, mergeOpt]
  cases mergeOptWith (mergeVal m) (lookup f a) (lookup f b) with
  | error e => rfl
  | ok r =>
    cases mergeFields t a b with
    | error e => rfl
    | ok rest => cases r <;> rfl

theorem mergeFields_cons_ok {f : String} {m : Merger} {t : Table} {a b out : Fields} :
    mergeFields ((f, m) :: t) a b = .ok out ↔
      ∃ r, mergeOpt m (lookup f a) (lookup f b) = .ok r ∧ ∃ rest, mergeFields t a b = .ok rest ∧ consOpt f r rest = out := by
  simp only [mergeFields_cons, Except.bind_eq_ok, Except.ok.injEq]

theorem mergeFields_keys {t : Table} {a b out : Fields} (h : mergeFields t a b = .ok out) :
    ∀ f, f ∉ keys t → lookup f out = none := by
  induction t generalizing out with
  | nil => intro f _; cases h; rfl
  | cons p t ih =>
    obtain ⟨f', m'⟩ := p
    obtain ⟨r, _, rest, h2, rfl⟩ := mergeFields_cons_ok.mp h
    intro f hf
    rw [keys_cons, List.mem_cons, not_or] at hf
    rw [lookup_consOpt_ne (Ne.symm hf.1)]
    exact ih h2 f hf.2

theorem mergeFields_ok {t : Table} (hnd : (keys t).Nodup) {a b out : Fields}
    (h : mergeFields t a b = .ok out) :
    ∀ f m, (f, m) ∈ t → mergeOpt m (lookup f a) (lookup f b) = .ok (lookup f out) := by
  induction t generalizing out with
  | nil => intro f m hm; cases hm
  | cons p t ih =>
    obtain ⟨f', m'⟩ := p
    obtain ⟨r, h1, rest, h2, rfl⟩ := mergeFields_cons_ok.mp h
    rw [keys_cons, List.nodup_cons] at hnd
    intro f m hm
    cases hm with
    | head => rw [h1, lookup_consOpt_self (mergeFields_keys h2 _ hnd.1)]
    | tail _ hm' =>
      have hne : f' ≠ f := fun e => hnd.1 (e ▸ List.mem_map.mpr ⟨(f, m), hm', rfl⟩)
      rw [lookup_consOpt_ne hne]
      exact ih hnd.2 h2 f m hm'

theorem mergeFields_error {t : Table} {a b : Fields} {e : MergeErr} (h : mergeFields t a b = .error e) :
    ∃ f m e', (f, m) ∈ t ∧ mergeOpt m (lookup f a) (lookup f b) = .error e' := by
  induction t generalizing e with
  | nil => cases h
  | cons p t ih =>
    obtain ⟨f', m'⟩ := p
    rw [mergeFields_cons] at h
    cases h1 : mergeOpt m' (lookup f' a) (lookup f' b) with
    | error e1 => exact ⟨f', m', e1, List.mem_cons_self, h1⟩
    | ok r =>
      cases h2 : mergeFields t a b with
      | error e2 =>
        obtain ⟨f, m, e', hm, he⟩ := ih h2
        exact ⟨f, m, e', List.mem_cons_of_mem _ hm, he⟩
      | ok rest =>
        rw [h1, h2] at h
        cases h

theorem mergeFields_ext {t : Table} {a b c d o1 o2 : Fields}
    (h1 : mergeFields t a b = .ok o1) (h2 : mergeFields t c d = .ok o2)
    (h : ∀ f, f ∈ keys t → lookup f o1 = lookup f o2) (hnd : (keys t).Nodup) : o1 = o2 := by
  induction t generalizing o1 o2 with
  | nil => cases h1; cases h2; rfl
  | cons p t ih =>
    obtain ⟨f', m'⟩ := p
    obtain ⟨r1, _, rest1, e1, rfl⟩ := mergeFields_cons_ok.mp h1
    obtain ⟨r2, _, rest2, e2, rfl⟩ := mergeFields_cons_ok.mp h2
    rw [keys_cons, List.nodup_cons] at hnd
    have hr := h f' List.mem_cons_self
    rw [lookup_consOpt_self (mergeFields_keys e1 f' hnd.1), lookup_consOpt_self (mergeFields_keys e2 f' hnd.1)] at hr
    have hrest : rest1 = rest2 := by
      refine ih e1 e2 (fun f hf => ?_) hnd.2
      have hne : f' ≠ f := fun e => hnd.1 (e ▸ hf)
      have := h f (List.mem_cons_of_mem _ hf)
      rwa [lookup_consOpt_ne hne, lookup_consOpt_ne hne] at this
    rw [hr, hrest]

theorem mergeOptWith_eq_optOp (f : Val → Val → Except MergeErr Val) : mergeOptWith f = optOp f := by
  funext x y
  cases x <;> cases y <;> rfl

theorem fieldsKeywise (t : Table) (hnd : (keys t).Nodup) (a b : Fields) :
    Keywise (J := {j : String × Merger // j ∈ t}) (fun j s => lookup j.1.1 s) (fun _ => True)
      (mergeFields t a b) (fun j => optOp (mergeVal j.1.2) (lookup j.1.1 a) (lookup j.1.1 b)) where
  ok := fun _ h => ⟨trivial, fun j => mergeOptWith_eq_optOp _ ▸ mergeFields_ok hnd h j.1.1 j.1.2 j.2⟩
  err := fun _ h => by
    obtain ⟨f, m, e', hm, he⟩ := mergeFields_error h
    exact ⟨⟨(f, m), hm⟩, e', mergeOptWith_eq_optOp _ ▸ he⟩

theorem setEq_iff {a b : List String} : setEq a b = true ↔ ∀ s, s ∈ a ↔ s ∈ b := by
  simp only [setEq, Bool.and_eq_true, List.all_eq_true, List.contains_iff_mem]
  constructor
  · rintro ⟨h1, h2⟩ s; exact ⟨h1 s, h2 s⟩
  · intro h; exact ⟨fun s hs => (h s).mp hs, fun s hs => (h s).mpr hs⟩

theorem setEq_congr {a a' b b' : List String} (ha : ∀ s, s ∈ a ↔ s ∈ a') (hb : ∀ s, s ∈ b ↔ s ∈ b') :
    setEq a b = setEq a' b' := by
  rw [Bool.eq_iff_iff, setEq_iff, setEq_iff]
  simp only [ha, hb]

theorem setEq_comm (a b : List String) : setEq a b = setEq b a := by
  simp only [setEq, Bool.and_comm]

theorem leafEq_comm (x y : Val) : leafEq x y = leafEq y x := by
  cases x <;> cases y <;>
    first | rfl | exact congrArg some BEq.comm | exact congrArg some (setEq_comm _ _)

theorem leafEq_congr_left {x x' : Val} (h : leafEqv x x') (y : Val) : leafEq x y = leafEq x' y := by
  rw [leafEqv_eq] at h
  rcases h.inv with ⟨rfl, _⟩ | ⟨a, a', hx, hx', ra⟩
  · rfl
  · cases Shape.set.eq_make hx
    cases Shape.set.eq_make hx'
    cases y <;> first | rfl | exact congrArg some (setEq_congr ra fun _ => Iff.rfl)

theorem leafEq_of_eqv {x x' y y' : Val} (hx : leafEqv x x') (hy : leafEqv y y') : leafEq x y = leafEq x' y' := by
  rw [leafEq_congr_left hx y, leafEq_comm x' y, leafEq_congr_left hy x', leafEq_comm y' x']

theorem forbidChange_ok_iff {x y r : Val} :
    mergeVal .forbidChange x y = .ok r ↔ leafEq x y = some true ∧ r = x := by
  simp only [mergeVal]
  cases leafEq x y with
  | none => simp
  | some b => cases b <;> simp [eq_comm]

/-- two `ForbidChange` merges whose operands compare alike: both raise, or each keeps its first operand -/
theorem forbidChange_rel {R : Val → Val → Prop} {x y x' y' : Val} (e : leafEq x y = leafEq x' y')
    (r : leafEq x y = some true → R x x') : RE R (mergeVal .forbidChange x y) (mergeVal .forbidChange x' y') := by
  simp only [mergeVal, ← e]
  cases h : leafEq x y with
  | none => trivial
  | some b => cases b; trivial; exact r h

theorem leafEqv_of_leafEq {x y : Val} (h : leafEq x y = some true) : leafEqv x y := by
  cases x <;> cases y <;> simp_all [leafEq, leafEqv, setEq_iff]

theorem mem_setUnion {a b : List String} {s : String} : s ∈ setUnion a b ↔ s ∈ a ∨ s ∈ b := by
  simp only [setUnion, List.mem_append, List.mem_filter]
  by_cases ha : s ∈ a <;> simp [ha]

theorem setUnion_assoc (a b c : List String) : setUnion (setUnion a b) c = setUnion a (setUnion b c) := by
  simp only [setUnion, List.filter_append, List.append_assoc, List.filter_filter]
  congr 2
  apply List.filter_congr
  intro s _
  by_cases ha : s ∈ a <;> by_cases hb : s ∈ b <;> simp [ha, hb]

theorem mergeOpt_none_left (m : Merger) (y : Option Val) : mergeOpt m none y = .ok y := rfl
theorem mergeOpt_some_some (m : Merger) (x y : Val) : mergeOpt m (some x) (some y) = (mergeVal m x y).map some := rfl

end Annet.Mesh
