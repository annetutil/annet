/-
Lemmas about `applyAcl` (C06).  The filter it computes is the pure function `keep`: a run that succeeds, in whatever mode,
returns `keep v rules t` (`applyAcl_ok`).  Sub-tree, path predicate and idempotence are facts about `keep`; strict mode and
the `~ %global` cover are inductions over `applyAclList` itself.
-/
import AnnetModel.Spec.Acl
import AnnetModel.Lemmas.Basic
import AnnetModel.Lemmas.Sort
import AnnetModel.Lemmas.Pattern

namespace Annet.Acl.Lemmas
open Annet Annet.Acl Annet.Acl.Spec Annet.Pattern

theorem applyAcl_ok_iff (v : Vendor) (fatal excl : Bool) (rules : Rules) (path : List String)
    (ks : List (String × Cfg)) (t' : Cfg) :
    applyAcl v fatal excl rules path (.mk ks) = .ok t' ↔
      ∃ ks', applyAclList v fatal excl rules path ks = .ok ks' ∧ .mk ks' = t' := by
  rw [applyAcl]; exact Except.map_eq_ok

mutual
  /-- What `apply_acl` returns, in every mode, when it does not fail: a row that does not pass is dropped with its block,
  a row that passes is kept and its block filtered by the rules `passRow` hands down. -/
  def keep (v : Vendor) : Rules → Cfg → Cfg
    | R, .mk ks => .mk (keepL v R ks)
  def keepL (v : Vendor) : Rules → List (String × Cfg) → List (String × Cfg)
    | _, [] => []
    | R, (row, ch) :: rest =>
      match passRow v R row with
      | none => keepL v R rest
      | some cr => (row, keep v cr ch) :: keepL v R rest
end

mutual
  /-- Every rule set the filter consults on `t` is inside the grammar (outside it a lenient run fails, and only then). -/
  def Parses (v : Vendor) : Rules → Cfg → Prop
    | R, .mk ks => ParsesL v R ks
  def ParsesL (v : Vendor) : Rules → List (String × Cfg) → Prop
    | _, [] => True
    | R, (row, ch) :: rest =>
      (findMatches v row R).isSome = true ∧ (∀ cr, passRow v R row = some cr → Parses v cr ch) ∧ ParsesL v R rest
end

theorem keepL_cons (v : Vendor) (R : Rules) (row : String) (ch : Cfg) (rest : List (String × Cfg)) :
    keepL v R ((row, ch) :: rest) =
      match passRow v R row with
      | none => keepL v R rest
      | some cr => (row, keep v cr ch) :: keepL v R rest := by
  rw [keepL]

theorem matchRow_ok_of_excl {v : Vendor} {row : String} {R : Rules} {excl : Bool} {res : Option (Match × Rules)}
    (h : matchRowToAcl v row R excl = .ok res) :
    matchRowToAcl v row R false = .ok res ∧ (findMatches v row R).isSome = true := by
  unfold matchRowToAcl at h ⊢
  split at h
  · cases h
  · next hf => exact ⟨h, by rw [hf]; rfl⟩
  · next hf =>
    split at h
    · cases h
    · exact ⟨by simpa using h, by rw [hf]; rfl⟩

/-- A successful run over `(row, ch) :: rest`, in any mode, read backwards: the row did not pass and the run is the run over
`rest`, or it passed to `cr` and the run is made of the runs over `ch` (under `cr`) and over `rest`. -/
theorem applyAclList_cons_inv {v : Vendor} {fatal excl : Bool} {rules : Rules} {path : List String} {row : String} {ch : Cfg}
    {rest ks' : List (String × Cfg)}
    (h : applyAclList v fatal excl rules path ((row, ch) :: rest) = .ok ks') :
    (passRow v rules row = none ∧ (matchRowToAcl v row rules false = .ok none ∨
        ∃ m cr, matchRowToAcl v row rules false = .ok (some (m, cr)) ∧
          (m.isReverse && m.rule.cantDelete.all id) = true) ∧
      applyAclList v fatal excl rules path rest = .ok ks') ∨
    (∃ m cr ch' rest', matchRowToAcl v row rules false = .ok (some (m, cr)) ∧
      (m.isReverse && m.rule.cantDelete.all id) = false ∧ passRow v rules row = some cr ∧
      applyAcl v fatal excl cr (path ++ [row]) ch = .ok ch' ∧
      applyAclList v fatal excl rules path rest = .ok rest' ∧ ks' = (row, ch') :: rest') := by
  rw [applyAclList] at h
  split at h
  · cases h
  · cases h
  · rename_i hm
    have hm := (matchRow_ok_of_excl hm).1
    split at h
    · cases h
    · exact .inl ⟨by simp [passRow, hm], .inl hm, h⟩
  · rename_i m cr hm
    have hm := (matchRow_ok_of_excl hm).1
    split at h
    · rename_i hc
      exact .inl ⟨by simp [passRow, hm, hc], .inr ⟨m, cr, hm, hc⟩, h⟩
    · rename_i hc
      split at h
      · cases h
      · rename_i ch' hch
        split at h
        · cases h
        · rename_i rest' hrest
          cases h
          have hc' : (m.isReverse && m.rule.cantDelete.all id) = false := by simpa using hc
          exact .inr ⟨m, cr, ch', rest', hm, hc', by simp [passRow, hm, hc'], hch, hrest, rfl⟩

mutual
  theorem applyAcl_ok (v : Vendor) (fatal excl : Bool) (R : Rules) (path : List String) :
      (t t' : Cfg) → applyAcl v fatal excl R path t = .ok t' → t' = keep v R t ∧ Parses v R t
    | .mk ks, t', h => by
      obtain ⟨ks', hl, rfl⟩ := (applyAcl_ok_iff ..).1 h
      rw [keep, Parses, Cfg.mk.injEq]
      exact applyAclList_ok v fatal excl R path ks ks' hl
  theorem applyAclList_ok (v : Vendor) (fatal excl : Bool) (R : Rules) (path : List String) :
      (ks ks' : List (String × Cfg)) → applyAclList v fatal excl R path ks = .ok ks' →
        ks' = keepL v R ks ∧ ParsesL v R ks
    | [], ks', h => by
      simp only [applyAclList, Except.ok.injEq] at h
      subst h; rw [keepL, ParsesL]; exact ⟨rfl, trivial⟩
    | (row, ch) :: rest, ks', h => by
      rw [keepL_cons, ParsesL]
      rcases applyAclList_cons_inv h with ⟨hp, hm, hr⟩ | ⟨m, cr, ch', rest', hm, _, hp, hch, hrest, rfl⟩
      · obtain ⟨e, p⟩ := applyAclList_ok v fatal excl R path rest ks' hr
        rw [hp]
        exact ⟨e, hm.elim (fun h => (matchRow_ok_of_excl h).2) fun ⟨_, _, h, _⟩ => (matchRow_ok_of_excl h).2, nofun, p⟩
      · obtain ⟨e1, p1⟩ := applyAcl_ok v fatal excl cr _ ch ch' hch
        obtain ⟨e2, p2⟩ := applyAclList_ok v fatal excl R path rest rest' hrest
        rw [hp]
        exact ⟨by rw [e1, e2], (matchRow_ok_of_excl hm).2, fun _ hcr => Option.some.inj hcr ▸ p1, p2⟩
end

mutual
  theorem keep_sub (v : Vendor) : (R : Rules) → (t : Cfg) → Sub (keep v R t) t
    | R, .mk ks => by rw [keep]; exact .mk (keepL_sub v R ks)
  theorem keepL_sub (v : Vendor) : (R : Rules) → (ks : List (String × Cfg)) → SubL (keepL v R ks) ks
    | _, [] => by rw [keepL]; exact .nil _
    | R, (row, ch) :: rest => by
      rw [keepL_cons]
      split
      · exact .skip _ (keepL_sub v R rest)
      · exact .keep row (keep_sub v _ ch) (keepL_sub v R rest)
end

theorem sub_cfg (v : Vendor) (fatal excl : Bool) (rules : Rules) (path : List String) (t t' : Cfg)
    (h : applyAcl v fatal excl rules path t = .ok t') : Sub t' t := by
  rw [(applyAcl_ok _ _ _ _ _ _ _ h).1]; exact keep_sub v rules t

theorem sub_list (v : Vendor) (fatal excl : Bool) (rules : Rules) (path : List String) :
    (ks ks' : List (String × Cfg)) → applyAclList v fatal excl rules path ks = .ok ks' → SubL ks' ks := by
  intro ks ks' h
  rw [(applyAclList_ok _ _ _ _ _ _ _ h).1]; exact keepL_sub v rules ks

theorem walk_cons (v : Vendor) (rules : Rules) (row : String) (p : List String) :
    walk v rules (row :: p) = (passRow v rules row).bind fun cr => walk v cr p := by
  rw [walk]; cases passRow v rules row <;> rfl

mutual
  theorem mem_paths_keep (v : Vendor) : (R : Rules) → (t : Cfg) → ∀ p : List String,
      p ∈ (keep v R t).paths ↔ (p ∈ t.paths ∧ (walk v R p).isSome)
    | R, .mk ks, p => by
      rw [keep]
      simpa only [Cfg.paths] using mem_pathsList_keepL v R ks p
  theorem mem_pathsList_keepL (v : Vendor) : (R : Rules) → (ks : List (String × Cfg)) → ∀ p : List String,
      p ∈ Cfg.pathsList (keepL v R ks) ↔ (p ∈ Cfg.pathsList ks ∧ (walk v R p).isSome)
    | _, [], p => by simp [keepL, Cfg.pathsList]
    | R, (row, ch) :: rest, p => by
      rw [keepL_cons]
      cases hp : passRow v R row with
      | none =>
        have hw : ∀ q, walk v R (row :: q) = none := fun q => by rw [walk_cons, hp]; rfl
        simp only [mem_pathsList_keepL v R rest p, Cfg.pathsList, List.cons_append, List.mem_cons,
          List.mem_append, List.mem_map]
        grind
      | some cr =>
        have hw : ∀ q, walk v R (row :: q) = walk v cr q := fun q => by rw [walk_cons, hp]; rfl
        have hw0 : walk v cr [] = some cr := rfl
        simp only [Cfg.pathsList, List.cons_append, List.mem_cons, List.mem_append, List.mem_map,
          mem_pathsList_keepL v R rest, mem_paths_keep v cr ch]
        grind
end

theorem path_predicate (v : Vendor) {fatal excl : Bool} (rules : Rules) (path : List String) (t t' : Cfg)
    (h : applyAcl v fatal excl rules path t = .ok t') (p : List String) :
    p ∈ t'.paths ↔ (p ∈ t.paths ∧ (walk v rules p).isSome) := by
  rw [(applyAcl_ok _ _ _ _ _ _ _ h).1]; exact mem_paths_keep v rules t p

mutual
  theorem applyAcl_of_walks (v : Vendor) (fatal : Bool) (R : Rules) (path : List String) :
      (t : Cfg) → (∀ p ∈ t.paths, (walk v R p).isSome = true) → applyAcl v fatal false R path t = .ok t
    | .mk ks, h => by
      rw [Cfg.paths] at h
      exact (applyAcl_ok_iff ..).2 ⟨ks, applyAclList_of_walks v fatal R path ks h, rfl⟩
  theorem applyAclList_of_walks (v : Vendor) (fatal : Bool) (R : Rules) (path : List String) :
      (ks : List (String × Cfg)) → (∀ p ∈ Cfg.pathsList ks, (walk v R p).isSome = true) →
        applyAclList v fatal false R path ks = .ok ks
    | [], _ => by rw [applyAclList]
    | (row, ch) :: rest, h => by
      rw [Cfg.pathsList] at h
      have h0 := h [row] (by simp)
      rw [walk_cons] at h0
      cases hp : passRow v R row with
      | none => simp [hp] at h0
      | some cr =>
        have h1 := applyAcl_of_walks v fatal cr (path ++ [row]) ch fun p hpm => by
          have := h (row :: p) (by simp [hpm])
          rwa [walk_cons, hp] at this
        have h2 := applyAclList_of_walks v fatal R path rest fun p hpm => h p (by simp [hpm])
        unfold passRow at hp
        rw [applyAclList]
        split at hp
        next m cr' hm =>
          split at hp
          · cases hp
          next hc =>
            cases hp
            simp only [hm, hc, Bool.false_eq_true, if_false, h1, h2]
        · cases hp
end

/-- every path of a filtered tree walks -/
theorem applyAcl_idem (v : Vendor) {fatal excl : Bool} (fatal' : Bool) (rules : Rules) (path path' : List String)
    (t t' : Cfg) (h : applyAcl v fatal excl rules path t = .ok t') :
    applyAcl v fatal' false rules path' t' = .ok t' :=
  applyAcl_of_walks v fatal' rules path' t' fun p hp => ((path_predicate v rules path t t' h p).1 hp).2

theorem idem_list (v : Vendor) (rules : Rules) (path path' : List String) :
    (ks ks' : List (String × Cfg)) → applyAclList v false false rules path ks = .ok ks' →
      applyAclList v false false rules path' ks' = .ok ks' := by
  intro ks ks' h
  rw [(applyAclList_ok _ _ _ _ _ _ _ h).1]
  exact applyAclList_of_walks v false rules path' _ fun p hp => ((mem_pathsList_keepL v rules ks p).1 hp).2

theorem idempotent (v : Vendor) (rules : Rules) (path : List String) (t t' : Cfg)
    (h : applyAcl v false false rules path t = .ok t') :
    applyAcl v false false rules path t' = .ok t' := applyAcl_idem v false rules path path t t' h

mutual
  theorem fatal_iff (v : Vendor) (rules : Rules) (path : List String) :
      (t t0 : Cfg) → applyAcl v false false rules path t = .ok t0 →
        applyAcl v true false rules path t =
          (match firstUnmatched v rules path t with
           | some q => .error (.aclError q)
           | none => .ok t0)
    | .mk ks, t0, h => by
      obtain ⟨ks0, hl, rfl⟩ := (applyAcl_ok_iff ..).1 h
      have := fatal_list v rules path ks ks0 hl
      rw [applyAcl, this, firstUnmatched]
      cases firstUnmatchedL v rules path ks <;> rfl
  theorem fatal_list (v : Vendor) (rules : Rules) (path : List String) :
      (ks ks0 : List (String × Cfg)) → applyAclList v false false rules path ks = .ok ks0 →
        applyAclList v true false rules path ks =
          (match firstUnmatchedL v rules path ks with
           | some q => .error (.aclError q)
           | none => .ok ks0)
    | [], ks0, h => by
      simp only [applyAclList, Except.ok.injEq] at h
      subst h; rfl
    | (row, ch) :: rest, ks0, h => by
      rcases applyAclList_cons_inv h with ⟨_, hm | ⟨m, cr, hm, hc⟩, hr⟩ |
        ⟨m, cr, ch', rest', hm, hc, _, hch, hrest, rfl⟩
      · rw [applyAclList, firstUnmatchedL]
        simp only [hm, if_true]
      · have ih := fatal_list v rules path rest ks0 hr
        rw [applyAclList, firstUnmatchedL]
        simp only [hm, hc, if_true, ih]
      · have ih1 := fatal_iff v cr (path ++ [row]) ch ch' hch
        have ih2 := fatal_list v rules path rest rest' hrest
        rw [applyAclList, firstUnmatchedL]
        simp only [hm, hc, Bool.false_eq_true, if_false, ih1, ih2]
        cases firstUnmatched v cr (path ++ [row]) ch with
        | some q => rfl
        | none =>
          cases firstUnmatchedL v rules path rest <;> rfl
end

/-- one iteration of the inner loop of `gen_cant_delete` (patching.py:478-491): `gen_cant_delete[name] = flag` / `&= flag` -/
def cantDeleteStep (acc : List (String × Bool)) (nf : String × Bool) : List (String × Bool) :=
  if acc.any (·.1 == nf.1) then acc.map fun e => if e.1 == nf.1 then (e.1, e.2 && nf.2) else e
  else acc ++ [nf]

def cantDeletePairs (ms : List Match) : List (String × Bool) :=
  ms.flatMap fun m => m.rule.genNames.zip m.rule.cantDelete

theorem canDeleteNames_eq (ms : List Match) :
    canDeleteNames ms = (((cantDeletePairs ms).foldl cantDeleteStep []).filter (fun e => !e.2)).map (·.1) := by
  rw [cantDeletePairs, List.foldl_flatMap]; rfl

theorem cantDeleteStep_mem_false (acc : List (String × Bool)) (nf : String × Bool) (n : String) :
    (n, false) ∈ cantDeleteStep acc nf ↔ (n, false) ∈ acc ∨ (n, false) = nf := by
  obtain ⟨n', f'⟩ := nf
  rw [cantDeleteStep]
  split
  · next hk =>
    -- the name is there already; `flag &= f'` changes nothing for `f' = True` and clears its flag for `f' = False`
    obtain ⟨⟨n0, f0⟩, he0, hk0⟩ := List.any_eq_true.1 hk
    simp only [beq_iff_eq] at hk0
    subst hk0
    cases f'
    · simp only [List.mem_map, beq_iff_eq, Bool.and_false, Prod.exists, Prod.mk.injEq]
      grind
    · simp only [Bool.and_true, ite_self, List.map_id', Prod.mk.injEq, Bool.false_eq_true, and_false, or_false]
  · simp only [List.mem_append, List.mem_singleton]

theorem foldl_cantDeleteStep_mem_false (l acc : List (String × Bool)) (n : String) :
    (n, false) ∈ l.foldl cantDeleteStep acc ↔ (n, false) ∈ acc ∨ (n, false) ∈ l := by
  induction l generalizing acc with
  | nil => simp
  | cons x rest ih => rw [List.foldl_cons, ih, cantDeleteStep_mem_false, List.mem_cons, or_assoc]

theorem foldl_cantDeleteStep_nodup (l acc : List (String × Bool)) (h : (acc.map (·.1)).Nodup) :
    ((l.foldl cantDeleteStep acc).map (·.1)).Nodup := by
  induction l generalizing acc with
  | nil => exact h
  | cons x rest ih =>
    exact ih _ (Keyed.nodup_upsert (key := Prod.fst) (f := fun e => (e.1, e.2 && x.2)) (fun _ h => h) rfl h)

theorem mem_canDeleteNames (ms : List Match) (n : String) :
    n ∈ canDeleteNames ms ↔ ∃ m ∈ ms, (n, false) ∈ m.rule.genNames.zip m.rule.cantDelete := by
  simp [canDeleteNames_eq, foldl_cantDeleteStep_mem_false, cantDeletePairs]

theorem canDeleteNames_nodup (ms : List Match) : (canDeleteNames ms).Nodup := by
  rw [canDeleteNames_eq]
  have h := foldl_cantDeleteStep_nodup (cantDeletePairs ms) [] (by simp)
  exact List.Nodup.sublist (List.Sublist.map _ List.filter_sublist) h

theorem canDeleteNames_len (L : List (String × Bool)) (hL : L.length ≤ 1) (ms : List Match)
    (hms : ∀ m ∈ ms, m.rule.genNames.zip m.rule.cantDelete = L) :
    (canDeleteNames ms).length ≤ 1 := by
  have hmem : ∀ n ∈ canDeleteNames ms, (n, false) ∈ L := fun n h => by
    obtain ⟨m, hm, hp⟩ := (mem_canDeleteNames ms n).1 h
    exact hms m hm ▸ hp
  refine Nat.not_lt.1 fun h => ?_
  -- two names would both be the one name of `L`
  obtain ⟨a, b, hab, ha, hb⟩ := (canDeleteNames_nodup ms).one_lt_length_iff.1 h
  match L, hL, hmem a ha, hmem b hb with
  | [x], _, ha, hb =>
    rw [List.mem_singleton] at ha hb
    exact hab (Prod.mk.inj (ha.trans hb.symm)).1

theorem sortStable_eq (l : List Match) : sortStable l = Patch.stableSort (fun a b => b.lt a) l :=
  Patch.Lemmas.foldl_insert_eq_sort _ insertStable (fun _ => rfl) (fun _ _ _ => rfl) l

theorem mem_sortStable (l : List Match) (x : Match) : x ∈ sortStable l ↔ x ∈ l := by
  rw [sortStable_eq]; exact (Patch.Lemmas.sort_perm _ l).mem_iff

theorem sortStable_cons_ne_nil (x : Match) (l : List Match) : sortStable (x :: l) ≠ [] :=
  List.ne_nil_of_mem ((mem_sortStable _ _).2 (List.mem_cons_self ..))

theorem mergeDicts_nil_left (b : List Rule) : mergeDicts [] b = b := by
  cases b <;> simp [mergeDicts, mergeRuleDicts, rulesBeq, findRule]

theorem mergeDicts_nil_right (a : List Rule) : mergeDicts a [] = a := by
  cases a <;> simp [mergeDicts, mergeRuleDicts, rulesBeq, findRule]

section
variable {v : Vendor} {excl : Bool} {R : Rules}
  (hR : ∀ row : String, row.toList ≠ [] → ∃ m, matchRowToAcl v row R excl = .ok (some (m, R)) ∧
    (m.isReverse && m.rule.cantDelete.all id) = false)
include hR

theorem applyAclList_fix (fatal : Bool) (path : List String) :
    (ks : List (String × Cfg)) → allRowsNonEmptyL ks = true → applyAclList v fatal excl R path ks = .ok ks
  | [], _ => by rw [applyAclList]
  | (row, .mk ch) :: rest, h => by
    rw [allRowsNonEmptyL, allRowsNonEmpty] at h
    simp only [Bool.and_eq_true, Bool.not_eq_true', List.isEmpty_eq_false_iff] at h
    obtain ⟨m, hm, hc⟩ := hR row h.1.1
    rw [applyAclList]
    simp only [hm, hc, applyAcl, applyAclList_fix fatal (path ++ [row]) ch h.1.2, applyAclList_fix fatal path rest h.2,
      Bool.false_eq_true, if_false, Except.map]

/-- Rules that hand every non-empty row the same rules again, in the mode of the run, keep a whole tree. -/
theorem applyAcl_fix (fatal : Bool) (path : List String) :
    (t : Cfg) → allRowsNonEmpty t = true → applyAcl v fatal excl R path t = .ok t
  | .mk ks, h => (applyAcl_ok_iff ..).2 ⟨ks, applyAclList_fix hR fatal path ks (by rwa [allRowsNonEmpty] at h), rfl⟩
end

theorem directPat_tilde (rid : String) (cd : List Bool) (prio : Nat) (names : List String) :
    directPat (Rule.mk rid "~" false cd prio names none) = some { toks := [.tilde] } := by
  simp only [directPat, Rule.row]; decide +kernel

section
variable (rid : String) (cd : List Bool) (prio : Nat) (names : List String)

theorem findMatches_tilde (v : Vendor) (row : String) (rp : Pat)
    (hj : v.juniper = false) (hrow : row.toList ≠ [])
    (hrev : reversePat v (Rule.mk rid "~" false cd prio names none) = some rp) :
    ∃ ms, findMatches v row ⟨[], [Rule.mk rid "~" false cd prio names none]⟩ = some ms ∧ ms ≠ [] ∧
      ∀ m ∈ ms, m.rule = Rule.mk rid "~" false cd prio names none ∧ m.crAllowed = false := by
  simp only [findMatches, List.map_nil, List.map_cons, List.nil_append, hj]
  have ht : ({ toks := [.tilde] } : Pat).match? row.toList = some [row.toList] := Pattern.Lemmas.tilde_last false hrow
  simp [directPat_tilde, hrev, ht]
  -- the direct match always, the reverse match if `rp` matches too
  cases rp.match? row.toList <;> refine ⟨_, rfl, sortStable_cons_ne_nil _ _, fun m hm => ?_⟩ <;>
    simp only [mem_sortStable, List.flatten_cons, List.flatten_nil, List.append_nil, List.mem_cons,
      List.not_mem_nil, or_false] at hm
  · subst hm; exact ⟨rfl, rfl⟩
  · rcases hm with rfl | rfl <;> exact ⟨rfl, rfl⟩

theorem matchRow_tilde (v : Vendor) (excl : Bool) (rp : Pat) (hj : v.juniper = false)
    (hcd : cd.all (fun b => b) = false)
    (hrev : reversePat v (Rule.mk rid "~" false cd prio names none) = some rp)
    (hx : (names.zip cd).length ≤ 1 ∨ excl = false) (row : String) (hrow : row.toList ≠ []) :
    ∃ m, matchRowToAcl v row ⟨[], [Rule.mk rid "~" false cd prio names none]⟩ excl =
        .ok (some (m, ⟨[], [Rule.mk rid "~" false cd prio names none]⟩)) ∧
      (m.isReverse && m.rule.cantDelete.all id) = false := by
  obtain ⟨ms, hfm, hne, hall⟩ := findMatches_tilde rid cd prio names v row rp hj hrow hrev
  cases ms with
  | nil => exact absurd rfl hne
  | cons f tl =>
    have hf := hall f (List.mem_cons_self ..)
    refine ⟨f, ?_, by rw [hf.1, Rule.cantDelete, show cd.all _root_.id = false from hcd, Bool.and_false]⟩
    have hex : (excl && decide ((canDeleteNames (f :: tl)).length > 1)) = false := by
      rcases hx with hx | rfl
      · have := canDeleteNames_len (names.zip cd) hx (f :: tl)
          (fun m hm => by rw [(hall m hm).1]; rfl)
        simp; intro _; omega
      · rfl
    rw [matchRowToAcl, hfm]
    simp only [hex, Bool.false_eq_true, if_false]
    simp [selectMatch, hf.1, hf.2, Rule.ignore, mergeDicts_nil_left]

theorem findMatches_tilde_none (v : Vendor) (row : String)
    (hrev : reversePat v (Rule.mk rid "~" false cd prio names none) = none) :
    findMatches v row ⟨[], [Rule.mk rid "~" false cd prio names none]⟩ = none := by
  simp only [findMatches, List.map_nil, List.map_cons, List.nil_append]
  simp [directPat_tilde, hrev]

theorem cover_list (v : Vendor) (fatal excl : Bool) (rp : Pat) (hj : v.juniper = false)
    (hcd : cd.all (fun b => b) = false)
    (hrev : reversePat v (Rule.mk rid "~" false cd prio names none) = some rp)
    (hx : (names.zip cd).length ≤ 1 ∨ excl = false) (path : List String) :
    (ks : List (String × Cfg)) → allRowsNonEmptyL ks = true →
      applyAclList v fatal excl ⟨[], [Rule.mk rid "~" false cd prio names none]⟩ path ks = .ok ks :=
  applyAclList_fix (matchRow_tilde rid cd prio names v excl rp hj hcd hrev hx) fatal path
end

/-- Some hypothesis on the reverse form of the rule is needed: the negation word `""` (or any word with a
regex metacharacter) puts the reverse row `" ~"` outside the grammar, so the model answers
`.error .grammar` for every non-empty tree. -/
example :
    (match applyAcl { reverse := "", juniper := false } false false
        ⟨[], [Rule.mk "~" "~" false [false] 0 ["g"] none]⟩ [] (.mk [("a", .mk [])]) with
     | .error .grammar => true
     | _ => false) = true ∧ allRowsNonEmpty (.mk [("a", .mk [])]) = true := by decide +kernel

theorem global_tilde_covers_everything_of_reverse (v : Vendor) (fatal excl : Bool) (cd : List Bool) (prio : Nat)
    (names : List String) (id : String) (path : List String) (t : Cfg)
    (hj : v.juniper = false) (hcd : cd.all (fun b => b) = false) (hne : allRowsNonEmpty t = true)
    (hx : (names.zip cd).length ≤ 1 ∨ excl = false)
    (hrev : (reversePat v (Rule.mk id "~" false cd prio names none)).isSome = true) :
    applyAcl v fatal excl ⟨[], [Rule.mk id "~" false cd prio names none]⟩ path t = .ok t := by
  cases hr : reversePat v (Rule.mk id "~" false cd prio names none) with
  | none => rw [hr] at hrev; cases hrev
  | some rp => exact applyAcl_fix (matchRow_tilde id cd prio names v excl rp hj hcd hr hx) fatal path t hne

end Annet.Acl.Lemmas
