/-
Characters and lines under the C04 text functions: `splitNl` undoes `joinNl` on lines without line breaks, and what
`strip`, `lstrip`, `parseIndent`, `hasInfix` and suffixes see of a row behind `blanks n`.  (`strip` alone: `Lemmas/Offside`.)
-/
import AnnetModel.Spec.FormatSplit
import AnnetModel.Lemmas.Offside

namespace Annet.FormatSplit.Lemmas
open Annet Annet.Offside Annet.Offside.Lemmas Annet.FormatSplit

theorem splitNl_ne_nil (s : Str) : splitNl s ≠ [] := by
  induction s with
  | nil => simp [splitNl]
  | cons c cs ih =>
    simp only [splitNl]
    split
    · simp
    · split <;> simp

theorem splitNl_of_not_mem (l : Str) (h : '\n' ∉ l) : splitNl l = [l] := by
  induction l with
  | nil => simp [splitNl]
  | cons c cs ih =>
    have hc : c ≠ '\n' := by
      intro e; apply h; simp [e]
    have hcs : '\n' ∉ cs := by
      intro e; apply h; simp [e]
    simp only [splitNl, beq_iff_eq, hc, if_false, ih hcs]

theorem splitNl_append_nl (l rest : Str) (h : '\n' ∉ l) :
    splitNl (l ++ '\n' :: rest) = l :: splitNl rest := by
  induction l with
  | nil => simp [splitNl]
  | cons c cs ih =>
    have hc : c ≠ '\n' := by
      intro e; apply h; simp [e]
    have hcs : '\n' ∉ cs := by
      intro e; apply h; simp [e]
    simp only [List.cons_append, splitNl, beq_iff_eq, hc, if_false, ih hcs]

theorem splitNl_joinNl (ls : List Str) (hne : ls ≠ []) (h : ∀ l ∈ ls, '\n' ∉ l) :
    splitNl (joinNl ls) = ls := by
  induction ls with
  | nil => exact absurd rfl hne
  | cons l rest ih =>
    cases rest with
    | nil =>
      simp only [joinNl]
      exact splitNl_of_not_mem l (h l (by simp))
    | cons l' ls =>
      simp only [joinNl]
      rw [splitNl_append_nl l _ (h l (by simp))]
      rw [ih (by simp) (fun x hx => h x (by simp [hx]))]

/-- Whatever is done with the lines of `joinNl ls` is done with `ls`, as long as it does not tell the one empty line
of the empty text from no line. -/
theorem splitNl_joinNl_under {α : Type} (F : List Str → α) (hF : F [[]] = F []) (ls : List Str)
    (h : ∀ l ∈ ls, '\n' ∉ l) : F (splitNl (joinNl ls)) = F ls := by
  cases ls with
  | nil => exact hF
  | cons l rest => rw [splitNl_joinNl _ (List.cons_ne_nil _ _) h]

theorem pw_splitNl_ne_nil (text : Str) : splitNl text ≠ [] := splitNl_ne_nil text

/-- the step of `splitNl` without the arm that is never taken -/
theorem splitNl_cons (c : Char) (cs : Str) : ∃ l ls, splitNl cs = l :: ls ∧
    splitNl (c :: cs) = if c = '\n' then [] :: l :: ls else (c :: l) :: ls := by
  obtain ⟨l, ls, e⟩ := List.exists_cons_of_ne_nil (splitNl_ne_nil cs)
  exact ⟨l, ls, e, by simp [splitNl, e]⟩

theorem pw_splitNl_noNl (text : Str) : ∀ l ∈ splitNl text, '\n' ∉ l := by
  induction text with
  | nil => simp [splitNl]
  | cons c cs ih =>
    obtain ⟨l, ls, e, e'⟩ := splitNl_cons c cs
    rw [e] at ih
    rw [e']
    split
    · simpa using ih
    · rename_i hc
      simpa [Ne.symm hc] using ih

theorem strMul_blanks (w n : Nat) : strMul (blanks w) n = blanks (w * n) := by
  induction n with
  | zero => simp [strMul, blanks]
  | succ n ih =>
    simp only [strMul, blanks] at ih ⊢
    rw [List.replicate_succ, List.flatten_cons, ih, Nat.mul_succ, Nat.add_comm,
      List.replicate_append_replicate]

theorem mem_blanks {c : Char} {n : Nat} (h : c ∈ blanks n) : c = ' ' := (List.mem_replicate.1 h).2

theorem mem_blanks_append {c : Char} (hc : c ≠ ' ') (n : Nat) (r : Str) : c ∈ blanks n ++ r ↔ c ∈ r := by
  rw [List.mem_append]
  exact ⟨fun h => h.elim (fun h => absurd (mem_blanks h) hc) id, .inr⟩

theorem blanks_succ (n : Nat) : blanks (n + 1) = ' ' :: blanks n := List.replicate_succ

theorem blanks_ws (n : Nat) : (blanks n).all (fun c => c == ' ' || c == '\t') = true :=
  List.all_eq_true.2 fun _ h => by rw [mem_blanks h]; rfl

theorem lstrip_blanks (n : Nat) (r : Str) : lstrip (blanks n ++ r) = lstrip r := lstrip_append_ws _ r (blanks_ws n)

theorem lstrip_id (l : Str) (h : l.head?.any pyIsSpace = false) : lstrip l = l := by
  cases l with
  | nil => rfl
  | cons c t => exact List.dropWhile_cons_of_neg (by simpa using h)

theorem dropWhile_blanks (n : Nat) (r : Str) (h : r.head?.any pyIsSpace = false) :
    (blanks n ++ r).dropWhile pyIsSpace = r :=
  (lstrip_blanks n r).trans (lstrip_id r h)

theorem strip_blanks (n : Nat) (r : Str) (h1 : r.head?.any pyIsSpace = false)
    (h2 : r.getLast?.any pyIsSpace = false) : strip (blanks n ++ r) = r := by
  rw [strip, lstrip_blanks, lstrip_id r h1, lstrip_id _ (by rwa [List.head?_reverse]),
    List.reverse_reverse]

theorem ne_of_not_space {c d : Char} (hc : pyIsSpace c = false) (hd : pyIsSpace d = true) :
    c ≠ d := by
  rintro rfl
  rw [hc] at hd
  cases hd

theorem parseIndent_blanks (n : Nat) (c : Char) (t : List Char) (h : pyIsSpace c = false) :
    parseIndent (blanks n ++ c :: t) = n := by
  rw [parseIndent_append_ws _ _ (blanks_ws n), parseIndent_nonspace (c :: t) fun _ e => Option.some.inj e ▸ h, blanks,
    List.length_replicate, Nat.add_zero]

theorem suffix_blanks {c : Char} {cs : Str} (hc : c ≠ ' ') (n : Nat) (r : Str)
    (h : (c :: cs) <:+ blanks n ++ r) : (c :: cs) <:+ r := by
  induction n with
  | zero => simpa [blanks] using h
  | succ n ih =>
    simp only [blanks, List.replicate_succ, List.cons_append] at h
    rcases List.suffix_cons_iff.mp h with h | h
    · exact absurd (List.cons.inj h).1 hc
    · exact ih h

theorem hasInfix_blanks (pat : Str) (c : Char) (hc : c ≠ ' ') (r : Str) :
    ∀ n, hasInfix (c :: pat) (blanks n ++ r) = hasInfix (c :: pat) r
  | 0 => by simp [blanks]
  | n + 1 => by
    have : blanks (n + 1) ++ r = ' ' :: (blanks n ++ r) := by simp [blanks, List.replicate_succ]
    rw [this, hasInfix, hasInfix_blanks pat c hc r n]
    simp [hc]

end Annet.FormatSplit.Lemmas
