/-
C19.  Dict operations through `Assoc`; `Inv`: the `entire_results` dict holds the winners of the results
seen so far; `lookup_foldl_items`: a dict loop read key by key (`new_files`, the upload loop, `_diff_files`);
`parse_result` after its loop; `splitlines` inverted by `unlines` on canonical texts.
-/
import AnnetModel.Spec.Files
import AnnetModel.Lemmas.Assoc

namespace Annet.Files.Lemmas
open Annet.Files Annet.Files.Spec

theorem lookup_eq {β : Type} (k : Path) (d : List (Path × β)) : lookup k d = Assoc.lookup k d := by
  induction d with
  | nil => rfl
  | cons e d ih => simp only [lookup, Assoc.lookup, ih]

theorem dictSet_eq {β : Type} (d : List (Path × β)) (k : Path) (v : β) : dictSet d k v = Assoc.upsert k v d := by
  induction d with
  | nil => rfl
  | cons e d ih => simp only [dictSet, Assoc.upsert, ih]

theorem lookup_dictSet {β : Type} (d : List (Path × β)) (k k' : Path) (v : β) :
    lookup k' (dictSet d k v) = if k = k' then some v else lookup k' d := by
  rw [lookup_eq, dictSet_eq, Assoc.lookup_upsert, lookup_eq]

theorem mem_dictSet {β : Type} (d : List (Path × β)) (k : Path) (v : β) (e : Path × β)
    (h : e ∈ dictSet d k v) : e ∈ d ∨ e = (k, v) :=
  Assoc.mem_upsert (dictSet_eq d k v ▸ h)

theorem noDupKeys_dictSet {β : Type} (d : List (Path × β)) (k : Path) (v : β)
    (h : NoDupKeys d) : NoDupKeys (dictSet d k v) :=
  dictSet_eq d k v ▸ Assoc.nodup_upsert k v h

theorem lookup_eq_none_iff {β : Type} (d : List (Path × β)) (k : Path) :
    lookup k d = none ↔ k ∉ keys d :=
  lookup_eq k d ▸ Assoc.lookup_eq_none_iff

theorem lookup_mem {β : Type} (d : List (Path × β)) (k : Path) (v : β)
    (h : lookup k d = some v) : (k, v) ∈ d :=
  Assoc.mem_of_lookup (lookup_eq k d ▸ h)

theorem mem_lookup {β : Type} (d : List (Path × β)) (k : Path) (v : β)
    (hn : NoDupKeys d) (h : (k, v) ∈ d) : lookup k d = some v :=
  lookup_eq k d ▸ Assoc.lookup_of_mem hn h

/-- invariant of the `entire_results` dict while results `seen` have been added -/
structure Inv (acc : Results) (seen : List EntireResult) : Prop where
  absent : ∀ p, lookup p acc = none → ∀ r ∈ seen, r.path = p → p = []
  winner : ∀ p r, lookup p acc = some r → IsWinner seen p r
  keyed : ∀ kv ∈ acc, kv.2.path = kv.1
  nodup : NoDupKeys acc

theorem inv_nil : Inv [] [] :=
  ⟨fun _ _ _ h => (nomatch h), fun _ _ h => (nomatch h), fun _ h => (nomatch h), List.nodup_nil⟩

theorem isWinner_snoc {seen : List EntireResult} {p : Path} {r : EntireResult} (x : EntireResult)
    (h : IsWinner seen p r) (hx : x.path = p → x.prio ≤ r.prio) : IsWinner (seen ++ [x]) p r := by
  refine ⟨List.mem_append_left _ h.1, h.2.1, h.2.2.1, fun r' hr' hp' => ?_⟩
  rcases List.mem_append.mp hr' with hr' | hr'
  · exact h.2.2.2 r' hr' hp'
  · cases List.mem_singleton.mp hr'
    exact hx hp'

theorem Inv.keep {acc : Results} {seen : List EntireResult} (h : Inv acc seen) (x : EntireResult)
    (hx : x.path = [] ∨ ∃ cur, lookup x.path acc = some cur ∧ x.prio ≤ cur.prio) :
    Inv acc (seen ++ [x]) := by
  refine ⟨fun p hp r hr hrp => ?_, fun p r hl => isWinner_snoc x (h.winner p r hl) fun hxp => ?_,
    h.keyed, h.nodup⟩
  · rcases List.mem_append.mp hr with hr | hr
    · exact h.absent p hp r hr hrp
    · cases List.mem_singleton.mp hr
      rcases hx with hx | ⟨cur, hc, _⟩
      · exact hrp ▸ hx
      · rw [hrp, hp] at hc; cases hc
  · rcases hx with hx | ⟨cur, hc, hle⟩
    · exact absurd (hxp ▸ hx) (h.winner p r hl).2.2.1
    · rw [hxp, hl] at hc; cases hc; exact hle

theorem Inv.set {acc : Results} {seen : List EntireResult} (h : Inv acc seen) (x : EntireResult)
    (hx : x.path ≠ []) (hlt : ∀ cur, lookup x.path acc = some cur → cur.prio < x.prio) :
    Inv (dictSet acc x.path x) (seen ++ [x]) := by
  refine ⟨fun p hp r hr hrp => ?_, fun p r hl => ?_, fun kv hkv => ?_, noDupKeys_dictSet _ _ _ h.nodup⟩
  · rw [lookup_dictSet] at hp
    split at hp
    · cases hp
    · rename_i hne
      rcases List.mem_append.mp hr with hr | hr
      · exact h.absent p hp r hr hrp
      · cases List.mem_singleton.mp hr
        exact absurd hrp hne
  · rw [lookup_dictSet] at hl
    split at hl
    · rename_i hp
      cases hl
      subst hp
      refine ⟨List.mem_append_right _ (List.mem_singleton_self _), rfl, hx, fun r' hr' hp' => ?_⟩
      rcases List.mem_append.mp hr' with hr' | hr'
      · cases hc : lookup x.path acc with
        | none => exact absurd (h.absent _ hc r' hr' hp') hx
        | some cur => exact Int.le_trans ((h.winner _ _ hc).2.2.2 r' hr' hp') (Int.le_of_lt (hlt cur hc))
      · cases List.mem_singleton.mp hr'
        exact Int.le_refl _
    · rename_i hne
      exact isWinner_snoc x (h.winner p r hl) fun hxp => absurd hxp hne
  · rcases mem_dictSet _ _ _ _ hkv with hkv | hkv
    · exact h.keyed kv hkv
    · subst hkv; rfl

theorem addEntire_inv (acc : Results) (seen : List EntireResult) (x : EntireResult)
    (h : Inv acc seen) : Inv (addEntire acc x) (seen ++ [x]) := by
  unfold addEntire
  split
  · rename_i hx
    exact h.keep x (Or.inl hx)
  · rename_i hx
    split
    · rename_i hl
      exact h.set x hx fun cur hc => by rw [hl] at hc; cases hc
    · rename_i cur hl
      split
      · rename_i hgt
        exact h.set x hx fun cur' hc => by rw [hl] at hc; cases hc; exact hgt
      · rename_i hgt
        exact h.keep x (Or.inr ⟨cur, hl, Int.not_lt.mp hgt⟩)

theorem foldl_addEntire_inv (rs : List EntireResult) (acc : Results) (seen : List EntireResult)
    (h : Inv acc seen) : Inv (rs.foldl addEntire acc) (seen ++ rs) := by
  induction rs generalizing acc seen with
  | nil => simpa using h
  | cons x rest ih =>
    have := ih (addEntire acc x) (seen ++ [x]) (addEntire_inv acc seen x h)
    simpa using this

theorem winner_unique (rs : List EntireResult) (hd : DistinctPrio rs) (p : Path)
    (r₁ r₂ : EntireResult) (h₁ : IsWinner rs p r₁) (h₂ : IsWinner rs p r₂) : r₁ = r₂ := by
  have hd' : rs.Pairwise fun a b => a ≠ b → a.path = b.path → a.prio ≠ b.prio :=
    hd.imp fun {a b} h (_ : a ≠ b) => h
  refine Classical.byContradiction fun hne => ?_
  exact hd'.forall_of_forall_of_flip (fun _ _ h => absurd rfl h)
    (hd'.imp fun h hne hp hq => h hne.symm hp.symm hq.symm) h₁.1 h₂.1 hne (h₁.2.1.trans h₂.2.1.symm)
    (Int.le_antisymm (h₂.2.2.2 r₁ h₁.1 h₁.2.1) (h₁.2.2.2 r₂ h₂.1 h₂.2.1))

theorem distinctPrio_perm {rs rs' : List EntireResult} (hp : rs.Perm rs') (hd : DistinctPrio rs) :
    DistinctPrio rs' := by
  unfold DistinctPrio at *
  exact (hp.pairwise_iff (fun {a b} hab hpath => (hab hpath.symm).symm)).mp hd

theorem isWinner_perm {rs rs' : List EntireResult} (hp : rs.Perm rs') (p : Path) (r : EntireResult) :
    IsWinner rs p r ↔ IsWinner rs' p r := by
  unfold IsWinner
  constructor
  · rintro ⟨h1, h2, h3, h4⟩
    exact ⟨hp.mem_iff.mp h1, h2, h3, fun r' hr' => h4 r' (hp.mem_iff.mpr hr')⟩
  · rintro ⟨h1, h2, h3, h4⟩
    exact ⟨hp.mem_iff.mpr h1, h2, h3, fun r' hr' => h4 r' (hp.mem_iff.mp hr')⟩

/-- `entire_results` after adding `rs` in order -/
def entireResults (rs : List EntireResult) : Results := rs.foldl addEntire []

theorem entireResults_inv (rs : List EntireResult) : Inv (entireResults rs) rs := by
  have := foldl_addEntire_inv rs [] [] inv_nil
  simpa [entireResults] using this

theorem lookup_entireResults_iff (rs : List EntireResult) (hd : DistinctPrio rs) (p : Path)
    (r : EntireResult) : lookup p (entireResults rs) = some r ↔ IsWinner rs p r := by
  have inv := entireResults_inv rs
  constructor
  · exact inv.winner p r
  · intro hw
    cases hl : lookup p (entireResults rs) with
    | none => exact absurd (inv.absent p hl r hw.1 hw.2.1) hw.2.2.1
    | some r₀ => rw [winner_unique rs hd p r₀ r (inv.winner p r₀ hl) hw]

theorem lookup_entireResults_perm {rs rs' : List EntireResult} (hp : rs.Perm rs')
    (hd : DistinctPrio rs) (p : Path) :
    lookup p (entireResults rs') = lookup p (entireResults rs) :=
  Option.ext fun r => by
    rw [lookup_entireResults_iff rs' (distinctPrio_perm hp hd), lookup_entireResults_iff rs hd,
      isWinner_perm hp]

/-- a generator "raises" when running it alone ends in an exception other than `NotSupportedDevice` -/
def raises (dev : Dev) (g : Gen) : Prop :=
  ∃ e, runEntireGenerator dev g = .error e ∧ e ≠ .notSupported

theorem runFrom_iff (dev : Dev) (gens : List Gen) (acc res : Results) :
    runFileGeneratorsFrom dev gens acc = .ok res ↔
      (∀ g ∈ gens, ¬ raises dev g) ∧ res = (produced dev gens).foldl addEntire acc := by
  induction gens generalizing acc with
  | nil => exact ⟨fun h => ⟨nofun, (Except.ok.inj h).symm⟩, fun h => h.2 ▸ rfl⟩
  | cons g gs ih =>
    rw [List.forall_mem_cons]
    unfold runFileGeneratorsFrom raises
    simp only [produced, List.filterMap_cons]
    split
    · rename_i he
      rw [ih, he]
      exact and_congr_left fun _ => ⟨fun h => ⟨fun ⟨_, h1, h2⟩ => h2 (Except.error.inj h1).symm, h⟩, And.right⟩
    · rename_i e hne he
      exact ⟨nofun, fun h => absurd ⟨e, he, hne⟩ h.1.1⟩
    · rename_i he
      rw [ih, he]
      exact and_congr_left fun _ => ⟨fun h => ⟨fun ⟨_, h1, _⟩ => (nomatch h1), h⟩, And.right⟩
    · rename_i r he
      rw [ih, he]
      exact and_congr_left fun _ => ⟨fun h => ⟨fun ⟨_, h1, _⟩ => (nomatch h1), h⟩, And.right⟩

theorem runFileGenerators_inv (dev : Dev) (gens : List Gen) (res : Results)
    (h : runFileGenerators dev gens = .ok res) : Inv res (produced dev gens) :=
  ((runFrom_iff dev gens [] res).1 h).2 ▸ entireResults_inv _

theorem produced_perm {dev : Dev} {gens gens' : List Gen} (hp : gens.Perm gens') :
    (produced dev gens).Perm (produced dev gens') := by
  unfold produced
  exact hp.filterMap _

theorem mem_produced (dev : Dev) (gens : List Gen) (r : EntireResult) :
    r ∈ produced dev gens ↔ ∃ g ∈ gens, runEntireGenerator dev g = .ok (some r) := by
  unfold produced
  simp only [List.mem_filterMap]
  constructor
  · rintro ⟨g, hg, h⟩
    refine ⟨g, hg, ?_⟩
    split at h
    · rename_i r' he; simp at h; subst h; exact he
    · simp at h
  · rintro ⟨g, hg, h⟩
    exact ⟨g, hg, by simp [h]⟩

/-- `for k, a in l.items(): …` over a dict `l`, where all the body does to the dict `proj s` is to bind its own key `k`
to `g (k, a)`, if that is something -/
theorem lookup_foldl_items {σ α β : Type} (proj : σ → List (Path × β)) (step : σ → Path × α → σ)
    (g : Path × α → Option β) (l : List (Path × α))
    (hstep : ∀ kv ∈ l, ∀ s p, lookup p (proj (step s kv)) =
      if kv.1 = p then (g kv).or (lookup p (proj s)) else lookup p (proj s))
    (hn : NoDupKeys l) (s : σ) (p : Path) :
    lookup p (proj (l.foldl step s)) = ((lookup p l).bind fun a => g (p, a)).or (lookup p (proj s)) := by
  induction l generalizing s with
  | nil => rfl
  | cons kv rest ih =>
    obtain ⟨k, a⟩ := kv
    have hn' := List.nodup_cons.mp hn
    rw [List.foldl_cons, ih (fun kv h => hstep kv (List.mem_cons_of_mem _ h)) hn'.2, hstep (k, a) List.mem_cons_self]
    simp only [lookup]
    by_cases hk : k = p
    · subst hk
      simp only [(lookup_eq_none_iff rest k).mpr hn'.1, if_true, Option.bind_none, Option.none_or, Option.bind_some]
    · simp only [hk, if_false]

theorem lookup_newFiles (safe : Bool) (res : Results) (hk : ∀ kv ∈ res, kv.2.path = kv.1)
    (hn : NoDupKeys res) (p : Path) :
    lookup p (newFiles safe res) = (lookup p res).bind (planned safe) :=
  (lookup_foldl_items id _ (fun kv => planned safe kv.2) res (fun kv h s p => by
    rw [← hk kv h]; dsimp only [id, planned]; split <;> simp [lookup_dictSet]) hn [] p).trans Option.or_none

theorem planned_eq_some_iff (safe : Bool) (r : EntireResult) (o rl : Text) :
    planned safe r = some (o, rl) ↔ (safe = true → r.isSafe = true) ∧ o = r.output ∧ rl = r.reload := by
  cases safe <;> cases hs : r.isSafe <;> simp [planned, hs, eq_comm]

theorem noDupKeys_newFiles (safe : Bool) (res : Results) : NoDupKeys (newFiles safe res) :=
  List.foldlRecOn res _ (motive := NoDupKeys) List.nodup_nil fun s h kv _ => by
    split
    · exact noDupKeys_dictSet _ _ _ h
    · exact h

instance (ud : UDiff) (inp : JobIn) (p : Path) (c : Text) : Decidable (uploads ud inp p c) :=
  inferInstanceAs (Decidable (_ ∨ _))

theorem uploadStep_fields (ud : UDiff) (inp : JobIn) (st : JobOut) (kv : Path × (Text × Text)) :
    (uploadStep ud inp st kv).files =
      (if uploads ud inp kv.1 kv.2.1 then dictSet st.files kv.1 kv.2.1 else st.files) ∧
    (uploadStep ud inp st kv).cmds =
      (if uploads ud inp kv.1 kv.2.1 ∧ inp.reload.enable then dictSet st.cmds kv.1 kv.2.2 else st.cmds) ∧
    ((uploadStep ud inp st kv).hasDiff = false → st.hasDiff = false ∧ ¬ uploads ud inp kv.1 kv.2.1) := by
  have hu : (decide (joinNl (diffFile ud (lookup kv.1 inp.oldFiles) kv.2.1) ≠ []) || inp.reload.isForce) = true ↔
      uploads ud inp kv.1 kv.2.1 := by simp [uploads, Reload.isForce]
  unfold uploadStep
  dsimp only
  by_cases h : uploads ud inp kv.1 kv.2.1
  · rw [if_pos (hu.2 h)]
    cases inp.reload.enable <;> simp [h]
  · rw [if_neg (mt hu.1 h)]
    simp [h]

theorem finishFiles_cmds (before after : Text) (files cmds pre cmds' pre' : List (Path × Text))
    (hn : NoDupKeys files)
    (h : finishFiles before after files cmds pre = some (cmds', pre')) (p : Path) :
    lookup p cmds' = (lookup p cmds).map (fun c =>
      if after ≠ [] ∧ (lookup p files).isSome then c ++ ['\n'] ++ after else c) := by
  induction files generalizing cmds pre with
  | nil =>
    cases h
    simp only [lookup, Option.isSome_none, Bool.false_eq_true, and_false, if_false, Option.map_id']
  | cons kv rest ih =>
    have hn' := List.nodup_cons.mp hn
    by_cases ha : after = []
    · subst ha
      simp only [finishFiles, ne_eq, not_true_eq_false, if_false] at h
      rw [ih _ _ hn'.2 h]
      simp only [ne_eq, not_true_eq_false, false_and, if_false]
    · simp only [finishFiles, ne_eq, ha, not_false_eq_true, if_true] at h
      cases hc : lookup kv.1 cmds with
      | none => rw [hc] at h; cases h
      | some c =>
        rw [hc] at h
        simp only [ne_eq, ha, not_false_eq_true, true_and, lookup] at ih ⊢
        rw [ih _ _ hn'.2 h, lookup_dictSet]
        by_cases hkp : kv.1 = p
        · subst hkp
          simp only [if_true, hc, Option.map_some, Option.isSome_some, (lookup_eq_none_iff rest kv.1).mpr hn'.1,
            Option.isSome_none, Bool.false_eq_true, if_false]
        · simp only [hkp, if_false]

theorem finishFiles_isSome (before after : Text) (files cmds pre : List (Path × Text))
    (h : after = [] ∨ ∀ k, (lookup k files).isSome → (lookup k cmds).isSome) :
    (finishFiles before after files cmds pre).isSome := by
  induction files generalizing cmds pre with
  | nil => rfl
  | cons kv rest ih =>
    by_cases ha : after = []
    · subst ha
      simp only [finishFiles, ne_eq, not_true_eq_false, if_false]
      exact ih _ _ (.inl rfl)
    · simp only [finishFiles, ne_eq, ha, not_false_eq_true, if_true]
      have h := h.resolve_left ha
      cases hc : lookup kv.1 cmds with
      | none => simpa [lookup, hc] using h kv.1
      | some c =>
        refine ih _ _ (.inr fun k hk => ?_)
        rw [lookup_dictSet]
        split
        · rfl
        · rename_i hne
          exact h k (by simpa [lookup, hne] using hk)

/-- the job state after the `for file, … in new_files.items()` loop -/
def afterLoop (ud : UDiff) (inp : JobIn) : JobOut := inp.newFiles.foldl (uploadStep ud inp) {}

theorem afterLoop_files (ud : UDiff) (inp : JobIn) (hn : NoDupKeys inp.newFiles) (p : Path) :
    lookup p (afterLoop ud inp).files =
      (lookup p inp.newFiles).bind (fun cr => if uploads ud inp p cr.1 then some cr.1 else none) := by
  unfold afterLoop
  rw [lookup_foldl_items JobOut.files _ (fun kv => if uploads ud inp kv.1 kv.2.1 then some kv.2.1 else none) _
    (fun kv _ s p => by rw [(uploadStep_fields ud inp s kv).1]; split <;> simp [lookup_dictSet]) hn]
  exact Option.or_none

theorem afterLoop_cmds (ud : UDiff) (inp : JobIn) (hn : NoDupKeys inp.newFiles) (p : Path) :
    lookup p (afterLoop ud inp).cmds =
      (lookup p inp.newFiles).bind (fun cr =>
        if uploads ud inp p cr.1 ∧ inp.reload.enable then some cr.2 else none) := by
  unfold afterLoop
  rw [lookup_foldl_items JobOut.cmds _ (fun kv => if uploads ud inp kv.1 kv.2.1 ∧ inp.reload.enable then some kv.2.2 else none) _
    (fun kv _ s p => by rw [(uploadStep_fields ud inp s kv).2.1]; split <;> simp [lookup_dictSet]) hn]
  exact Option.or_none

theorem afterLoop_noDup_files (ud : UDiff) (inp : JobIn) : NoDupKeys (afterLoop ud inp).files :=
  List.foldlRecOn inp.newFiles _ (motive := fun s : JobOut => NoDupKeys s.files) List.nodup_nil fun s h kv _ => by
    rw [(uploadStep_fields ud inp s kv).1]
    split
    · exact noDupKeys_dictSet _ _ _ h
    · exact h

/-- `_has_diff` stays unset only while no file is scheduled, and `finishFiles` of no files returns `cmds` as they are:
what the test `if self._has_diff` guards changes neither `files` nor `cmds`. -/
theorem afterLoop_files_nil (ud : UDiff) (inp : JobIn) :
    (afterLoop ud inp).hasDiff = false → (afterLoop ud inp).files = [] :=
  List.foldlRecOn inp.newFiles _ (motive := fun s : JobOut => s.hasDiff = false → s.files = []) (fun _ => rfl)
    fun s ih kv _ h => by
      obtain ⟨hf, _, hd⟩ := uploadStep_fields ud inp s kv
      rw [hf, if_neg (hd h).2]
      exact ih (hd h).1

theorem parseResult_eq (ud : UDiff) (inp : JobIn) (he : inp.err = false) :
    parseResult ud inp =
      if (afterLoop ud inp).hasDiff then
        match finishFiles (joinNl inp.drv.before) (joinNl (inp.drv.after ++ inp.drv.exit))
            (afterLoop ud inp).files (afterLoop ud inp).cmds [] with
        | none => .error .keyError
        | some (cmds, pre) => .ok { afterLoop ud inp with deployed := true, cmds := cmds, cmdsPre := pre }
      else .ok (afterLoop ud inp) := by
  unfold parseResult afterLoop
  rw [he, if_neg Bool.false_ne_true]
  split
  · rename_i hn; rw [hn]; rfl
  · rfl

theorem parseResult_ok_inv (ud : UDiff) (inp : JobIn) (out : JobOut) (he : inp.err = false)
    (h : parseResult ud inp = .ok out) :
    out.files = (afterLoop ud inp).files ∧ ∃ pre,
      finishFiles (joinNl inp.drv.before) (joinNl (inp.drv.after ++ inp.drv.exit))
        (afterLoop ud inp).files (afterLoop ud inp).cmds [] = some (out.cmds, pre) := by
  rw [parseResult_eq ud inp he] at h
  split at h
  · split at h
    · cases h
    · rename_i cmds pre hf
      cases h
      exact ⟨rfl, pre, hf⟩
  · rename_i hd
    cases h
    rw [afterLoop_files_nil ud inp (Bool.not_eq_true _ ▸ hd)]
    exact ⟨rfl, [], rfl⟩

theorem parseResult_files (ud : UDiff) (inp : JobIn) (out : JobOut) (he : inp.err = false)
    (hn : NoDupKeys inp.newFiles) (h : parseResult ud inp = .ok out) (p : Path) :
    lookup p out.files =
      (lookup p inp.newFiles).bind (fun cr => if uploads ud inp p cr.1 then some cr.1 else none) := by
  rw [(parseResult_ok_inv ud inp out he h).1, afterLoop_files ud inp hn p]

theorem parseResult_files_iff (ud : UDiff) (inp : JobIn) (out : JobOut) (he : inp.err = false)
    (hn : NoDupKeys inp.newFiles) (h : parseResult ud inp = .ok out) (p : Path) (c : Text) :
    lookup p out.files = some c ↔ ∃ rl, lookup p inp.newFiles = some (c, rl) ∧ uploads ud inp p c := by
  rw [parseResult_files ud inp out he hn h p, Option.bind_eq_some_iff]
  constructor
  · rintro ⟨⟨c', rl⟩, hl, hc⟩
    split at hc
    · rename_i hu
      cases hc
      exact ⟨rl, hl, hu⟩
    · cases hc
  · rintro ⟨rl, hl, hu⟩
    exact ⟨(c, rl), hl, if_pos hu⟩

theorem parseResult_cmds (ud : UDiff) (inp : JobIn) (out : JobOut) (he : inp.err = false)
    (hn : NoDupKeys inp.newFiles) (h : parseResult ud inp = .ok out) (p : Path) :
    lookup p out.cmds =
      (lookup p inp.newFiles).bind (fun cr =>
        if uploads ud inp p cr.1 ∧ inp.reload.enable then some (cr.2 ++ driverTail inp.drv) else none) := by
  obtain ⟨_, pre, hf⟩ := parseResult_ok_inv ud inp out he h
  rw [finishFiles_cmds _ _ _ _ _ _ _ (afterLoop_noDup_files ud inp) hf p, afterLoop_cmds ud inp hn p,
    afterLoop_files ud inp hn p]
  cases lookup p inp.newFiles with
  | none => rfl
  | some cr =>
    by_cases hu : uploads ud inp p cr.1 ∧ inp.reload.enable = true
    · by_cases ha : joinNl (inp.drv.after ++ inp.drv.exit) = [] <;> simp [hu, ha, driverTail]
    · simp [hu]

theorem joinNl_nil : joinNl [] = [] := rfl

theorem diffFile_join_ne_nil_iff (ud : UDiff) (hud : UdSpec ud) (old : Option Text) (c : Text) :
    joinNl (diffFile ud old c) ≠ [] ↔ linesOf old ≠ linesOf (some c) :=
  ⟨fun h heq => h (congrArg joinNl ((hud _ _).1 heq)), (hud _ _).2⟩

theorem diffFile_ne_nil_iff (ud : UDiff) (hud : UdSpec ud) (old : Option Text) (c : Text) :
    diffFile ud old c ≠ [] ↔ linesOf old ≠ linesOf (some c) :=
  ⟨fun h heq => h ((hud _ _).1 heq), fun h hnil => (hud _ _).2 h (congrArg joinNl hnil)⟩

theorem uploads_iff (ud : UDiff) (hud : UdSpec ud) (inp : JobIn) (p : Path) (c : Text) :
    uploads ud inp p c ↔ (linesOf (lookup p inp.oldFiles) ≠ linesOf (some c) ∨ inp.reload = .force) :=
  or_congr_left (diffFile_join_ne_nil_iff ud hud _ c)

theorem mem_insertByPath {β : Type} (x e : Path × β) (l : List (Path × β)) :
    e ∈ insertByPath x l ↔ e = x ∨ e ∈ l := by
  induction l with
  | nil => simp [insertByPath]
  | cons y ys ih =>
    simp only [insertByPath]
    split
    · simp
    · simp only [List.mem_cons, ih, or_left_comm]

theorem mem_sortByPath {β : Type} (e : Path × β) (l : List (Path × β)) :
    e ∈ sortByPath l ↔ e ∈ l := by
  induction l with
  | nil => simp [sortByPath]
  | cons y ys ih =>
    simp only [sortByPath, List.foldr_cons] at ih ⊢
    rw [mem_insertByPath, ih]; simp

theorem lookup_diffFiles (ud : UDiff) (old : List (Path × Text)) (new : NewFiles)
    (hn : NoDupKeys new) (p : Path) :
    lookup p (diffFiles ud old new) =
      (lookup p new).map (fun cr => (diffFile ud (lookup p old) cr.1, (lookup p old).isNone)) := by
  refine (lookup_foldl_items id _ (fun kv => some (diffFile ud (lookup kv.1 old) kv.2.1, (lookup kv.1 old).isNone)) new
    (fun kv _ s p => by simp [lookup_dictSet]) hn [] p).trans ?_
  cases lookup p new <;> rfl

theorem noDupKeys_diffFiles (ud : UDiff) (old : List (Path × Text)) (new : NewFiles) :
    NoDupKeys (diffFiles ud old new) :=
  List.foldlRecOn new _ (motive := NoDupKeys) List.nodup_nil fun _ h _ _ => noDupKeys_dictSet _ _ _ h

theorem shown_iff (ud : UDiff) (old : List (Path × Text)) (new : NewFiles) (hn : NoDupKeys new)
    (p : Path) (c rl : Text) (hl : lookup p new = some (c, rl)) :
    (∃ e ∈ pcDiffEntries ud old new, e.1 = p) ↔ diffFile ud (lookup p old) c ≠ [] := by
  have hlk := lookup_diffFiles ud old new hn p
  rw [hl] at hlk
  simp only [Option.map_some] at hlk
  unfold pcDiffEntries
  constructor
  · rintro ⟨e, he, hep⟩
    rw [List.mem_filter, mem_sortByPath] at he
    obtain ⟨k, v⟩ := e
    simp only at hep; subst hep
    have := mem_lookup _ _ _ (noDupKeys_diffFiles ud old new) he.1
    rw [hlk] at this
    simp at this
    have h2 := he.2
    simp only [decide_eq_true_eq] at h2
    rw [← this] at h2
    exact h2
  · intro hne
    refine ⟨(p, (diffFile ud (lookup p old) c, (lookup p old).isNone)), ?_, rfl⟩
    rw [List.mem_filter, mem_sortByPath]
    exact ⟨lookup_mem _ _ _ hlk, by simpa using hne⟩

theorem endsNl_tail (c : Char) (rest : Text) (h : endsNlOrEmpty (c :: rest) = true) :
    endsNlOrEmpty rest = true := by
  cases rest with
  | nil => rfl
  | cons c' r => exact h

theorem unlines_splitAux (t cur : Text) (hsep : ∀ c ∈ t, isSep c = true → c = '\n')
    (hend : endsNlOrEmpty t = true) (hcur : t = [] → cur = []) :
    unlines (splitAux false t cur) = cur.reverse ++ t := by
  induction t generalizing cur with
  | nil => simp [hcur rfl, splitAux, unlines]
  | cons c rest ih =>
    have hsep' : ∀ c' ∈ rest, isSep c' = true → c' = '\n' :=
      fun c' hc' => hsep c' (List.mem_cons_of_mem _ hc')
    simp only [splitAux, Bool.false_and, Bool.false_eq_true, if_false]
    by_cases hs : isSep c = true
    · have hc : c = '\n' := hsep c List.mem_cons_self hs
      subst hc
      simp only [hs, if_true]
      have hcr : ('\n' == '\r') = false := by decide
      rw [hcr]
      have := ih [] hsep' (endsNl_tail _ rest hend) (fun _ => rfl)
      simp only [unlines, List.flatMap_cons] at this ⊢
      rw [this]; simp
    · have hs' : isSep c = false := by simpa using hs
      simp only [hs', Bool.false_eq_true, if_false]
      have hne : rest ≠ [] := by
        intro h; subst h
        simp only [endsNlOrEmpty, beq_iff_eq] at hend
        subst hend
        exact hs (by decide)
      have := ih (c :: cur) hsep' (endsNl_tail c rest hend) (fun h => absurd h hne)
      rw [this]; simp

theorem unlines_splitlines (t : Text) (h : Canonical t) : unlines (splitlines t) = t := by
  have := unlines_splitAux t [] h.1 h.2 (fun _ => rfl)
  simpa [splitlines] using this

theorem splitlines_nil : splitlines [] = [] := by simp [splitlines, splitAux]

theorem linesOf_some (t : Text) : linesOf (some t) = splitlines t := by
  simp only [linesOf]
  split
  · rename_i h; rw [h, splitlines_nil]
  · rfl

theorem splitlines_injective (a b : Text) (ha : Canonical a) (hb : Canonical b)
    (h : splitlines a = splitlines b) : a = b := by
  rw [← unlines_splitlines a ha, ← unlines_splitlines b hb, h]

theorem linesOf_eq_iff_canonical (old : Option Text) (c : Text)
    (hold : ∀ o, old = some o → Canonical o) (hc : Canonical c) (hmiss : old = none → c ≠ []) :
    linesOf old = linesOf (some c) ↔ old = some c := by
  cases old with
  | none =>
    simp only [reduceCtorEq, iff_false]
    intro h
    rw [linesOf_some] at h
    have := unlines_splitlines c hc
    rw [← h] at this
    exact hmiss rfl (by simpa [linesOf, unlines] using this.symm)
  | some o =>
    rw [linesOf_some, linesOf_some]
    constructor
    · intro h; rw [splitlines_injective o c (hold o rfl) hc h]
    · intro h; cases h; rfl

theorem udToy_spec : UdSpec udToy := by
  intro a b
  constructor
  · intro h; simp [udToy, h]
  · intro h; simp [udToy, h, joinNl, joinWith]

end Annet.Files.Lemmas
