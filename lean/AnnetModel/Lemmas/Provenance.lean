/-
The provenance of patch commands (C02 clause (a)): `patch_provenance` is the instance of the induction over the
recursion of `make_patch` (`PreLemmas.makePatchWith_induct`) whose step is `prov_step`.
-/
import AnnetModel.Lemmas.ProvenanceBase

namespace Annet.Patch
open Annet.Rules Annet.Diff

/-- one level of `make_patch` with the common logics keeps provenance: a raw item comes from one yield of one bucket
(`PreLemmas.itemsOfPre_mem`, `PreLemmas.yields_nrel`), the yield from an entry of that bucket (`Prov.runLogic_ok`), the
entry from the diff (`PreLemmas.InvR.mem_bucket`) -/
theorem prov_step (v : Vendor) (doCommit : Bool) : PreLemmas.PatchStep runLogic v doCommit fun _ d T => ProvT v d T := by
  intro ord d rec out hout ih
  apply Prov.buildTree_prov
  intro x hx
  obtain ⟨R, hR, it, hit, chunk, hchunk, hxc⟩ := PreLemmas.itemsOfPre_mem _ _ _ _ _ _ _ hout x hx
  have hP := PreLemmas.makePre_inv d
  obtain ⟨e', he', hr', ha'⟩ := (hP.2.1 R hR).2
  unfold PreLemmas.bucketRun at hchunk
  split at hchunk
  · cases hchunk
  · next ys hys =>
    obtain ⟨y, hy, hrow, -, hfc, hdir, -, o, ho, -, -, hsub⟩ :=
      (PreLemmas.yields_nrel _ _ _ _ _ _ ys chunk hchunk).mem_right x hxc
    have hy : y ∈ ys := by
      split at hy
      · cases hy
      · exact hy
    refine ⟨fun hf => ⟨e', he', by rw [ha', ← hfc]; exact hf⟩, ?_⟩
    rcases Prov.runLogic_ok v _ it ys hys y hy with ⟨hd, xe, hxe, h1, h2⟩ | ⟨hd, hs, hrev, xe, hxe⟩
    · obtain ⟨op, hop, hb⟩ := Prov.mem_changed hxe
      obtain ⟨e, he, heop, -, -, rfl⟩ := (hP.mem_bucket hR hit).1 hb
      rw [h2, PreLemmas.entryOf_children] at hsub
      exact .inl ⟨hdir.trans hd, e, he, heop ▸ hop, by rw [hrow, h1, PreLemmas.entryOf_row],
        ih e he o _ ⟨⟨_, _, ho⟩, hsub⟩⟩
    · obtain ⟨op, hop, hb⟩ := Prov.mem_remOrMoved hxe
      obtain ⟨e, he, heop, heraw, hekey, rfl⟩ := (hP.mem_bucket hR hit).1 hb
      refine .inr ⟨hdir.trans hd, e, e', he, heop ▸ hop, he', hr'.trans heraw.symm, ?_⟩
      rw [ha', hekey, hrow]
      exact hrev

theorem patch_provenance (v : Vendor) (ordering : List ORule) (doCommit : Bool) (d : List DItem) (p : PTree)
    (h : makePatch v ordering doCommit (makePre d) = .ok p) : ProvT v d p := by
  obtain ⟨T, hT, rfl⟩ := PreLemmas.makePatchWith_induct (prov_step v doCommit) h
  exact Prov.sortTree_prov v T d hT

/-- the row of any item, sent as a leaf command, stems from the diff as the item does -/
theorem ProvI.toLeaf {v : Vendor} {d : List DItem} {row : String} {o : Option PTree} {k k' : SortKey}
    (h : ProvI v d (row, o, k)) : ProvI v d (row, none, k') := by
  cases h with
  | leaf he hop => exact .leaf he hop
  | block he hop _ => exact .leaf he hop
  | reverse he hop he' hrr hrc => exact .reverse he hop he' hrr hrc
  | commit he' hfc => exact .commit he' hfc

end Annet.Patch
