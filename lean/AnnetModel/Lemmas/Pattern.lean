/-
Lemmas about `matchToks` / `stripLit` / `joinWords` on normalised rows (C07).  On a row of clean words `matchToks` obeys
the equation `refWords` is defined by: the first token takes the first word whole, the remaining tokens go on after the
blank (`matchToks_word`, `refWords_word`).  The removal command built from the key of any row a rule matches is matched
again with that key (`match_roundtrip`).
-/
import AnnetModel.Spec.Pattern

namespace Annet.Pattern.Lemmas
open Annet.Pattern Annet.Offside

theorem space_isSpace : pyIsSpace ' ' = true := by decide

theorem charEq_refl (ic : Bool) (a : Char) : charEq ic a a = true := by
  cases ic <;> simp [charEq]

theorem charEq_false_true {a b : Char} (h : charEq false a b = true) : charEq true a b = true := by
  simp [charEq] at h
  subst h
  exact charEq_refl true a

theorem toNat_ofNat_small (n : Nat) (h : n < 1000) : (Char.ofNat n).toNat = n := by
  have hv : n.isValidChar := by simp [Nat.isValidChar]; omega
  simp [Char.ofNat, hv, Char.ofNatAux, Char.toNat]

theorem lower_eq_space {a : Char} (h : lower a = ' ') : a = ' ' := by
  unfold lower at h
  split at h
  · rename_i hr
    simp only [Bool.and_eq_true, decide_eq_true_eq] at hr
    have h1 : 65 ≤ a.toNat := hr.1
    have h2 : a.toNat ≤ 90 := hr.2
    have h3 : (Char.ofNat (a.toNat + 32)).toNat = a.toNat + 32 :=
      toNat_ofNat_small _ (by omega)
    rw [h] at h3
    have : (' ' : Char).toNat = 32 := by decide
    omega
  · exact h

theorem charEq_space {ic : Bool} {a : Char} (ha : pyIsSpace a = false) : charEq ic a ' ' = false := by
  cases ic
  · simp [charEq]; rintro rfl; simp [space_isSpace] at ha
  · simp only [charEq, if_true]
    have hl : lower ' ' = ' ' := by decide
    rw [hl]
    apply Bool.eq_false_iff.mpr
    intro h
    have := lower_eq_space (by simpa using h)
    subst this
    simp [space_isSpace] at ha

/-- no whitespace: the second half of `cleanWord` -/
def NoSp (w : List Char) : Prop := ∀ c ∈ w, pyIsSpace c = false

/-- starts with a non-blank character -/
def Good (r : List Char) : Prop := ∃ c r', r = c :: r' ∧ pyIsSpace c = false

/-- what may follow a word in a normalised row: nothing, or one blank -/
def Tail (rest : List Char) : Prop := rest = [] ∨ ∃ r, rest = ' ' :: r

theorem joinWords_nil : joinWords [] = [] := rfl

theorem joinWords_single (w : List Char) : joinWords [w] = w := by
  simp [joinWords, List.intercalate]

theorem joinWords_cons2 (w w2 : List Char) (ws : List (List Char)) :
    joinWords (w :: w2 :: ws) = w ++ ' ' :: joinWords (w2 :: ws) := by
  simp [joinWords, List.intercalate]

theorem joinWords_cons_ne (w : List Char) {ws : List (List Char)} (h : ws ≠ []) :
    joinWords (w :: ws) = w ++ ' ' :: joinWords ws := by
  cases ws with
  | nil => exact absurd rfl h
  | cons w2 ws => exact joinWords_cons2 w w2 ws

theorem splitBlank_ne_nil (l : List Char) : splitBlank l ≠ [] := by
  cases l with
  | nil => simp [splitBlank]
  | cons c cs =>
    rw [splitBlank]
    split
    · simp
    · split <;> simp

theorem joinWords_cons_char (c : Char) (w : List Char) (ws : List (List Char)) :
    joinWords ((c :: w) :: ws) = c :: joinWords (w :: ws) := by
  cases ws <;> simp [joinWords, List.intercalate]

/-- splitting on blanks and joining with blanks gives the row back -/
theorem joinWords_splitBlank (l : List Char) : joinWords (splitBlank l) = l := by
  induction l with
  | nil => rfl
  | cons c cs ih =>
    rw [splitBlank]
    split
    · next hc => rw [joinWords_cons_ne [] (splitBlank_ne_nil cs), ih, beq_iff_eq.1 hc]; rfl
    · split
      · next h0 => exact absurd h0 (splitBlank_ne_nil cs)
      · next w ws hs => rw [joinWords_cons_char, ← hs, ih]

theorem splitBlank_word (pre rest : List Char) (hpre : ∀ c ∈ pre, c ≠ ' ') :
    splitBlank (pre ++ ' ' :: rest) = pre :: splitBlank rest := by
  induction pre with
  | nil => simp [splitBlank]
  | cons c cs ih =>
    have hc : (c == ' ') = false := by simpa using hpre c (List.mem_cons_self ..)
    rw [List.cons_append, splitBlank, hc, ih (fun d hd => hpre d (List.mem_cons_of_mem _ hd))]
    simp

theorem good_of_clean_append {w : List Char} (h : cleanWord w) (r : List Char) : Good (w ++ r) := by
  obtain ⟨hne, hs⟩ := h
  cases w with
  | nil => exact absurd rfl hne
  | cons c w => exact ⟨c, w ++ r, rfl, hs c (by simp)⟩

theorem good_of_clean {w : List Char} (h : cleanWord w) : Good w := by
  simpa using good_of_clean_append h []

theorem good_joinWords {w : List Char} (h : cleanWord w) (ws : List (List Char)) :
    Good (joinWords (w :: ws)) := by
  cases ws with
  | nil => rw [joinWords_single]; exact good_of_clean h
  | cons w2 ws => rw [joinWords_cons2]; exact good_of_clean_append h _

theorem not_good_nil : ¬ Good [] := by
  rintro ⟨c, r, h, _⟩; cases h

theorem stripLit_self (ic : Bool) (w r : List Char) : stripLit ic w (w ++ r) = some r := by
  induction w with
  | nil => simp [stripLit]
  | cons a w ih => simp [stripLit, charEq_refl, ih]

theorem stripLit_refl (ic : Bool) (w : List Char) : stripLit ic w w = some [] := by
  simpa using stripLit_self ic w []

theorem stripLit_append (ic : Bool) {w : List Char} (hw : NoSp w) (x : List Char) {rest : List Char}
    (hr : Tail rest) : stripLit ic w (x ++ rest) = (stripLit ic w x).map (· ++ rest) := by
  induction w generalizing x with
  | nil => simp [stripLit]
  | cons a w ih =>
    have ha : pyIsSpace a = false := hw a (by simp)
    have hw' : NoSp w := fun c hc => hw c (by simp [hc])
    cases x with
    | nil =>
      rcases hr with rfl | ⟨r, rfl⟩
      · simp [stripLit]
      · simp [stripLit, charEq_space ha]
    | cons b x =>
      simp only [List.cons_append, stripLit]
      split
      · exact ih hw' x
      · rfl

theorem stripLit_noSp {ic : Bool} {w x r : List Char} (hx : NoSp x) (h : stripLit ic w x = some r) :
    NoSp r := by
  induction w generalizing x with
  | nil => simp [stripLit] at h; subst h; exact hx
  | cons a w ih =>
    cases x with
    | nil => simp [stripLit] at h
    | cons b x =>
      simp only [stripLit] at h
      split at h
      · exact ih (fun c hc => hx c (by simp [hc])) h
      · cases h

theorem stripLit_false_true {w r r' : List Char} (h : stripLit false w r = some r') :
    stripLit true w r = some r' := by
  induction w generalizing r with
  | nil => simpa [stripLit] using h
  | cons a w ih =>
    cases r with
    | nil => simp [stripLit] at h
    | cons b r =>
      simp only [stripLit] at h ⊢
      split at h
      · rename_i hc
        rw [if_pos (charEq_false_true hc)]
        exact ih h
      · cases h

theorem span_word {x : List Char} (hx : NoSp x) {rest : List Char} (hr : Tail rest) :
    (x ++ rest).takeWhile (fun c => !pyIsSpace c) = x ∧ (x ++ rest).dropWhile (fun c => !pyIsSpace c) = rest := by
  have hx' : ∀ c ∈ x, (!pyIsSpace c) = true := fun c hc => by rw [hx c hc]; rfl
  rw [List.takeWhile_append_of_pos hx', List.dropWhile_append_of_pos hx']
  rcases hr with rfl | ⟨r, rfl⟩ <;> simp [space_isSpace]

theorem sep_nil : sep [] = none := rfl

theorem sep_good {r : List Char} (h : Good r) : sep r = none := by
  obtain ⟨c, r', rfl, hc⟩ := h
  simp [sep, hc]

theorem sep_space {r : List Char} (h : Good r) : sep (' ' :: r) = some r := by
  obtain ⟨c, r', rfl, hc⟩ := h
  simp [sep, space_isSpace, List.dropWhile, hc]

theorem boundary_tail {rest : List Char} (h : Tail rest) : boundary false rest = true := by
  rcases h with rfl | ⟨r, rfl⟩
  · rfl
  · simp [boundary, space_isSpace]

theorem boundary_good {r : List Char} (h : Good r) : boundary false r = false := by
  obtain ⟨c, r', rfl, hc⟩ := h
  simp [boundary, hc]

theorem lit_ne_tilde (w : List Char) : (Tok.lit w == Tok.tilde) = false := by
  simp

theorem star_ne_tilde : (Tok.star == Tok.tilde) = false := by
  simp

theorem stripLit_word (ic : Bool) {w x : List Char} (hw : cleanWord w) (hx : NoSp x)
    {rest : List Char} (hr : Tail rest) :
    (stripLit ic w x = some [] ∧ stripLit ic w (x ++ rest) = some rest) ∨
    (stripLit ic w x ≠ some [] ∧
      (stripLit ic w (x ++ rest) = none ∨ ∃ r', stripLit ic w (x ++ rest) = some r' ∧ Good r')) := by
  rw [stripLit_append ic hw.2 x hr]
  cases h : stripLit ic w x with
  | none => exact .inr ⟨by simp, .inl rfl⟩
  | some r =>
    cases r with
    | nil => exact .inl ⟨rfl, by simp⟩
    | cons c r =>
      exact .inr ⟨by simp, .inr ⟨_, rfl, c, r ++ rest, rfl, stripLit_noSp hx h c (by simp)⟩⟩

theorem isEmpty_of_clean {x : List Char} (hx : cleanWord x) : x.isEmpty = false := by
  cases x with
  | nil => exact absurd rfl hx.1
  | cons _ _ => rfl

/-- what a literal or `*` does with one whole word: `refWords` on that word -/
def wordOne (ic : Bool) : Tok → List Char → Option (List (List Char))
  | .lit w, x => if stripLit ic w x = some [] then some [] else none
  | .star, x => some [x]
  | .tilde, _ => none

/-- a literal of a clean word, or `*` -/
def WordTok : Tok → Prop
  | .lit w => cleanWord w
  | .star => True
  | .tilde => False

/-- what follows the first word of a normalised row: nothing, or one blank and the next word -/
def Rest (rest : List Char) : Prop := rest = [] ∨ ∃ r, rest = ' ' :: r ∧ Good r

theorem Rest.tail {rest : List Char} (h : Rest rest) : Tail rest := by
  rcases h with rfl | ⟨r, rfl, _⟩
  · exact .inl rfl
  · exact .inr ⟨r, rfl⟩

theorem matchToks_word (ic : Bool) {t : Tok} (ht : WordTok t) {x : List Char} (hx : cleanWord x) (more : List Tok)
    {rest : List Char} (hr : Rest rest) :
    matchToks ic false (t :: more) (x ++ rest) =
      (wordOne ic t x).bind fun caps =>
        match more, rest with
        | [], _ => some caps
        | _ :: _, [] => none
        | t' :: m, _ :: r => (matchToks ic false (t' :: m) r).map (caps ++ ·) := by
  -- `matchOne` takes the whole word and leaves `rest`, or leaves a remainder that is neither a boundary nor a separator
  have one : (∃ caps, wordOne ic t x = some caps ∧ matchOne ic t (x ++ rest) = some (caps, rest)) ∨
      (wordOne ic t x = none ∧
        (matchOne ic t (x ++ rest) = none ∨ ∃ caps r', matchOne ic t (x ++ rest) = some (caps, r') ∧ Good r')) := by
    cases t with
    | lit w =>
      rcases stripLit_word ic ht hx.2 hr.tail with ⟨h1, h2⟩ | ⟨h1, h2 | ⟨r', h2, hg⟩⟩
      · exact .inl ⟨[], by simp [wordOne, h1], by simp [matchOne, h2]⟩
      · exact .inr ⟨by simp [wordOne, h1], .inl (by simp [matchOne, h2])⟩
      · exact .inr ⟨by simp [wordOne, h1], .inr ⟨[], r', by simp [matchOne, h2], hg⟩⟩
    | star =>
      exact .inl ⟨[x], rfl, by simp [matchOne, span_word hx.2 hr.tail, isEmpty_of_clean hx]⟩
    | tilde => exact ht.elim
  have hnt : (t == Tok.tilde) = false := by cases t <;> first | rfl | exact ht.elim
  rw [matchToks]
  rcases one with ⟨caps, hw, hm⟩ | ⟨hw, hm | ⟨caps, r', hm, hg⟩⟩
  · rw [hw, hm]
    cases more with
    | nil => simp [hnt, boundary_tail hr.tail]
    | cons t' m =>
      rcases hr with rfl | ⟨r, rfl, hg⟩
      · simp [sep_nil]
      · simp only [sep_space hg, Option.bind_some]
  · rw [hw, hm]; rfl
  · rw [hw, hm]
    cases more with
    | nil => simp [hnt, boundary_good hg]
    | cons t' m => simp [sep_good hg]

theorem star_last (ic : Bool) {x : List Char} (hx : cleanWord x) {rest : List Char} (hr : Tail rest) :
    matchToks ic false [.star] (x ++ rest) = some [x] := by
  simp [matchToks, matchOne, span_word hx.2 hr, isEmpty_of_clean hx, boundary_tail hr]

theorem tilde_last (ic : Bool) {r : List Char} (hr : r ≠ []) :
    matchToks ic false [.tilde] r = some [r] := by
  cases r with
  | nil => exact absurd rfl hr
  | cons c r => simp [matchToks, matchOne]

theorem stripLit_false_cons {c : Char} {w l r : List Char} (h : stripLit false (c :: w) l = some r) :
    ∃ rest, l = c :: rest := by
  cases l with
  | nil => simp [stripLit] at h
  | cons b rest =>
    simp only [stripLit, charEq, Bool.false_eq_true, if_false] at h
    split at h
    · rename_i hcb
      exact ⟨rest, by rw [beq_iff_eq.1 hcb]⟩
    · cases h

/-- a pattern that begins with the literal `w`: the row begins with `w`; a last literal ends at a boundary, otherwise
whitespace follows and the remaining tokens go on after it (any row, any flags) -/
theorem matchToks_lit (ic ell : Bool) (w : List Char) (more : List Tok) (row : List Char) :
    matchToks ic ell (.lit w :: more) row =
      (stripLit ic w row).bind fun r =>
        match more with
        | [] => if boundary ell r then some [] else none
        | t :: m => (sep r).bind fun r2 => matchToks ic ell (t :: m) r2 := by
  rw [matchToks, matchOne]
  cases stripLit ic w row with
  | none => rfl
  | some r =>
    cases more with
    | nil => rfl
    | cons t m =>
      simp only [Option.map_some, Option.bind_some]
      cases sep r with
      | none => rfl
      | some r2 => simp

theorem sep_some {r r2 : List Char} (h : sep r = some r2) :
    ∃ c rest, r = c :: rest ∧ pyIsSpace c = true ∧ r2 = r.dropWhile pyIsSpace := by
  unfold sep at h
  cases r with
  | nil => cases h
  | cons c rest =>
    simp only at h
    split at h
    · next hc => exact ⟨c, rest, rfl, hc, (Option.some.inj h).symm⟩
    · cases h

/-- a pattern that begins with a literal matches only rows that begin with its first character -/
theorem lit_head {c : Char} {w l : List Char} {ell : Bool} {more : List Tok} {k : List (List Char)}
    (h : matchToks false ell (.lit (c :: w) :: more) l = some k) : ∃ rest, l = c :: rest := by
  rw [matchToks_lit] at h
  obtain ⟨r, hs, -⟩ := Option.bind_eq_some_iff.1 h
  exact stripLit_false_cons hs

theorem match_lit_first {ic ell : Bool} {pre : List Char} {t : Tok} {ts : List Tok} {row : List Char}
    (h : (matchToks ic ell (.lit pre :: t :: ts) row).isSome = true) :
    ∃ c rest, stripLit true pre row = some (c :: rest) ∧ pyIsSpace c = true := by
  rw [matchToks_lit] at h
  cases hs : stripLit ic pre row with
  | none => simp [hs] at h
  | some r =>
    simp only [hs, Option.bind_some] at h
    cases hsep : sep r with
    | none => simp [hsep] at h
    | some r2 =>
      obtain ⟨c, rest, rfl, hc, _⟩ := sep_some hsep
      exact ⟨c, rest, by cases ic <;> first | exact stripLit_false_true hs | exact hs, hc⟩

theorem matchLits_prefix (ws : List (List Char)) (hne : ws ≠ []) (hw : ∀ w ∈ ws, cleanWord w)
    (tail : List Char) (ht : Tail tail) :
    matchToks false false (ws.map Tok.lit) (joinWords ws ++ tail) = some [] := by
  induction ws with
  | nil => exact absurd rfl hne
  | cons w ws ih =>
    cases ws with
    | nil => simp [joinWords_single, matchToks_lit, stripLit_self, boundary_tail ht]
    | cons w2 ws =>
      have hw2 : cleanWord w2 := hw w2 (by simp)
      have hg : Good (joinWords (w2 :: ws) ++ tail) := by
        obtain ⟨c, r, hcr, hc⟩ := good_joinWords hw2 ws
        exact ⟨c, r ++ tail, by rw [hcr]; rfl, hc⟩
      rw [joinWords_cons2, List.map_cons, List.append_assoc, List.cons_append, matchToks_lit, stripLit_self]
      simp only [List.map_cons, Option.bind_some, sep_space hg]
      exact ih (by simp) (fun x hx => hw x (by simp [hx]))

theorem refWords_nil_right (ic : Bool) (t : Tok) (m : List Tok) : refWords ic (t :: m) [] = none := by
  cases t with
  | lit w => simp [refWords]
  | star => simp [refWords]
  | tilde =>
    cases m with
    | nil => simp [refWords]
    | cons _ _ => simp [refWords]

theorem matchToks_nil_right (ic : Bool) (t : Tok) (m : List Tok) (hwf : WFToks (t :: m)) :
    matchToks ic false (t :: m) [] = none := by
  cases t with
  | lit w =>
    have hw : cleanWord w := by
      cases m <;> exact hwf.1
    obtain ⟨hne, _⟩ := hw
    cases w with
    | nil => exact absurd rfl hne
    | cons a w => simp [matchToks, matchOne, stripLit]
  | star => simp [matchToks, matchOne]
  | tilde => simp [matchToks, matchOne]

theorem joinWords_cons_rest {ws : List (List Char)} (hws : ∀ w ∈ ws, cleanWord w) (x : List Char) :
    ∃ rest, joinWords (x :: ws) = x ++ rest ∧ Rest rest ∧ (rest = [] ↔ ws = []) ∧
      ∀ c r, rest = c :: r → r = joinWords ws := by
  cases ws with
  | nil => exact ⟨[], by simp [joinWords_single], .inl rfl, by simp, fun _ _ h => by cases h⟩
  | cons w2 ws =>
    exact ⟨_, joinWords_cons2 x w2 ws, .inr ⟨_, rfl, good_joinWords (hws w2 (by simp)) ws⟩, by simp,
      fun _ _ h => by cases h; rfl⟩

theorem refWords_word (ic : Bool) {t : Tok} (ht : WordTok t) (x : List Char) (more : List Tok) (ws : List (List Char)) :
    refWords ic (t :: more) (x :: ws) = (wordOne ic t x).bind fun caps => (refWords ic more ws).map (caps ++ ·) := by
  cases t with
  | lit w =>
    simp only [refWords, wordOne, beq_iff_eq]
    split <;> simp
  | star => simp [refWords, wordOne]
  | tilde => exact ht.elim

theorem wf_cons {t : Tok} {more : List Tok} (h : WFToks (t :: more)) :
    (WordTok t ∧ WFToks more) ∨ (t = .tilde ∧ more = []) := by
  cases t with
  | lit w => cases more <;> exact .inl (by simpa [WFToks, WordTok] using h)
  | star => exact .inl ⟨trivial, by simpa [WFToks] using h⟩
  | tilde =>
    cases more with
    | nil => exact .inr ⟨rfl, rfl⟩
    | cons _ _ => simp [WFToks] at h

theorem matchOne_length {ic : Bool} {t : Tok} {rest rest' : List Char} {caps : List (List Char)}
    (h : matchOne ic t rest = some (caps, rest')) : caps.length = holes [t] := by
  cases t with
  | lit w =>
    simp only [matchOne, Option.map_eq_some_iff] at h
    obtain ⟨_, _, h⟩ := h
    cases h; rfl
  | star =>
    simp only [matchOne] at h
    split at h
    · cases h
    · cases h; rfl
  | tilde =>
    simp only [matchOne] at h
    split at h
    · cases h
    · cases h; rfl

theorem holes_cons (t : Tok) (more : List Tok) : holes (t :: more) = holes [t] + holes more := by
  simp only [holes, List.countP_cons, List.countP_nil]; omega

theorem holes_lit (w : List Char) (more : List Tok) : holes (.lit w :: more) = holes more :=
  List.countP_cons_of_neg (by simp)

theorem holes_star (more : List Tok) : holes (.star :: more) = holes more + 1 :=
  List.countP_cons_of_pos rfl

theorem holes_tilde (more : List Tok) : holes (.tilde :: more) = holes more + 1 :=
  List.countP_cons_of_pos rfl

theorem key_length (ic ell : Bool) (toks : List Tok) (row : List Char)
    (key : List (List Char))
    (h : matchToks ic ell toks row = some key) : key.length = holes toks := by
  fun_induction matchToks ic ell toks row generalizing key with
  | case1 => cases h; rfl
  | case4 _ _ _ _ hm => cases h; exact matchOne_length hm
  | case7 _ _ _ _ hm _ _ _ _ ih =>
    obtain ⟨k', hk', rfl⟩ := Option.map_eq_some_iff.1 h
    rw [holes_cons, List.length_append, matchOne_length hm, ih _ hk']
  | _ => cases h

theorem endsWithTilde_cons {t t' : Tok} {m : List Tok} (h : endsWithTilde (t :: t' :: m) = false) :
    endsWithTilde (t' :: m) = false := by
  simpa [endsWithTilde, List.getLast?_cons_cons] using h

def rtok : Tok → RTok
  | .lit w => RTok.word w
  | .star => RTok.hole
  | .tilde => RTok.hole

theorem format_map (toks : List Tok) (key : List (List Char)) (hk : holes toks ≤ key.length) :
    format (toks.map rtok) key = some (subst toks key) := by
  induction toks generalizing key with
  | nil => rfl
  | cons t m ih =>
    cases t with
    | lit w =>
      rw [holes_lit] at hk
      simp only [List.map_cons, rtok, format, subst, ih key hk, Option.map_some]
    | star =>
      rw [holes_star] at hk
      cases key with
      | nil => exact absurd hk (Nat.not_succ_le_zero _)
      | cons k key =>
        simp only [List.map_cons, rtok, format, subst, ih key (Nat.le_of_succ_le_succ hk), Option.map_some]
    | tilde =>
      rw [holes_tilde] at hk
      cases key with
      | nil => exact absurd hk (Nat.not_succ_le_zero _)
      | cons k key =>
        simp only [List.map_cons, rtok, format, subst, ih key (Nat.le_of_succ_le_succ hk), Option.map_some]

theorem makeReverse_eq (pre : List Char) (toks : List Tok) :
    makeReverse pre toks =
      if startsWithPrefixTok pre toks then (toks.drop 1).map rtok else .word pre :: toks.map rtok := by
  have hf : ∀ f : Tok → RTok, (∀ t, f t = rtok t) → ∀ l : List Tok, l.map f = l.map rtok :=
    fun f h l => List.map_congr_left (fun a _ => h a)
  unfold makeReverse
  dsimp only
  rw [hf _ (fun t => by cases t <;> rfl)]
  cases toks with
  | nil => simp [startsWithPrefixTok]
  | cons t m =>
    cases t with
    | lit w =>
      cases m with
      | nil => simp [startsWithPrefixTok]
      | cons t' m' =>
        simp only [startsWithPrefixTok]
        by_cases hw : w = pre <;> simp [hw]
    | star => simp [startsWithPrefixTok]
    | tilde => simp [startsWithPrefixTok]

theorem format_makeReverse (pre : List Char) (toks : List Tok) (key : List (List Char))
    (hk : holes toks ≤ key.length) :
    format (makeReverse pre toks) key =
      some (if startsWithPrefixTok pre toks then subst (toks.drop 1) key else pre :: subst toks key) := by
  rw [makeReverse_eq]
  split
  · rename_i hs
    apply format_map
    cases toks with
    | nil => simpa using hk
    | cons t m =>
      cases t with
      | lit w => rw [holes_lit] at hk; exact hk
      | star => cases m <;> simp [startsWithPrefixTok] at hs
      | tilde => cases m <;> simp [startsWithPrefixTok] at hs
  · simp only [format]
    rw [format_map toks key hk]; rfl

theorem matchOne_false_true {t : Tok} {rest : List Char} {p : List (List Char) × List Char}
    (h : matchOne false t rest = some p) : matchOne true t rest = some p := by
  cases t with
  | lit w =>
    simp only [matchOne, Option.map_eq_some_iff] at h ⊢
    obtain ⟨r, hr, rfl⟩ := h
    exact ⟨r, stripLit_false_true hr, rfl⟩
  | star => simpa [matchOne] using h
  | tilde => simpa [matchOne] using h

theorem sep_out {r r2 : List Char} (h : sep r = some r2) : r2 = [] ∨ Good r2 := by
  obtain ⟨c, rest, rfl, -, rfl⟩ := sep_some h
  generalize c :: rest = l
  induction l with
  | nil => exact .inl rfl
  | cons a l ih =>
    rw [List.dropWhile_cons]
    split
    · exact ih
    · next ha => exact .inr ⟨a, l, rfl, by simpa using ha⟩

/-- the word a literal or `*` stands for in the removal command: the literal itself, or the word `*` was bound to -/
theorem matchOne_word {ic : Bool} {t : Tok} (ht : WordTok t) {row r' : List Char} {caps : List (List Char)}
    (h : matchOne ic t row = some (caps, r')) :
    ∃ y, cleanWord y ∧ wordOne ic t y = some caps ∧
      ∀ more key, subst (t :: more) (caps ++ key) = y :: subst more key := by
  cases t with
  | lit w =>
    simp only [matchOne, Option.map_eq_some_iff, Prod.mk.injEq] at h
    obtain ⟨_, -, rfl, -⟩ := h
    exact ⟨w, ht, by simp [wordOne, stripLit_refl], fun _ _ => rfl⟩
  | star =>
    simp only [matchOne] at h
    split at h
    · cases h
    · next hw =>
      cases h
      refine ⟨_, ⟨fun hnil => hw (by rw [hnil]; rfl), fun x hx => ?_⟩, rfl, fun _ _ => rfl⟩
      simpa using List.all_eq_true.1 List.all_takeWhile x hx
  | tilde => exact ht.elim

/-- the body of the removal command built from ANY row the rule matches is matched by the rule with the same key -/
theorem match_roundtrip (ic : Bool) (toks : List Tok) (row : List Char) (key : List (List Char))
    (hwf : WFToks toks) (hne : toks ≠ []) (h : matchToks ic false toks row = some key) :
    matchToks ic false toks (joinWords (subst toks key)) = some key ∧
      (row = [] ∨ Good row → Good (joinWords (subst toks key))) := by
  fun_induction matchToks ic false toks row generalizing key with
  | case1 => exact absurd rfl hne
  | case4 t row caps r' hm =>
    cases h
    rcases wf_cons hwf with ⟨ht, -⟩ | ⟨rfl, -⟩
    · obtain ⟨y, hy, hwy, hsub⟩ := matchOne_word ht hm
      have := hsub [] []
      rw [List.append_nil] at this
      rw [this]
      simp only [subst, joinWords_single]
      refine ⟨?_, fun _ => good_of_clean hy⟩
      have := matchToks_word ic ht hy [] (rest := []) (.inl rfl)
      rw [List.append_nil] at this
      rw [this, hwy]; rfl
    · cases row with
      | nil => simp [matchOne] at hm
      | cons c r =>
        simp only [matchOne, List.isEmpty_cons, Bool.false_eq_true, if_false, Option.some.injEq, Prod.mk.injEq] at hm
        obtain ⟨rfl, -⟩ := hm
        simp only [subst, joinWords_single]
        exact ⟨tilde_last ic (by simp), fun hg => hg.resolve_left (by simp)⟩
  | case7 t row caps r' hm t' m r2 hs ih =>
    obtain ⟨k', hk', rfl⟩ := Option.map_eq_some_iff.1 h
    rcases wf_cons hwf with ⟨ht, hwf'⟩ | ⟨-, h0⟩
    · obtain ⟨y, hy, hwy, hsub⟩ := matchOne_word ht hm
      obtain ⟨h1, h2⟩ := ih k' hwf' (by simp) hk'
      have h2 := h2 (sep_out hs)
      have hne' : subst (t' :: m) k' ≠ [] := fun h0 => by rw [h0] at h2; exact not_good_nil h2
      rw [hsub, joinWords_cons_ne y hne']
      refine ⟨?_, fun _ => good_of_clean_append hy _⟩
      rw [matchToks_word ic ht hy (t' :: m) (.inr ⟨_, rfl, h2⟩), hwy]
      simp [h1]
    · cases h0
  | _ => first | cases h | exact absurd rfl hne

end Annet.Pattern.Lemmas
