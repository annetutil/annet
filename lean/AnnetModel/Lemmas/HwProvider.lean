/-
C18, the rulebook provider: its caches never change an answer (`Coherent`, `getRulebook_spec`).
-/
import AnnetModel.Spec.Hw
import AnnetModel.Spec.HwChecks

namespace Annet.Hw.Lemmas
open Annet.Hw Annet.Hw.Spec

variable {μ σ ν κ τ β : Type}

theorem pureRender_soft {E : Env μ σ ν κ τ β} (hs : SoftIndependent E) (n : κ) (m : μ) (s s' : σ) :
    pureRender E n m s = pureRender E n m s' := by
  unfold pureRender
  cases E.readEscaped n with
  | none => rfl
  | some esc => simp only [hs esc m s s']

theorem pureGet_soft {E : Env μ σ ν κ τ β} (hs : SoftIndependent E) (m : μ) (s s' : σ) :
    pureGet E m s = pureGet E m s' := by
  unfold pureGet
  simp only [pureRender_soft hs _ m s s']

variable [DecidableEq μ] [DecidableEq κ]

/-- Every cache entry is what a provider without caches would compute. -/
structure Coherent (E : Env μ σ ν κ τ β) (st : Provider μ κ τ β) : Prop where
  rulebooks : ∀ m rb, assocGet m st.rulebooks = some rb → ∀ s, pureGet E m s = .ok rb
  rendered : ∀ n m t, assocGet (n, m) st.rendered = some t → ∀ s, pureRender E n m s = .ok t
  escaped : ∀ n t, assocGet n st.escaped = some t → E.readEscaped n = some t

theorem coherent_fresh (E : Env μ σ ν κ τ β) : Coherent E Provider.fresh :=
  ⟨by intro m rb h; simp [Provider.fresh, assocGet] at h,
   by intro n m t h; simp [Provider.fresh, assocGet] at h,
   by intro n t h; simp [Provider.fresh, assocGet] at h⟩

theorem assocGet_cons_some {γ δ : Type} [DecidableEq γ] {Q : γ → δ → Prop} {k : γ} {v : δ} {l : List (γ × δ)}
    (hv : Q k v) (hl : ∀ k' v', assocGet k' l = some v' → Q k' v') :
    ∀ k' v', assocGet k' ((k, v) :: l) = some v' → Q k' v' := by
  intro k' v' h
  rw [assocGet] at h
  split at h
  · next heq => exact heq ▸ Option.some.inj h ▸ hv
  · exact hl k' v' h

theorem readEscapedRul_spec {E : Env μ σ ν κ τ β} {st : Provider μ κ τ β} (hc : Coherent E st) (n : κ) :
    ∃ st', readEscapedRul E st n = (st', E.readEscaped n) ∧ Coherent E st' := by
  unfold readEscapedRul
  cases hg : assocGet n st.escaped with
  | some t => exact ⟨st, by simp [hc.escaped n t hg], hc⟩
  | none =>
    cases hr : E.readEscaped n with
    | none => exact ⟨st, rfl, hc⟩
    | some t =>
      exact ⟨{ st with escaped := (n, t) :: st.escaped }, rfl, hc.rulebooks, hc.rendered,
        assocGet_cons_some hr hc.escaped⟩

theorem renderRul_spec {E : Env μ σ ν κ τ β} (hs : SoftIndependent E) {st : Provider μ κ τ β}
    (hc : Coherent E st) (n : κ) (m : μ) (s : σ) :
    ∃ st', renderRul E st n m s = (st', pureRender E n m s) ∧ Coherent E st' := by
  unfold renderRul
  cases hg : assocGet (n, m) st.rendered with
  | some t => exact ⟨st, by simp [hc.rendered n m t hg s], hc⟩
  | none =>
    obtain ⟨st1, h1, hc1⟩ := readEscapedRul_spec hc n
    rw [h1]
    unfold pureRender
    cases hr : E.readEscaped n with
    | none => exact ⟨st1, rfl, hc1⟩
    | some esc =>
      dsimp only
      cases hm : E.render esc m s with
      | none => exact ⟨st1, rfl, hc1⟩
      | some t =>
        refine ⟨{ st1 with rendered := ((n, m), t) :: st1.rendered }, rfl, hc1.rulebooks, fun n' m' =>
          assocGet_cons_some (Q := fun k t => ∀ s', pureRender E k.1 k.2 s' = .ok t) (fun s' => ?_)
            (fun k => hc1.rendered k.1 k.2) (n', m'), hc1.escaped⟩
        simp only [pureRender, hr, ← hs esc m s s', hm]

theorem Coherent.cons_rulebook {E : Env μ σ ν κ τ β} (hs : SoftIndependent E) {st : Provider μ κ τ β}
    (hc : Coherent E st) {m : μ} {s : σ} {rb : β × β × β} (h : pureGet E m s = .ok rb) :
    Coherent E { st with rulebooks := (m, rb) :: st.rulebooks } :=
  ⟨assocGet_cons_some (fun s' => (pureGet_soft hs m s' s).trans h) hc.rulebooks, hc.rendered, hc.escaped⟩

theorem getRulebook_spec {E : Env μ σ ν κ τ β} (hs : SoftIndependent E) {st : Provider μ κ τ β}
    (hc : Coherent E st) (m : μ) (s : σ) :
    (getRulebook E st m s).2 = pureGet E m s ∧ Coherent E (getRulebook E st m s).1 := by
  unfold getRulebook
  cases hg : assocGet m st.rulebooks with
  | some rb => exact ⟨(hc.rulebooks m rb hg s).symm, hc⟩
  | none =>
    -- `hdef` keeps `pureGet E m s` folded for the cache entry of the last case; the unfolded copy `hres`
    -- goes through the same case analysis as the goal.  Every exit returns the cache-free value (`h`); the
    -- caches are those after the last `renderRul`, coherent by `renderRul_spec`; only the last exit adds a
    -- rulebook entry.
    generalize hdef : pureGet E m s = res
    have hres := hdef
    unfold pureGet at hres
    revert hres
    cases (E.vendorOf m).filter E.registered with
    | none => exact fun h => ⟨h, hc⟩
    | some v =>
      simp only []
      obtain ⟨st1, h1, hc1⟩ := renderRul_spec hs hc (E.fileName (E.alias v) 0) m s
      obtain ⟨st2, h2, hc2⟩ := renderRul_spec hs hc1 (E.fileName v 1) m s
      obtain ⟨st3, h3, hc3⟩ := renderRul_spec hs hc2 (E.fileName v 2) m s
      rw [h1]
      cases pureRender E (E.fileName (E.alias v) 0) m s with
      | notFound => exact fun h => ⟨h, hc1⟩
      | failed => exact fun h => ⟨h, hc1⟩
      | ok ptext =>
        simp only []
        cases E.compile 0 ptext (E.alias v) with
        | none => exact fun h => ⟨h, hc1⟩
        | some patching =>
          simp only []
          rw [h2]
          cases pureRender E (E.fileName v 1) m s with
          | failed => exact fun h => ⟨h, hc2⟩
          | notFound | ok _ =>
            simp only []
            split
            · next hco => simp only [hco]; exact fun h => ⟨h, hc2⟩
            · next hco =>
              simp only [hco]
              rw [h3]
              cases pureRender E (E.fileName v 2) m s with
              | failed => exact fun h => ⟨h, hc3⟩
              | notFound | ok _ =>
                simp only []
                split
                · next hcd => simp only [hcd]; exact fun h => ⟨h, hc3⟩
                · next hcd =>
                  simp only [hcd]
                  exact fun h => ⟨h, hc3.cons_rulebook hs (hdef.trans h.symm)⟩

theorem runHistory_coherent {E : Env μ σ ν κ τ β} (hs : SoftIndependent E) :
    ∀ (hist : List (μ × σ)) (st : Provider μ κ τ β), Coherent E st → Coherent E (runHistory E st hist) := by
  intro hist
  induction hist with
  | nil => intro st hc; exact hc
  | cons c rest ih =>
    intro st hc
    obtain ⟨m, s⟩ := c
    exact ih _ (getRulebook_spec hs hc m s).2

end Annet.Hw.Lemmas
