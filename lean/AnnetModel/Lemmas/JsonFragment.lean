/-
Over `JsonPointer` (escaping) and `JsonTree` (updates): what `_resolve_json_pointers` returns, the
loop of `apply_json_fragment` as a composition of pointer updates towards the fragment (`Toward`), and
chains of generators (`chain_step`, `chain_laws`).
-/
import AnnetModel.Lemmas.JsonPointer
import AnnetModel.Lemmas.JsonTree

namespace Annet.Json.Lemmas
open Annet.Json

theorem mapM_ok_of_forall {α : Type} (f : α → Except Err α) (l : List α) (h : ∀ x ∈ l, f x = .ok x) :
    l.mapM f = .ok l := by
  induction l with
  | nil => rfl
  | cons x xs ih =>
    rw [List.mapM_cons, h x (by simp), ih (fun y hy => h y (by simp [hy]))]
    rfl

theorem matchPtr_length (p : List String) (q : Ptr) (h : matchPtr p q = true) : q.length = p.length := by
  fun_induction matchPtr p q <;> simp_all

theorem ne_nil_of_matchPtr (p : List String) (q : Ptr) (hm : matchPtr p q = true) (hp : p ≠ []) : q ≠ [] := by
  intro e
  subst e
  cases p with
  | nil => exact hp rfl
  | cons _ _ => cases hm

theorem length_lt_of_matchPtr_append (p : List String) (a c : Ptr) (hm : matchPtr p (a ++ c) = true)
    (hc : c ≠ []) : a.length < p.length := by
  rw [← matchPtr_length p (a ++ c) hm, List.length_append]
  exact Nat.lt_add_of_pos_right (List.length_pos_iff.mpr hc)

theorem prefMatch_of_matchPtr (p : List String) (a c : Ptr) (h : matchPtr p (a ++ c) = true) :
    prefMatch p a = true := by
  fun_induction prefMatch p a <;> simp_all [matchPtr]

theorem Div_of_outside (p : List String) (q q' : Ptr) (hm : matchPtr p q = true) (ho : outsideOf p q' = true) :
    Div q q' := by
  fun_induction matchPtr p q generalizing q' with
  | case1 => simp [outsideOf, covers] at ho
  | case2 g gs k ks ih =>
    cases q' with
    | nil => simp [outsideOf, prefMatch] at ho
    | cons b bs =>
      simp only [Bool.and_eq_true] at hm
      by_cases hkb : k = b
      · subst hkb
        exact Or.inr (ih bs hm.2 (by simpa only [outsideOf, prefMatch, covers, hm.1, Bool.true_and] using ho))
      · exact Or.inl hkb
  | case3 => cases hm

theorem covers_split (p : List String) (q : Ptr) (h : covers p q = true) :
    ∃ a c, q = a ++ c ∧ matchPtr p a = true := by
  fun_induction covers p q with
  | case1 q => exact ⟨[], q, rfl, rfl⟩
  | case2 g gs k ks ih =>
    simp only [Bool.and_eq_true] at h
    obtain ⟨a, c, rfl, hm⟩ := ih h.2
    exact ⟨k :: a, c, rfl, by simp [matchPtr, h.1, hm]⟩
  | case3 => cases h

theorem covers_of_matchPtr_append (p : List String) (q c : Ptr) (h : matchPtr p q = true) :
    covers p (q ++ c) = true := by
  fun_induction matchPtr p q <;> simp_all [covers]

theorem not_covers_of_length_lt (p : List String) (a : Ptr) (h : a.length < p.length) : covers p a = false := by
  fun_induction covers p a <;> simp_all

theorem mem_childrenOf (d : J) (hw : d.wf = true) (k : String) (c : J) :
    (k, c) ∈ childrenOf d ↔ child k d = some c := by
  cases d with
  | obj kvs => exact ⟨lookup_of_mem k c kvs hw, mem_of_lookup k c kvs⟩
  | arr xs =>
    simp only [childrenOf, child, List.mem_map, Option.bind_eq_some_iff]
    constructor
    · rintro ⟨⟨v, i⟩, hmem, heq⟩
      cases heq
      exact ⟨i, (parseIndex_eq_some_iff _ i).2 rfl, List.mem_zipIdx_iff_getElem?.1 hmem⟩
    · rintro ⟨i, hp, hx⟩
      exact ⟨(c, i), List.mem_zipIdx_iff_getElem?.2 hx, by rw [(parseIndex_eq_some_iff k i).1 hp]⟩
  | _ => exact ⟨nofun, nofun⟩

theorem mem_levelStep (g : String) (m : List (Ptr × J)) (hw : ∀ x ∈ m, x.2.wf = true) (q : Ptr) (v : J) :
    (q, v) ∈ levelStep g m ↔ ∃ x ∈ m, ∃ k, q = x.1 ++ [k] ∧ fnmatch k g = true ∧ child k x.2 = some v := by
  simp only [levelStep, List.mem_flatMap, List.mem_map, List.mem_filter, Prod.mk.injEq]
  constructor
  · rintro ⟨x, hx, ⟨k, c⟩, ⟨hmem, hm⟩, rfl, rfl⟩
    exact ⟨x, hx, k, rfl, hm, (mem_childrenOf x.2 (hw x hx) k c).1 hmem⟩
  · rintro ⟨x, hx, k, rfl, hm, hc⟩
    exact ⟨x, hx, (k, v), ⟨(mem_childrenOf x.2 (hw x hx) k v).2 hc, hm⟩, rfl, rfl⟩

/-- the level-by-level loop of `_resolve_json_pointers` (jsontools.py:162-179): what is matched after the
parts `parts`, starting from the matches `m` -/
theorem mem_resolveFrom (parts : List String) (m : List (Ptr × J)) (hw : ∀ x ∈ m, x.2.wf = true) (q : Ptr) (v : J) :
    (q, v) ∈ resolveFrom parts m ↔
      ∃ x ∈ m, ∃ q1, q = x.1 ++ q1 ∧ matchPtr parts q1 = true ∧ getP q1 x.2 = some v := by
  induction parts generalizing m with
  | nil =>
    constructor
    · exact fun h => ⟨(q, v), h, [], by simp, rfl, rfl⟩
    · rintro ⟨x, hx, q1, rfl, hm, hg⟩
      cases q1 with
      | nil => cases hg; simpa [resolveFrom] using hx
      | cons _ _ => cases hm
  | cons g gs ih =>
    have hw' : ∀ y ∈ levelStep g m, y.2.wf = true := fun ⟨q', c⟩ hy =>
      let ⟨x, hx, k, _, _, hc⟩ := (mem_levelStep g m hw q' c).1 hy
      wf_child k x.2 c (hw x hx) hc
    show (q, v) ∈ resolveFrom gs (levelStep g m) ↔ _
    rw [ih _ hw']
    constructor
    · rintro ⟨⟨q', c⟩, hy, q1, rfl, hm, hg⟩
      obtain ⟨x, hx, k, rfl, hk, hc⟩ := (mem_levelStep g m hw q' c).1 hy
      exact ⟨x, hx, k :: q1, by simp, by simp [matchPtr, hk, hm], by rw [getP_cons, hc]; exact hg⟩
    · rintro ⟨x, hx, q1, rfl, hm, hg⟩
      cases q1 with
      | nil => cases hm
      | cons k q1 =>
        simp only [matchPtr, Bool.and_eq_true] at hm
        rw [getP_cons] at hg
        obtain ⟨c, hc, hg⟩ := Option.bind_eq_some_iff.mp hg
        exact ⟨(x.1 ++ [k], c), (mem_levelStep g m hw _ c).2 ⟨x, hx, k, rfl, hm.1, hc⟩, q1, by simp, hm.2, hg⟩

theorem resolve_spec (pat : String) (p : List String) (d : J) (hp : parsePointer pat = .ok p) (hne : p ≠ [])
    (hw : d.wf = true) :
    ∃ L, resolve pat d = .ok L ∧ ∀ q, q ∈ L ↔ (matchPtr p q = true ∧ getP q d ≠ none) := by
  have mem : ∀ q, q ∈ resolveParts p d ↔ (matchPtr p q = true ∧ getP q d ≠ none) := fun q => by
    simp only [resolveParts, List.mem_map, Prod.exists, exists_and_right, exists_eq_right,
      mem_resolveFrom p [([], d)] (by simpa using hw), List.mem_singleton, exists_eq_left, List.nil_append,
      Option.ne_none_iff_exists']
    exact ⟨fun ⟨v, q1, e, hm, hg⟩ => e ▸ ⟨hm, v, hg⟩, fun ⟨hm, v, hg⟩ => ⟨v, q, rfl, hm, hg⟩⟩
  refine ⟨resolveParts p d, ?_, mem⟩
  simp only [resolve, hp]
  exact mapM_ok_of_forall rebuild _ fun q hq => rebuild_eq q (ne_nil_of_matchPtr p q ((mem q).1 hq).1 hne)

theorem spineOk_sound (p : List String) (d : J) (h : spineOk p d = true) :
    ∀ a : Ptr, a.length < p.length → prefMatch p a = true → ∀ v, getP a d = some v → v.isObj = true := by
  induction p generalizing d with
  | nil => intro a hla; simp at hla
  | cons g gs ih =>
    cases d with
    | obj kvs =>
      simp only [spineOk] at h
      intro a hla hpa v hv
      cases a with
      | nil => simp only [getP, Option.some.injEq] at hv; subst hv; rfl
      | cons k a' =>
        simp only [prefMatch, Bool.and_eq_true] at hpa
        rw [getP_cons] at hv
        obtain ⟨c, hl, hv⟩ := Option.bind_eq_some_iff.mp hv
        have := List.all_eq_true.1 h (k, c) (mem_of_lookup k c kvs hl)
        simp only [hpa.1, Bool.not_true, Bool.false_or] at this
        exact ih c this a' (by simpa using hla) hpa.2 v hv
    | _ => cases h

theorem spineObj_of_check (ps : List (List String)) (d : J) (h : ps.all (fun p => spineOk p d) = true) :
    SpineObj ps d := by
  intro p hp a hla hpa v hv
  exact spineOk_sound p d (List.all_eq_true.1 h p hp) a hla hpa v hv

theorem noArrOk_sound (p : List String) (d : J) (h : noArrOk p d = true) :
    ∀ a : Ptr, a.length < p.length → prefMatch p a = true → ∀ v, getP a d = some v → v.isArr = false := by
  induction p generalizing d with
  | nil => intro a hla; simp at hla
  | cons g gs ih =>
    intro a hla hpa v hv
    cases a with
    | nil =>
      simp only [getP, Option.some.injEq] at hv
      subst hv
      cases d <;> simp [noArrOk] at h <;> rfl
    | cons k a' =>
      cases d with
      | arr xs => cases h
      | obj kvs =>
        simp only [noArrOk] at h
        simp only [prefMatch, Bool.and_eq_true] at hpa
        rw [getP_cons] at hv
        obtain ⟨c, hl, hv⟩ := Option.bind_eq_some_iff.mp hv
        have := List.all_eq_true.1 h (k, c) (mem_of_lookup k c kvs hl)
        simp only [hpa.1, Bool.not_true, Bool.false_or] at this
        exact ih c this a' (by simpa using hla) hpa.2 v hv
      | _ => cases hv

theorem spineNoArr_of_check (ps : List (List String)) (d : J) (h : ps.all (fun p => noArrOk p d) = true) :
    SpineNoArr ps d := by
  intro p hp a hla hpa v hv
  exact noArrOk_sound p d (List.all_eq_true.1 h p hp) a hla hpa v hv

theorem spineNoArr_of_spineObj (ps : List (List String)) (d : J) (h : SpineObj ps d) : SpineNoArr ps d := by
  intro p hp a hla hpa v hv
  have := h p hp a hla hpa v hv
  cases v <;> simp [J.isObj] at this
  rfl

theorem isObj_of_getP_below (c : Ptr) (w : J) (hc : c ≠ []) (h : getP c w ≠ none) (hna : w.isArr = false) :
    w.isObj = true := by
  cases c with
  | nil => exact absurd rfl hc
  | cons k rest => cases w <;> simp [getP, J.isArr] at h hna <;> rfl

/-- The invariant of the merge loop: what the document under construction has above a
selectable pointer is an object, or it is what the fragment has at that place (copied
from the fragment by an earlier, shorter pattern). -/
def SpineRel (ps : List (List String)) (f r : J) : Prop :=
  ∀ p ∈ ps, ∀ a : Ptr, a.length < p.length → prefMatch p a = true → ∀ v, getP a r = some v →
    v.isObj = true ∨ getP a f = some v

theorem spineRel_of_spineObj (ps : List (List String)) (f r : J) (h : SpineObj ps r) : SpineRel ps f r :=
  fun p hp a hla hpa v hv => Or.inl (h p hp a hla hpa v hv)

theorem spineObj_of_spineRel (ps : List (List String)) (f r : J) (h : SpineRel ps f r) (hf : SpineObj ps f) :
    SpineObj ps r := by
  intro p hp a hla hpa v hv
  rcases h p hp a hla hpa v hv with h1 | h1
  · exact h1
  · exact hf p hp a hla hpa v h1

theorem spineRel_obj (ps : List (List String)) (f r : J) (hsf : SpineNoArr ps f) (hsr : SpineRel ps f r)
    (p : List String) (hp : p ∈ ps) (a c : Ptr) (hc : c ≠ []) (hm : matchPtr p (a ++ c) = true)
    (w : J) (hw : getP a r = some w) (hbelow : getP c w ≠ none ∨ getP (a ++ c) f ≠ none) : w.isObj = true := by
  have hla := length_lt_of_matchPtr_append p a c hm hc
  have hpa := prefMatch_of_matchPtr p a c hm
  rcases hsr p hp a hla hpa w hw with h1 | h1
  · exact h1
  · rw [getP_append, h1, Option.bind_some, or_self] at hbelow
    exact isObj_of_getP_below c w hc hbelow (hsf p hp a hla hpa w h1)

/-- the filter uses the case `f = r`, where `SpineRel` holds trivially -/
theorem objPath_of_rel (ps : List (List String)) (f r : J) (hsf : SpineNoArr ps f) (hsr : SpineRel ps f r)
    (p : List String) (hp : p ∈ ps) (q : Ptr) (hm : matchPtr p q = true) (hg : getP q r ≠ none) : ObjPath q r := by
  intro a c hqe hc
  subst hqe
  rw [getP_append] at hg
  cases hga : getP a r with
  | none => simp [hga] at hg
  | some w =>
    have := spineRel_obj ps f r hsf hsr p hp a c hc hm w hga (Or.inl (by simpa [hga] using hg))
    cases w <;> simp [J.isObj] at this
    exact ⟨_, hga⟩

theorem admits_of (q : Ptr) (d : J)
    (h : ∀ a c, q = a ++ c → c ≠ [] → ∀ w, getP a d = some w → w.isObj = true) : Admits q d := by
  induction q generalizing d with
  | nil => trivial
  | cons k rest ih =>
    have hobj := h [] (k :: rest) rfl (by simp) d (by simp [getP])
    cases d <;> simp [J.isObj] at hobj
    rename_i kvs
    cases rest with
    | nil => simp [Admits, J.isObj]
    | cons k2 r =>
      simp only [Admits]
      cases hl : lookup k kvs with
      | none => trivial
      | some c =>
        apply ih
        intro a c' hq hc' w hw
        apply h (k :: a) c' (by simp [hq]) hc' w
        simp [getP, hl, hw]

/-- `r'` comes from `r` by updating pointers in `S` to what the fragment `f` has there.  Closed under
composition (`S` grows), and every `UpdAt q (getP q f)` is an instance. -/
structure Toward (ps : List (List String)) (f : J) (S : Ptr → Prop) (r r' : J) : Prop where
  wf : r'.wf = true
  rel : SpineRel ps f r'
  agree : ∀ q', getP q' r = getP q' f → getP q' r' = getP q' f
  hit : ∀ q, S q → getP q r' = getP q f
  frame : ∀ q', (∀ q, S q → Div q q') → getP q' r' = getP q' r
  objAt : ∀ a, (∀ q, S q → ¬ q <+: a) → ObjAt a r → ObjAt a r'
  fix : (∀ q, S q → getP q r = getP q f) → r' = r

section Toward
variable {ps : List (List String)} {f : J} {S S' : Ptr → Prop} {r r' r'' : J}

theorem Toward.refl (hwr : r.wf = true) (hsr : SpineRel ps f r) : Toward ps f (fun _ => False) r r :=
  ⟨hwr, hsr, fun _ h => h, nofun, fun _ _ => rfl, fun _ _ h => h, fun _ => rfl⟩

theorem Toward.trans (h : Toward ps f S r r') (h' : Toward ps f S' r' r'') :
    Toward ps f (fun q => S q ∨ S' q) r r'' where
  wf := h'.wf
  rel := h'.rel
  agree := fun q' hq' => h'.agree q' (h.agree q' hq')
  hit := fun q hq => hq.elim (fun hq => h'.agree q (h.hit q hq)) (h'.hit q)
  frame := fun q' hd => by rw [h'.frame q' fun q hq => hd q (.inr hq), h.frame q' fun q hq => hd q (.inl hq)]
  objAt := fun a ha ho => h'.objAt a (fun q hq => ha q (.inr hq)) (h.objAt a (fun q hq => ha q (.inl hq)) ho)
  fix := fun hS => by
    have e := h.fix fun q hq => hS q (.inl hq)
    rw [h'.fix fun q hq => e ▸ hS q (.inr hq), e]

/-- a larger `S` may be named as long as the result agrees with the fragment on all of it -/
theorem Toward.widen (h : Toward ps f S r r') (hS : ∀ q, S q → S' q) (hhit : ∀ q, S' q → getP q r' = getP q f) :
    Toward ps f S' r r' :=
  ⟨h.wf, h.rel, h.agree, hhit, fun q' hd => h.frame q' fun q hq => hd q (hS q hq),
    fun a ha => h.objAt a fun q hq => ha q (hS q hq), fun hf => h.fix fun q hq => hf q (hS q hq)⟩

/-- updates at pointers no shorter than `x` leave the proper prefixes of `x` objects -/
theorem Toward.objPath (h : Toward ps f S r r') {x : Ptr} (hS : ∀ q, S q → x.length ≤ q.length) (ho : ObjPath x r) :
    ObjPath x r' := fun a c hxe hc =>
  h.objAt a (fun q hq hpre => by
    have := hS q hq
    have := hpre.length_le
    have := List.length_pos_iff.mpr hc
    rw [hxe, List.length_append] at *
    omega) (ho a c hxe hc)

theorem UpdAt.toward {q : Ptr} (hu : UpdAt q (getP q f) r r') (hwf : f.wf = true) (hwr : r.wf = true)
    (hsr : SpineRel ps f r) : Toward ps f (· = q) r r' where
  wf := hu.wf hwr fun v hv => wf_of_getP q f v hwf hv
  rel := fun p' hp' a hla hpa w hw => by
    rcases trichotomy q a with hd | ⟨c, rfl⟩ | ⟨c, hc, hqe⟩
    · rw [hu.div a hd] at hw
      exact hsr p' hp' a hla hpa w hw
    · rw [getP_append, hu.self, ← getP_append] at hw
      exact Or.inr hw
    · obtain ⟨kvs, hk⟩ := hu.above a c hqe hc
      rw [hk] at hw
      cases hw
      exact Or.inl rfl
  agree := fun q' hq' => by
    rcases trichotomy q q' with hd | ⟨c, rfl⟩ | ⟨c, hc, hqe⟩
    · rw [hu.div q' hd]; exact hq'
    · rw [getP_append, hu.self, ← getP_append]
    · rw [hu.noop (by rw [hqe, getP_append, hq', ← getP_append])]; exact hq'
  hit := fun _ e => e ▸ hu.self
  frame := fun q' hd => hu.div q' (hd q rfl)
  objAt := fun a ha hoa => by
    rcases trichotomy q a with hd | ⟨c, rfl⟩ | ⟨c, hc, hqe⟩
    · obtain ⟨kvs, hk⟩ := hoa
      exact ⟨kvs, by rw [hu.div a hd]; exact hk⟩
    · exact absurd (List.prefix_append q c) (ha q rfl)
    · exact hu.above a c hqe hc
  fix := fun h => hu.noop (h q rfl)

theorem Toward.nil {α : Type} {T : α → Ptr → Prop} (hwr : r.wf = true) (hsr : SpineRel ps f r) :
    Toward ps f (fun q => ∃ x ∈ ([] : List α), T x q) r r :=
  (Toward.refl hwr hsr).widen nofun fun _ ⟨_, h, _⟩ => nomatch h

theorem Toward.cons {α : Type} {T : α → Ptr → Prop} {x : α} {L : List α} (h : Toward ps f (T x) r r')
    (h' : Toward ps f (fun q => ∃ y ∈ L, T y q) r' r'') : Toward ps f (fun q => ∃ y ∈ x :: L, T y q) r r'' := by
  refine (h.trans h').widen ?_ ?_
  · rintro q (hq | ⟨y, hy, hq⟩)
    · exact ⟨x, List.mem_cons_self, hq⟩
    · exact ⟨y, List.mem_cons_of_mem _ hy, hq⟩
  · rintro q ⟨y, hy, hq⟩
    rcases List.mem_cons.mp hy with rfl | hy
    · exact (h.trans h').hit q (.inl hq)
    · exact (h.trans h').hit q (.inr ⟨y, hy, hq⟩)

/-- `Pre` is what a step needs of the document beyond the loop invariant; every step keeps it for the
elements still to come. -/
theorem Toward.foldlM {α : Type} (step : J → α → Except Err J) (S : α → Ptr → Prop) (Pre : α → J → Prop)
    (L : List α)
    (hstep : ∀ x ∈ L, ∀ r, r.wf = true → SpineRel ps f r → Pre x r → ∃ r', step r x = .ok r' ∧ Toward ps f (S x) r r')
    (hpre : ∀ x ∈ L, ∀ y ∈ L, ∀ r r', Toward ps f (S x) r r' → Pre y r → Pre y r')
    (r : J) (hwr : r.wf = true) (hsr : SpineRel ps f r) (hP : ∀ x ∈ L, Pre x r) :
    ∃ r', L.foldlM step r = .ok r' ∧ Toward ps f (fun q => ∃ x ∈ L, S x q) r r' := by
  induction L generalizing r with
  | nil => exact ⟨r, rfl, .nil hwr hsr⟩
  | cons x L ih =>
    have hx : x ∈ x :: L := List.mem_cons_self
    have hL : ∀ y ∈ L, y ∈ x :: L := fun y hy => List.mem_cons_of_mem _ hy
    obtain ⟨r1, h1, t1⟩ := hstep x hx r hwr hsr (hP x hx)
    obtain ⟨r2, h2, t2⟩ := ih (fun y hy => hstep y (hL y hy)) (fun y hy z hz => hpre y (hL y hy) z (hL z hz))
      r1 t1.wf t1.rel (fun y hy => hpre x hx y (hL y hy) r r1 t1 (hP y (hL y hy)))
    exact ⟨r2, by rw [List.foldlM_cons, h1]; exact h2, t1.cons t2⟩

end Toward

theorem admits_of_rel (ps : List (List String)) (f : J) (hsf : SpineNoArr ps f) (p : List String) (hp : p ∈ ps)
    (q : Ptr) (r : J) (hm : matchPtr p q = true) (hgf : getP q f ≠ none) (hsr : SpineRel ps f r) :
    Admits q r :=
  admits_of q r fun a c hqe hc w hw =>
    spineRel_obj ps f r hsf hsr p hp a c hc (hqe ▸ hm) w hw (.inr (hqe ▸ hgf))

theorem set_step (ps : List (List String)) (f : J) (hsf : SpineNoArr ps f) (p : List String) (hp : p ∈ ps)
    (hpne : p ≠ []) (q : Ptr) (r : J) (hm : matchPtr p q = true) (hgf : getP q f ≠ none)
    (hsr : SpineRel ps f r) : ∃ r', setStep f r q = .ok r' ∧ UpdAt q (getP q f) r r' := by
  have hq := ne_nil_of_matchPtr p q hm hpne
  have hadm : Admits q r := admits_of_rel ps f hsf p hp q r hm hgf hsr
  cases hv : getP q f with
  | none => exact absurd hv hgf
  | some v =>
    refine ⟨setO q v r, ?_, updAt_setO q v r hadm hq⟩
    simp only [setStep, getPtr_of_getP q f v hv]
    exact setPtr_ensure q v r hadm hq

section merge
variable {ps : List (List String)} {f r r' : J}

/-- one iteration of `for acl_item in acl` -/
theorem frag_step (hwf : f.wf = true) (hsf : SpineNoArr ps f) (pat : String) (p : List String)
    (hpat : parsePointer pat = .ok p) (hp : p ∈ ps) (hpne : p ≠ []) (r : J) (hwr : r.wf = true)
    (hsr : SpineRel ps f r) :
    ∃ r', fragStep f r pat = .ok r' ∧ Toward ps f (fun q => matchPtr p q = true) r r' := by
  obtain ⟨N, hN, memN⟩ := resolve_spec pat p f hpat hpne hwf
  obtain ⟨O, hO, memO⟩ := resolve_spec pat p r hpat hpne hwr
  -- lines 31-34 of jsontools.py: the loop over `new_pointers`
  obtain ⟨r1, s1, st⟩ :=
    Toward.foldlM (ps := ps) (f := f) (setStep f) (fun x q => q = x) (fun _ _ => True) N
      (fun q hq r hwr hsr _ =>
        let ⟨r', h, hu⟩ := set_step ps f hsf p hp hpne q r ((memN q).1 hq).1 ((memN q).1 hq).2 hsr
        ⟨r', h, hu.toward hwf hwr hsr⟩)
      (fun _ _ _ _ _ _ _ _ => trivial) r hwr hsr (fun _ _ => trivial)
  let D := O.filter (fun q => !(N.contains q))
  have memD : ∀ q, q ∈ D ↔ q ∈ O ∧ q ∉ N := fun q => by
    simp only [D, List.mem_filter, Bool.not_eq_true', List.contains_eq_mem, decide_eq_false_iff_not]
  have hD : ∀ q ∈ D, matchPtr p q = true ∧ getP q r ≠ none ∧ getP q f = none := by
    intro q hq
    obtain ⟨hqO, hqN⟩ := (memD q).1 hq
    have h1 := (memO q).1 hqO
    exact ⟨h1.1, h1.2, Classical.byContradiction fun hg => hqN ((memN q).2 ⟨h1.1, hg⟩)⟩
  have len : ∀ {x y}, matchPtr p x = true → matchPtr p y = true → x.length ≤ y.length := fun hx hy =>
    Nat.le_of_eq ((matchPtr_length p _ hx).trans (matchPtr_length p _ hy).symm)
  -- lines 37-42: `to_delete` and its loop; the selected pointers have one length, so that setting or removing
  -- one leaves the proper prefixes of the others objects
  obtain ⟨r2, t1, tt⟩ :=
    Toward.foldlM (ps := ps) (f := f) (fun r q => popPtr q r) (fun x q => q = x) ObjPath D
      (fun q hq r hwr hsr hok => ⟨popO q r, popPtr_eq q r hok,
        UpdAt.toward ((hD q hq).2.2 ▸ updAt_popO q r hok (ne_nil_of_matchPtr p q (hD q hq).1 hpne) hwr)
          hwf hwr hsr⟩)
      (fun q hq x hx r r' ht => ht.objPath fun _ e => e ▸ len (hD x hx).1 (hD q hq).1)
      r1 st.wf st.rel
      (fun q hq => st.objPath (fun _ ⟨y, hy, e⟩ => e ▸ len (hD q hq).1 ((memN y).1 hy).1)
        (objPath_of_rel ps f r hsf hsr p hp q (hD q hq).1 (hD q hq).2.1))
  refine ⟨r2, by simp only [fragStep, hN, hO, bind, Except.bind, s1]; exact t1, (st.trans tt).widen ?_ ?_⟩
  · rintro q (⟨x, hx, rfl⟩ | ⟨x, hx, rfl⟩)
    · exact ((memN q).1 hx).1
    · exact (hD q hx).1
  · intro q hm
    by_cases hqN : q ∈ N
    · exact (st.trans tt).hit q (.inl ⟨q, hqN, rfl⟩)
    · by_cases hqO : q ∈ O
      · exact (st.trans tt).hit q (.inr ⟨q, (memD q).2 ⟨hqO, hqN⟩, rfl⟩)
      · have hr : getP q r = none := Classical.byContradiction fun h => hqO ((memO q).2 ⟨hm, h⟩)
        have hf : getP q f = none := Classical.byContradiction fun h => hqN ((memN q).2 ⟨hm, h⟩)
        exact (st.trans tt).agree q (hr.trans hf.symm)

/-- the whole loop over the patterns `L` (a sublist of the schema's patterns `ps`) -/
theorem frag_fold (hwf : f.wf = true) (hsf : SpineNoArr ps f) (acl : List String) (L : List (List String))
    (hparse : ParsedAcl acl L) (hL : ∀ p ∈ L, p ∈ ps ∧ p ≠ []) (r : J) (hwr : r.wf = true) (hsr : SpineRel ps f r) :
    ∃ r', applyFragment r f acl = .ok r' ∧ Toward ps f (fun q => ∃ p ∈ L, matchPtr p q = true) r r' := by
  induction acl generalizing L r with
  | nil =>
    cases L with
    | nil => exact ⟨r, rfl, .nil hwr hsr⟩
    | cons _ _ => exact hparse.elim
  | cons pat acl ih =>
    cases L with
    | nil => exact hparse.elim
    | cons p L =>
      obtain ⟨hp, hpne⟩ := hL p List.mem_cons_self
      obtain ⟨r1, h1, t1⟩ := frag_step hwf hsf pat p hparse.1 hp hpne r hwr hsr
      obtain ⟨r2, h2, t2⟩ := ih L hparse.2 (fun x hx => hL x (List.mem_cons_of_mem _ hx)) r1 t1.wf t1.rel
      exact ⟨r2, by simp only [applyFragment, List.foldlM_cons, h1]; exact h2, t1.cons t2⟩

theorem Toward.insideEq {L : List (List String)} (h : Toward ps f (fun q => ∃ p ∈ L, matchPtr p q = true) r r') :
    InsideEq L r' f := fun p hp q hc => by
  obtain ⟨a, c, rfl, hm⟩ := covers_split p q hc
  rw [getP_append, getP_append, h.hit a ⟨p, hp, hm⟩]

theorem Toward.outsideEq {L : List (List String)} (h : Toward ps f (fun q => ∃ p ∈ L, matchPtr p q = true) r r') :
    OutsideEq L r' r :=
  fun q' ho => h.frame q' fun q ⟨p, hp, hm⟩ => Div_of_outside p q q' hm (ho p hp)

theorem Toward.objAt_uncovered {L : List (List String)}
    (h : Toward ps f (fun q => ∃ p ∈ L, matchPtr p q = true) r r') (a : Ptr) (ha : ∀ p ∈ L, covers p a = false)
    (ho : ObjAt a r) : ObjAt a r' :=
  h.objAt a (fun q ⟨p, hp, hm⟩ ⟨c, e⟩ => by
    have := ha p hp
    rw [← e, covers_of_matchPtr_append p q c hm] at this
    cases this) ho

end merge

/-- The fragment laws of C13 in one statement.  The device document is of the patterns' schema (objects
above every selectable pointer); the fragment may have a scalar — a string, say — where a
pattern expects to continue: the pattern selects nothing there (jsontools.py:172). -/
theorem fragment_laws (old f : J) (acl : List String) (ps : List (List String))
    (hparse : ParsedAcl acl ps) (hne : ∀ p ∈ ps, p ≠ [])
    (hwo : old.wf = true) (hwf : f.wf = true) (hso : SpineObj ps old) (hsf : SpineNoArr ps f) :
    ∃ r, applyFragment old f acl = .ok r ∧ InsideEq ps r f ∧ OutsideEq ps r old ∧
      applyFragment r f acl = .ok r ∧
      (∀ a : Ptr, (∀ p ∈ ps, covers p a = false) → ObjAt a old → ObjAt a r) := by
  have hL := fun p hp => And.intro hp (hne p hp)
  obtain ⟨r, h1, t⟩ := frag_fold hwf hsf acl ps hparse hL old hwo (spineRel_of_spineObj ps f old hso)
  -- the second merge is a `Toward` from `r`, which already agrees with the fragment on all of `S`
  obtain ⟨r', h2, t'⟩ := frag_fold hwf hsf acl ps hparse hL r t.wf t.rel
  rw [t'.fix t.hit] at h2
  exact ⟨r, h1, t.insideEq, t.outsideEq, h2, t.objAt_uncovered⟩

/-- One generator of a chain.  The fragment is asked `SpineObj`, not only the `SpineNoArr` of
`fragment_laws`: the result must be `SpineObj` again for the next generator, and it takes the
fragment's values at the selected pointers. -/
theorem chain_step (PS : List (List String)) (cfg f : J) (acl : List String) (L : List (List String))
    (hparse : ParsedAcl acl L) (hL : ∀ p ∈ L, p ∈ PS ∧ p ≠ [])
    (hwc : cfg.wf = true) (hwf : f.wf = true) (hsc : SpineObj PS cfg) (hsf : SpineObj PS f) :
    ∃ r, applyFragment cfg f acl = .ok r ∧ r.wf = true ∧ SpineObj PS r ∧ InsideEq L r f ∧ OutsideEq L r cfg := by
  obtain ⟨r, h1, t⟩ :=
    frag_fold hwf (spineNoArr_of_spineObj PS f hsf) acl L hparse hL cfg hwc (spineRel_of_spineObj PS f cfg hsc)
  exact ⟨r, h1, t.wf, spineObj_of_spineRel PS f r t.rel hsf, t.insideEq, t.outsideEq⟩

/-- The chain of `new_json_fragment_files`: besides what every generator keeps, what the last generator, if
there is one, leaves inside its patterns. -/
theorem chain_laws (PS : List (List String)) (gens : List (J × List String)) (pss : List (List (List String)))
    (hparse : ParsedGens gens pss) (hsub : ∀ ps ∈ pss, ∀ p ∈ ps, p ∈ PS ∧ p ≠ [])
    (hg : ∀ g ∈ gens, g.1.wf = true ∧ SpineObj PS g.1) (cfg : J) (hwc : cfg.wf = true) (hsc : SpineObj PS cfg) :
    ∃ r, applyChain cfg gens = .ok r ∧ r.wf = true ∧ SpineObj PS r ∧ OutsideEq PS r cfg ∧
      ∀ g ps, gens.getLast? = some g → pss.getLast? = some ps → InsideEq ps r g.1 := by
  induction gens generalizing pss cfg with
  | nil => exact ⟨cfg, rfl, hwc, hsc, fun _ _ => rfl, nofun⟩
  | cons g gens ih =>
    cases pss with
    | nil => exact hparse.elim
    | cons ps pss =>
      obtain ⟨hgw, hgs⟩ := hg g (by simp)
      obtain ⟨r1, a1, a2, a3, a4, a5⟩ :=
        chain_step PS cfg g.1 g.2 ps hparse.1 (hsub ps (by simp)) hwc hgw hsc hgs
      obtain ⟨r, b1, b2, b3, b4, b5⟩ := ih pss hparse.2 (fun x hx => hsub x (by simp [hx]))
        (fun x hx => hg x (by simp [hx])) r1 a2 a3
      refine ⟨r, ?_, b2, b3, fun q ho => ?_, fun g' ps' hg' hps' => ?_⟩
      · simp only [applyChain, List.foldlM_cons, a1]
        exact b1
      · rw [b4 q ho, a5 q (fun p hp => ho p (hsub ps (by simp) p hp).1)]
      · cases gens with
        | nil =>
          cases pss with
          | nil =>
            cases hg'; cases hps'; cases b1
            exact a4
          | cons _ _ => exact hparse.2.elim
        | cons g2 gens =>
          cases pss with
          | nil => exact hparse.2.elim
          | cons ps2 pss => exact b5 g' ps' (by simpa using hg') (by simpa using hps')

end Annet.Json.Lemmas
