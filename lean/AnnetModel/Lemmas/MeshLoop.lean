/-
A loop that runs applications and files what each yields under its key (`stepG run f`; both executor loops are instances):
it succeeds iff every application does and the plain group-by-key-and-merge of the yields does (`foldlM_stepG_ok`), the keys of
its result are distinct and the entry under a key is the fold of what was filed under it (`foldlM_stepG_lookup`); when the
merge has the `Laws` among the values of one key, permuting the applications changes the dict only key-wise up to the
relation (`foldlM_stepG_perm`, through `foldKey_perm`).  Generic in the applications, keys and values.
-/
import AnnetModel.Lemmas.MeshFold
import AnnetModel.Lemmas.MeshLaws
import AnnetModel.Model.MeshExec

namespace Annet.Mesh

theorem foldKey_perm {α ε : Type} {f : α → α → Except ε α} {R : α → α → Prop} {I : α → Prop} {c : Prop}
    (h : Laws f R I c) (hc : c) {l1 l2 : List α} (hp : l1.Perm l2) (hl : ∀ v ∈ l1, I v)
    (o : Option α) (ho : OptI I o) : RE (OptRel R) (foldKey f o l1) (foldKey f o l2) := by
  refine h.opt.foldlM_perm hc (hp.map some) (fun v hv => ?_) o ho
  obtain ⟨w, hw, rfl⟩ := List.mem_map.mp hv
  exact hl w hw

section StepG
variable {ι κ α : Type} [DecidableEq κ]

def fileUnder (f : α → α → Except MergeErr α) (acc : List (κ × α)) : Option (κ × α) → Except ExecErr (List (κ × α))
  | none => .ok acc
  | some kp => liftMerge (upsertWith f kp.1 kp.2 acc)

/-- the generic loop body: run application `i` (it may raise, yield nothing or yield `(key, pair)`), file what it
yields under its key -/
def stepG (run : ι → Except ExecErr (Option (κ × α))) (f : α → α → Except MergeErr α)
    (acc : List (κ × α)) (i : ι) : Except ExecErr (List (κ × α)) :=
  run i >>= fileUnder f acc

/-- what `i` yields when it does not raise -/
def kvOf (run : ι → Except ExecErr (Option (κ × α))) (i : ι) : Option (κ × α) :=
  match run i with
  | .ok (some kp) => some kp
  | _ => none

/-- the value an application files under key `k` -/
def pick (run : ι → Except ExecErr (Option (κ × α))) (k : κ) (i : ι) : Option α :=
  (kvOf run i).bind fun kv => if kv.1 = k then some kv.2 else none

theorem liftMerge_ok_iff {β : Type} {x : Except MergeErr β} {b : β} : liftMerge x = .ok b ↔ x = .ok b := by
  cases x <;> simp [liftMerge]

omit [DecidableEq κ] in
theorem kvOf_of_run {run : ι → Except ExecErr (Option (κ × α))} {i : ι} {o : Option (κ × α)}
    (h : run i = .ok o) : kvOf run i = o := by
  simp only [kvOf, h]
  cases o <;> rfl

omit [DecidableEq κ] in
theorem kvOf_eq_some {run : ι → Except ExecErr (Option (κ × α))} {i : ι} {kv : κ × α}
    (h : kvOf run i = some kv) : run i = .ok (some kv) := by
  cases hr : run i with
  | error e => simp [kvOf, hr] at h
  | ok o => rw [← h, kvOf_of_run hr]

theorem pick_eq_some {run : ι → Except ExecErr (Option (κ × α))} {k : κ} {i : ι} {v : α}
    (h : pick run k i = some v) : run i = .ok (some (k, v)) := by
  obtain ⟨⟨k0, v0⟩, hkv, h⟩ := Option.bind_eq_some_iff.mp h
  split at h
  · rename_i hk
    cases h
    exact hk ▸ kvOf_eq_some hkv
  · cases h

theorem valuesOf_filterMap_kvOf (run : ι → Except ExecErr (Option (κ × α))) (k : κ) (l : List ι) :
    valuesOf k (l.filterMap (kvOf run)) = l.filterMap (pick run k) :=
  List.filterMap_filterMap

/-- The interleaved loop succeeds exactly when every handler application succeeds and the plain
"group by key and merge" of the produced pairs succeeds; the resulting dict is the same. -/
theorem foldlM_stepG_ok (run : ι → Except ExecErr (Option (κ × α))) (f : α → α → Except MergeErr α)
    (items : List ι) (s s' : List (κ × α)) :
    items.foldlM (stepG run f) s = .ok s' ↔
      (∀ i ∈ items, ∃ b, run i = .ok b) ∧ groupFold f s (items.filterMap (kvOf run)) = .ok s' := by
  induction items generalizing s with
  | nil => simp [groupFold, pure, Except.pure]
  | cons i items ih =>
    rw [List.foldlM_cons, stepG]
    cases hr : run i with
    | error e => simp [hr]
    | ok o =>
      rw [List.filterMap_cons, kvOf_of_run hr]
      cases o with
      | none => simp [fileUnder, ih, hr]
      | some kp =>
        rw [groupFold_cons]
        cases hu : upsertWith f kp.1 kp.2 s <;> simp [fileUnder, liftMerge, ih, hr, hu]

/-- a finished loop has distinct keys, and its entry under `k` is the fold of what the applications filed under `k`, in
order -/
theorem foldlM_stepG_lookup {run : ι → Except ExecErr (Option (κ × α))} {f : α → α → Except MergeErr α} {items : List ι}
    {s : List (κ × α)} (h : items.foldlM (stepG run f) [] = .ok s) :
    (keys s).Nodup ∧ ∀ k, foldKey f none (items.filterMap (pick run k)) = .ok (lookup k s) := by
  have K := (groupFold_keywise f [] List.nodup_nil _).ok s ((foldlM_stepG_ok run f items [] s).mp h).2
  simp only [valuesOf_filterMap_kvOf] at K
  exact K

theorem foldlM_stepG_perm (run : ι → Except ExecErr (Option (κ × α))) (f : α → α → Except MergeErr α)
    (R : α → α → Prop) (J : κ → α → Prop) (hJ : ∀ k, Laws f R (J k) True)
    (hrun : ∀ i k v, run i = .ok (some (k, v)) → J k v)
    {items items' : List ι} (hp : items.Perm items') :
    RE (fun a b => ∀ k, OptRel R (lookup k a) (lookup k b))
      (items.foldlM (stepG run f) []) (items'.foldlM (stepG run f) []) := by
  have hrel := (groupFold_keywise f [] List.nodup_nil (items.filterMap (kvOf run))).rel
    (groupFold_keywise f [] List.nodup_nil (items'.filterMap (kvOf run))) (fun _ => OptRel R) fun k => by
      simp only [valuesOf_filterMap_kvOf]
      refine foldKey_perm (hJ k) trivial (hp.filterMap _) (fun v hv => ?_) none trivial
      obtain ⟨i, _, hi⟩ := List.mem_filterMap.mp hv
      exact hrun i k v (pick_eq_some hi)
  have hall : (∀ i ∈ items, ∃ b, run i = .ok b) ↔ (∀ i ∈ items', ∃ b, run i = .ok b) :=
    ⟨fun h i hi => h i (hp.mem_iff.mpr hi), fun h i hi => h i (hp.mem_iff.mp hi)⟩
  apply RE.intro
  · intro a ha
    obtain ⟨h1, h2⟩ := (foldlM_stepG_ok run f items [] a).mp ha
    obtain ⟨b, hb, hab⟩ := hrel.ok_left h2
    exact ⟨b, (foldlM_stepG_ok run f items' [] b).mpr ⟨hall.mp h1, hb⟩, hab⟩
  · intro b hb
    obtain ⟨h1, h2⟩ := (foldlM_stepG_ok run f items' [] b).mp hb
    obtain ⟨a, ha, _⟩ := hrel.ok_right h2
    exact ⟨a, (foldlM_stepG_ok run f items [] a).mpr ⟨hall.mpr h1, ha⟩⟩

end StepG

theorem foldlM_flatMap {ι β σ ε : Type} (g : ι → List β) (step : σ → β → Except ε σ) (l : List ι) (s : σ) :
    (l.flatMap g).foldlM step s = l.foldlM (fun acc x => (g x).foldlM step acc) s := by
  induction l generalizing s with
  | nil => simp
  | cons x l ih =>
    simp only [List.flatMap_cons, List.foldlM_append, List.foldlM_cons]
    cases (g x).foldlM step s with
    | error e => rfl
    | ok s1 => simp [ih]

theorem flatMap_eq_of_nodup {κ β : Type} (G : κ → List β) (n : κ) (l : List κ) (hnd : l.Nodup) (hn : n ∈ l)
    (hG : ∀ x ∈ l, x ≠ n → G x = []) : l.flatMap G = G n := by
  obtain ⟨s, t, rfl⟩ := List.append_of_mem hn
  have hs : s.flatMap G = [] := List.flatMap_eq_nil_iff.mpr fun x hx => hG x (by simp [hx]) (by grind)
  have ht : t.flatMap G = [] := List.flatMap_eq_nil_iff.mpr fun x hx => hG x (by simp [hx]) (by grind)
  rw [List.flatMap_append, List.flatMap_cons, hs, ht, List.nil_append, List.append_nil]

end Annet.Mesh
