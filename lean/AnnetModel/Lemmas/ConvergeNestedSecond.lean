/-
C01 in the property's own words: after the patch has been executed, a second diff between the device and the target is
empty and the second patch is empty.

* The marked diff of two good levels that hold the same lines (`SameC`) consists of UNCHANGED items only
  (`all_unchanged`): `markUnchanged` leaves an item AFFECTED only if it has a child that is not UNCHANGED, and by
  induction there is none.
* `HWF` (well-formed at every level) is kept by executing ANY patch tree (`hwf_applyTree`), and a hereditarily
  well-formed configuration that holds the same lines as a good one is good (`goodC_of_same`): hence `applied_good`.
* A diff of UNCHANGED items only gives a `Pre` on which the `default` / `undo_redo` logics yield nothing
  (`itemsOfPre_unchanged`): hence `same_run_empty`.
* Along a chain of targets the device stays good and agrees with the last target (`deployStep_good`,
  `chain_converges`).
-/
import AnnetModel.Spec.DeployChain
import AnnetModel.Lemmas.ConvergeNested

namespace Annet.ConvergeNested.Lemmas

open Annet Annet.Rules Annet.Device Annet.Device.Abs Annet.Converge Annet.ConvergeNested Annet.Diff
open Annet.Converge.Lemmas Annet.Device.Lemmas
open Annet.Patch.PreLemmas (rAttrs rItems iGet makePre_inv)
open Annet.Diff.Spec Annet.Diff.Lemmas
open Annet.Patch Annet.Patch.Lemmas
open Annet.Gen.Lemmas (cfg_eta)

variable {rules : PRules} {a b : List (String × Cfg)} {d : List DItem}

theorem same_sub (hwa : WF rules a) (hwb : WF rules b)
    (hs : SameC rules (.mk a) (.mk b)) {row : String} (hra : row ∈ a.map (·.1)) (hrb : row ∈ b.map (·.1)) :
    SameC (crOf rules row) (.mk (subOf a row)) (.mk (subOf b row)) := by
  obtain ⟨ea, hea, rfl⟩ := List.mem_map.1 hra
  obtain ⟨eb, heb, hrow⟩ := List.mem_map.1 hrb
  obtain ⟨ra, ca⟩ := ea
  obtain ⟨rb, cb⟩ := eb
  simp only at hrow
  subst hrow
  obtain ⟨cr, hcl⟩ := classify_matchOf (hwb.1 _ heb)
  have := sameL_mem (sameC_mk.1 hs).2 hea heb hcl
  rw [subOf_of_mem (rows_nodup hwa) hea, subOf_of_mem (rows_nodup hwb) heb, cfg_eta, cfg_eta, crOf_eq hcl]
  exact this

theorem lvl_same_item (hl : Lvl rules a b d)
    (hh : ∀ s, holder rules a s = holder rules b s) {i : DItem} (hi : i ∈ d) :
    (i.op = .unchanged ∨ i.op = .affected) ∧ i.row ∈ a.map (·.1) ∧ i.row ∈ b.map (·.1) := by
  rcases hl.item hi with ⟨-, ha, hb⟩ | ⟨-, ha, hb⟩ | ⟨hop, ha, hb⟩
  · exact (hb (by rw [← hh]; exact ha)).elim
  · exact (ha (by rw [hh]; exact hb)).elim
  · exact ⟨hop, (holder_some ha).1, (holder_some hb).1⟩

theorem all_unchanged (h : NDiff rules a b d)
    (hga : GoodC rules (.mk a)) (hgb : GoodC rules (.mk b)) (hs : SameC rules (.mk a) (.mk b)) :
    ∀ i ∈ d, i.op = .unchanged := by
  induction h with
  | mk hl _ _ hmark ih =>
    intro i hi
    obtain ⟨hop, hra, hrb⟩ := lvl_same_item hl (sameC_mk.1 hs).1 hi
    rcases hop with hop | hop
    · exact hop
    · exact (hmark i hi hop (ih i hi (Or.inr hop) (good_sub (goodC_mk.1 hga).2 _) (good_sub (goodC_mk.1 hgb).2 _)
        (same_sub (goodC_mk.1 hga).1 (goodC_mk.1 hgb).1 hs hra hrb))).elim

theorem same_diff_all_unchanged (rules : PRules) (a b : Cfg)
    (hr : NestedRules rules) (hga : GoodC rules a) (hgb : GoodC rules b) (hs : SameC rules a b) :
    ∃ d, makeDiff rules a b = .ok d ∧ Lvl rules a.kids b.kids d ∧ ∀ i ∈ d, i.op = .unchanged := by
  obtain ⟨d, hd, hn⟩ := makeDiff_nested hr hga hgb
  obtain ⟨ka⟩ := a
  obtain ⟨kb⟩ := b
  exact ⟨d, hd, hn.lvl, all_unchanged hn hga hgb hs⟩

mutual
  theorem hwf_of_good : ∀ (rules : PRules) (c : Cfg), GoodC rules c → HWF rules c
    | rules, .mk ks, h => by
      obtain ⟨hw, hg⟩ := goodC_mk.1 h
      exact hwf_mk.2 ⟨hw, hwfL_of_good rules ks hg⟩
  theorem hwfL_of_good : ∀ (rules : PRules) (ks : List (String × Cfg)), GoodL rules ks → HWFL rules ks
    | rules, [], _ => by rw [HWFL]; trivial
    | rules, (row, c) :: rest, h => by
      obtain ⟨m, cr, hcl, -, hgc⟩ := goodL_mem h row c List.mem_cons_self
      have hrest : GoodL rules rest := by rw [GoodL] at h; exact h.2
      rw [HWFL, crOf_eq hcl]
      exact ⟨hwf_of_good cr c hgc, hwfL_of_good rules rest hrest⟩
end

mutual
  theorem goodC_of_same : ∀ (rules : PRules) (a b : Cfg), HWF rules a → SameC rules a b → GoodC rules b →
      GoodC rules a
    | rules, .mk ka, .mk kb, hh, hs, hg => by
      obtain ⟨hwa, hha⟩ := hwf_mk.1 hh
      obtain ⟨hwb, hgb⟩ := goodC_mk.1 hg
      obtain ⟨hhold, hsl⟩ := sameC_mk.1 hs
      refine goodC_mk.2 ⟨hwa, goodL_of_same rules ka hha ?_⟩
      intro row ca hca
      obtain ⟨s, hslot⟩ := Option.isSome_iff_exists.1 (hwa.1 _ hca)
      have hb : holder rules kb s = some row := by rw [← hhold]; exact holder_of_mem hwa hca hslot
      obtain ⟨eb, heb, hrow⟩ := List.mem_map.1 (holder_some hb).1
      obtain ⟨rb, cb⟩ := eb
      simp only at hrow
      subst hrow
      obtain ⟨m, cr, hcl, hu, hgc⟩ := goodL_mem hgb rb cb heb
      exact ⟨cb, m, cr, hcl, hu, hgc, sameL_mem hsl hca heb hcl⟩
  theorem goodL_of_same : ∀ (rules : PRules) (l : List (String × Cfg)), HWFL rules l →
      (∀ row ca, (row, ca) ∈ l → ∃ cb m cr, classify rules row = some (m, cr) ∧ uniqueMatch rules row ∧
        GoodC cr cb ∧ SameC cr ca cb) → GoodL rules l
    | rules, [], _, _ => goodL_nil rules
    | rules, (row, ca) :: rest, hh, hall => by
      rw [HWFL] at hh
      obtain ⟨cb, m, cr, hcl, hu, hgc, hsame⟩ := hall row ca List.mem_cons_self
      rw [crOf_eq hcl] at hh
      rw [GoodL, hcl]
      exact ⟨⟨hu, goodC_of_same cr ca cb hh.1 hsame hgc⟩,
        goodL_of_same rules rest hh.2 (fun row' ca' h' => hall row' ca' (List.mem_cons_of_mem _ h'))⟩
end

theorem applied_good (v : Vendor) (env : Env) (rules : PRules) (ordering : List ORule) (old new : Cfg)
    (r : Api.Result)
    (hr : NestedRules rules) (hgo : GoodC rules old) (hgn : GoodC rules new)
    (hc : CmdsOKAll v env rules) (hp : NoPin ordering)
    (hres : Api.deviceMode Patch.runLogic v rules ordering true old new = .ok r) :
    GoodC rules (.mk (applyTree env rules r.patch old.kids)) := by
  have hsame := nested_converges v env rules ordering old new r hr hgo hgn hc hp hres
  have hh : HWF rules (.mk (applyTree env rules r.patch old.kids)) := by
    apply hwf_applyTree
    rw [cfg_eta]
    exact hwf_of_good rules old hgo
  exact goodC_of_same rules _ new hh hsame hgn

theorem itemsOfRule_nil (rec : PRec) (v : Vendor) (ord : List ORule) (raw : String) (attrs : PAttrs) :
    ∀ (items : List PreItem), (∀ it ∈ items, Patch.runLogic v attrs it = .ok []) →
    itemsOfRule Patch.runLogic rec v ord true raw attrs items = .ok []
  | [], _ => by rw [itemsOfRule]
  | it :: rest, h => by
    rw [itemsOfRule, h it List.mem_cons_self]
    simp only [yieldsToItems]
    rw [itemsOfRule_nil rec v ord raw attrs rest (fun it' h' => h it' (List.mem_cons_of_mem _ h'))]
    rfl

theorem itemsOfPre_nil (rec : PRec) (v : Vendor) (ord : List ORule) :
    ∀ (P : List PreRule), (∀ R ∈ P, ∀ it ∈ rItems R, Patch.runLogic v (rAttrs R) it = .ok []) →
    itemsOfPre Patch.runLogic rec v ord true P = .ok []
  | [], _ => by rw [itemsOfPre]
  | .mk raw attrs items :: rest, h => by
    rw [itemsOfPre, itemsOfRule_nil rec v ord raw attrs items (h _ List.mem_cons_self)]
    simp only
    rw [itemsOfPre_nil rec v ord rest (fun R hR => h R (List.mem_cons_of_mem _ hR))]
    rfl

theorem itemsOfPre_unchanged {old new : List (String × Cfg)}
    (hnr : NestedRules rules) (hl : Lvl rules old new d) (hall : ∀ i ∈ d, i.op = .unchanged)
    (rec : PRec) (v : Vendor) (ord : List ORule) :
    itemsOfPre Patch.runLogic rec v ord true (makePre d).rules = .ok [] := by
  have hP := makePre_inv d
  apply itemsOfPre_nil
  intro R hR it hit
  obtain ⟨hlg, -, -⟩ := rule_attrs (levelRules_of_nested hnr) hl hP hR
  have hget : ∀ op, op ≠ .unchanged → iGet it op = [] := fun op hop =>
    List.eq_nil_iff_forall_not_mem.2 fun x hx => by
      obtain ⟨i, hi, h1, -⟩ := (hP.mem_bucket hR hit).1 hx
      exact hop (h1 ▸ hall i hi)
  rw [iGet_eta it, hget .added nofun, hget .removed nofun, hget .moved nofun, hget .affected nofun]
  exact (logic_table v (rAttrs R) hlg it.key).1 _

theorem same_run_empty (v : Vendor) (rules : PRules) (ordering : List ORule) (a b : Cfg)
    (hr : NestedRules rules) (hga : GoodC rules a) (hgb : GoodC rules b) (hs : SameC rules a b) :
    Api.deviceMode Patch.runLogic v rules ordering true a b = .ok { diff := [], patch := .mk [] } := by
  obtain ⟨d, hd, hl, hall⟩ := same_diff_all_unchanged rules a b hr hga hgb hs
  have hstrip : stripUnchanged d = [] :=
    strip_of_all_unchanged d (List.all_eq_true.2 fun i hi => beq_iff_eq.2 (hall i hi))
  unfold Api.deviceMode
  rw [hd]
  simp only [Api.liftD, bind, Except.bind, makePatchWith]
  have e : preDepth (makePre d) + 2 = (preDepth (makePre d) + 1) + 1 := rfl
  rw [e, makePatchUnsorted, itemsOfPre_unchanged hr hl hall, hstrip]
  simp only [Except.map, buildTree, List.flatMap_nil, sortTree_nil]
  rfl

theorem deployStep_good {v : Vendor} {env : Env} {rules : PRules} {ordering : List ORule}
    (hr : NestedRules rules) (hc : CmdsOKAll v env rules) (hp : NoPin ordering) {dev t dev' : Cfg}
    (hgd : GoodC rules dev) (hgt : GoodC rules t) (hs : deployStep v env rules ordering dev t = some dev') :
    GoodC rules dev' ∧ SameC rules dev' t := by
  unfold deployStep at hs
  split at hs
  · rename_i r hr'
    cases hs
    exact ⟨applied_good v env rules ordering dev t r hr hgd hgt hc hp hr',
      nested_converges v env rules ordering dev t r hr hgd hgt hc hp hr'⟩
  · cases hs

theorem chain_converges (v : Vendor) (env : Env) (rules : PRules) (ordering : List ORule)
    (hr : NestedRules rules) (hc : CmdsOKAll v env rules) (hp : NoPin ordering)
    (old : Cfg) (targets : List Cfg) (last : Cfg) (final : Cfg)
    (hgo : GoodC rules old) (hgt : ∀ t ∈ targets ++ [last], GoodC rules t)
    (hres : deployChain v env rules ordering old (targets ++ [last]) = some final) :
    GoodC rules final ∧ SameC rules final last := by
  induction targets generalizing old with
  | nil =>
    simp only [List.nil_append, deployChain] at hres
    cases hs : deployStep v env rules ordering old last with
    | none => rw [hs] at hres; cases hres
    | some dev' =>
      rw [hs] at hres
      cases hres
      exact deployStep_good hr hc hp hgo (hgt last (by simp)) hs
  | cons t ts ih =>
    simp only [List.cons_append, deployChain] at hres
    cases hs : deployStep v env rules ordering old t with
    | none => rw [hs] at hres; cases hres
    | some dev' =>
      rw [hs] at hres
      exact ih _ (deployStep_good hr hc hp hgo (hgt t (by simp)) hs).1
        (fun x hx => hgt x (List.mem_cons_of_mem _ hx)) hres

end Annet.ConvergeNested.Lemmas
