/-
`config`: the recursive calls on the children rules are kept opaque; a successful run is a sequence of assignments
`setAll acc s` whose entries are default blocks and matched lines (`configRules_inv`), success is `rules_some`.  The
completion is described level by level: its keys (`complete_keys`), its entries (`complete_inv`; what is in a merge is
read from `keys_merge` and `lookup_merge` of `Lemmas/CfgTree.lean`), its fixed points (`complete_fix`); idempotence
(`idem_core`) is the three put together.
-/
import AnnetModel.Lemmas.CfgTree
import AnnetModel.Spec.ImplicitRuleTree

namespace Annet.Implicit.Lemmas
open Annet Annet.Implicit Annet.Implicit.Spec Annet.Pattern
open Annet.Acl.Spec (SubL)
open Annet.Gen.Lemmas

-- the elaborated statement of `mergeL_self_aux` names this module in a binder, so the theorem cannot move to another
-- module without changing its statement
mutual
  theorem merge_self : (t : Cfg) → NoDupKeys t → merge t t = t
    | .mk a, h => by
      rw [NoDupKeys] at h
      rw [merge, mergeL_self_aux a a h (find_self a (nodupKeys_keys a h)), new_eq_nil fun _ => keys_of_mem,
        List.append_nil]
  theorem mergeL_self_aux : (a b : List (String × Cfg)) → NoDupKeysL a →
      (∀ e ∈ a, b.find? (·.1 == e.1) = some e) → mergeL a b = a
    | [], _, _, _ => by rw [mergeL]
    | (k, c) :: rest, b, h, hf => by
      rw [NoDupKeysL] at h
      rw [mergeL, hf (k, c) List.mem_cons_self]
      simp only
      rw [merge_self c h.2.1, mergeL_self_aux rest b h.2.2 (fun e he => hf e (List.mem_cons_of_mem _ he))]
end

theorem complete_eq {rules : List IRule} {t m : Cfg} (h : complete rules t = some m) :
    ∃ imp, configRules rules t.kids [] = some imp ∧ m = merge t (.mk imp) := by
  simp only [complete, config, Option.map_map, Option.map_eq_some_iff] at h
  obtain ⟨imp, h1, h2⟩ := h
  exact ⟨imp, h1, h2.symm⟩

theorem mem_setKey {d : List (String × Cfg)} {k : String} {v : Cfg} {e : String × Cfg}
    (h : e ∈ setKey d k v) : e ∈ d ∨ e = (k, v) := by
  rcases Keyed.mem_upsert (key := Prod.fst) (f := fun _ => (k, v)) h with ⟨h, -⟩ | ⟨_, _, _, rfl⟩ | ⟨-, rfl⟩
  · exact .inl h
  · exact .inr rfl
  · exact .inr rfl

theorem keys_setKey (d : List (String × Cfg)) (k : String) (v : Cfg) :
    keys (setKey d k v) = if k ∈ keys d then keys d else keys d ++ [k] :=
  Keyed.map_key_upsert (key := Prod.fst) (f := fun _ => (k, v)) (fun _ _ => rfl) rfl

theorem mem_keys_setKey {d : List (String × Cfg)} {k k' : String} {v : Cfg} :
    k' ∈ keys (setKey d k v) ↔ k' ∈ keys d ∨ k' = k := by
  rw [keys_setKey]
  split <;> grind

theorem nodup_setKey {d : List (String × Cfg)} (k : String) (v : Cfg) (h : (keys d).Nodup) :
    (keys (setKey d k v)).Nodup :=
  Keyed.nodup_upsert (key := Prod.fst) (f := fun _ => (k, v)) (fun _ _ => rfl) rfl h

/-- `for k, v in s: d[k] = v` -/
def setAll (d s : List (String × Cfg)) : List (String × Cfg) := s.foldl (fun d e => setKey d e.1 e.2) d

theorem mem_setAll {e : String × Cfg} : (s d : List (String × Cfg)) → e ∈ setAll d s → e ∈ d ∨ e ∈ s
  | [], _, h => .inl h
  | x :: s, d, h => by
    rcases mem_setAll s (setKey d x.1 x.2) h with h | h
    · rcases mem_setKey h with h | rfl
      · exact .inl h
      · exact .inr List.mem_cons_self
    · exact .inr (List.mem_cons_of_mem _ h)

theorem mem_keys_setAll {k : String} : (s d : List (String × Cfg)) →
    (k ∈ keys (setAll d s) ↔ k ∈ keys d ∨ k ∈ keys s)
  | [], _ => by simp [setAll, keys]
  | x :: s, d => by
    rw [show setAll d (x :: s) = setAll (setKey d x.1 x.2) s from rfl, mem_keys_setAll s, mem_keys_setKey]
    simp only [keys, List.map_cons, List.mem_cons, or_assoc]

theorem nodup_setAll : (s d : List (String × Cfg)) → (keys d).Nodup → (keys (setAll d s)).Nodup
  | [], _, h => h
  | x :: s, _, h => nodup_setAll s _ (nodup_setKey x.1 x.2 h)

theorem configMatched_inv (recur : List (String × Cfg) → Option (List (String × Cfg))) :
    (matched acc out : List (String × Cfg)) → configMatched recur matched acc = some out →
      ∃ s, out = setAll acc s ∧ keys s = keys matched ∧
        ∀ e ∈ s, ∃ line sub sub', (line, Cfg.mk sub) ∈ matched ∧ recur sub = some sub' ∧ e = (line, Cfg.mk sub')
  | [], acc, out, h => by
    rw [configMatched, Option.some.injEq] at h
    exact ⟨[], h.symm, rfl, nofun⟩
  | (line, .mk sub) :: more, acc, out, h => by
    rw [configMatched] at h
    split at h
    · cases h
    · rename_i t ht
      obtain ⟨s, hout, hk, hs⟩ := configMatched_inv recur more _ out h
      refine ⟨(line, .mk t) :: s, hout, congrArg (line :: ·) hk, fun e he => ?_⟩
      rcases List.mem_cons.1 he with rfl | he
      · exact ⟨line, sub, t, List.mem_cons_self, ht, rfl⟩
      · obtain ⟨l, s, s', hm, hr⟩ := hs e he
        exact ⟨l, s, s', List.mem_cons_of_mem _ hm, hr⟩

theorem configMatched_some (recur : List (String × Cfg) → Option (List (String × Cfg))) :
    (matched acc : List (String × Cfg)) →
      (∀ line sub, (line, Cfg.mk sub) ∈ matched → (recur sub).isSome = true) →
      ∃ out, configMatched recur matched acc = some out
  | [], acc, _ => ⟨acc, by rw [configMatched]⟩
  | (line, .mk sub) :: more, acc, h => by
    rw [configMatched]
    obtain ⟨t, ht⟩ := Option.isSome_iff_exists.1 (h line sub List.mem_cons_self)
    rw [ht]
    exact configMatched_some recur more _ (fun l s hm => h l s (List.mem_cons_of_mem _ hm))

def matchesLine (r : IRule) (line : String) : Bool := rowMatches r line == some true

/-- `matched_lines` of a rule -/
def matchedBy (r : IRule) (cfg : List (String × Cfg)) : List (String × Cfg) := cfg.filter fun e => matchesLine r e.1

/-- the rule adds its row as a default -/
def adds (r : IRule) (cfg : List (String × Cfg)) : Bool :=
  !r.ignore && !((matchedBy r cfg).any fun e => !e.1.isEmpty) && !(cfg.any (·.1 == r.row))

theorem configRule_eq (r : IRule) (cfg acc : List (String × Cfg)) :
    configRule r cfg acc =
      match parseRow false r.row.toList with
      | none => none
      | some _ =>
        if adds r cfg then
          match configRules r.children [] [] with
          | none => none
          | some sub => configMatched (fun s => configRules r.children s []) (matchedBy r cfg) (setKey acc r.row (.mk sub))
        else configMatched (fun s => configRules r.children s []) (matchedBy r cfg) acc := by
  obtain ⟨row, ign, ch⟩ := r
  rw [configRule]
  simp only [IRule.row, IRule.children]
  cases hp : parseRow false row.toList with
  | none => rfl
  | some p =>
    have hm : ∀ line : String, matchesLine (.mk row ign ch) line = (p.match? line.toList).isSome := by
      intro line
      simp only [matchesLine, rowMatches, IRule.row, hp, Option.map_some]
      cases (p.match? line.toList).isSome <;> rfl
    simp only [adds, matchedBy, hm, IRule.ignore, IRule.row]
    rfl

theorem mem_matchedBy {r : IRule} {cfg : List (String × Cfg)} {e : String × Cfg} :
    e ∈ matchedBy r cfg ↔ e ∈ cfg ∧ matchesLine r e.1 = true := by
  simp [matchedBy]

theorem mem_keys_matchedBy {r : IRule} {cfg : List (String × Cfg)} {k : String} :
    k ∈ keys (matchedBy r cfg) ↔ ∃ e ∈ cfg, matchesLine r e.1 = true ∧ e.1 = k := by
  simp only [keys, List.mem_map, mem_matchedBy, and_assoc]

/-- the default block a rule adds: its row over the completion of the empty block -/
def IsDefault (r : IRule) (cfg : List (String × Cfg)) (e : String × Cfg) : Prop :=
  adds r cfg = true ∧ ∃ sub, configRules r.children [] [] = some sub ∧ e = (r.row, Cfg.mk sub)

/-- a line the rule matches, with the children completed -/
def IsMatched (r : IRule) (cfg : List (String × Cfg)) (e : String × Cfg) : Prop :=
  ∃ line sub sub', (line, Cfg.mk sub) ∈ matchedBy r cfg ∧ configRules r.children sub [] = some sub' ∧
    e = (line, Cfg.mk sub')

theorem configRule_inv {r : IRule} {cfg acc out : List (String × Cfg)} (h : configRule r cfg acc = some out) :
    (parseRow false r.row.toList).isSome = true ∧ ∃ s, out = setAll acc s ∧
      (∀ k, k ∈ keys s ↔ (adds r cfg = true ∧ k = r.row) ∨ k ∈ keys (matchedBy r cfg)) ∧
      ∀ e ∈ s, IsDefault r cfg e ∨ IsMatched r cfg e := by
  rw [configRule_eq] at h
  split at h
  · cases h
  · rename_i p hp
    refine ⟨by rw [hp]; rfl, ?_⟩
    have matched := fun {acc'} =>
      configMatched_inv (fun s => configRules r.children s []) (matchedBy r cfg) acc' out
    split at h
    · rename_i ha
      split at h
      · cases h
      · rename_i sub hs
        obtain ⟨s, hout, hk, hs'⟩ := matched h
        refine ⟨(r.row, .mk sub) :: s, hout, fun k => ?_, fun e he => ?_⟩
        · rw [← hk]
          simp only [keys, List.map_cons, List.mem_cons, ha, true_and]
        · rcases List.mem_cons.1 he with rfl | he
          · exact .inl ⟨ha, sub, hs, rfl⟩
          · exact .inr (hs' e he)
    · rename_i ha
      obtain ⟨s, hout, hk, hs'⟩ := matched h
      exact ⟨s, hout, fun k => by simp only [hk, ha, Bool.false_eq_true, false_and, false_or], fun e he => .inr (hs' e he)⟩

theorem rule_some {r : IRule} {cfg : List (String × Cfg)} (acc : List (String × Cfg))
    (hp : (parseRow false r.row.toList).isSome = true)
    (ha : adds r cfg = true → (configRules r.children [] []).isSome = true)
    (hm : ∀ line sub, (line, Cfg.mk sub) ∈ cfg → matchesLine r line = true →
      (configRules r.children sub []).isSome = true) :
    ∃ out, configRule r cfg acc = some out := by
  rw [configRule_eq]
  obtain ⟨p, hp⟩ := Option.isSome_iff_exists.1 hp
  rw [hp]
  have hm' : ∀ line sub, (line, Cfg.mk sub) ∈ matchedBy r cfg →
      ((fun s => configRules r.children s []) sub).isSome = true :=
    fun line sub h => hm line sub (mem_matchedBy.1 h).1 (mem_matchedBy.1 h).2
  simp only
  split
  · rename_i hadd
    obtain ⟨sub, hs⟩ := Option.isSome_iff_exists.1 (ha hadd)
    rw [hs]
    exact configMatched_some _ _ _ hm'
  · exact configMatched_some _ _ _ hm'

theorem configRules_inv : (rules : List IRule) → (cfg acc out : List (String × Cfg)) →
    configRules rules cfg acc = some out →
    (∀ r ∈ rules, (parseRow false r.row.toList).isSome = true) ∧ ∃ s, out = setAll acc s ∧
      (∀ k, k ∈ keys s ↔ (∃ r ∈ rules, adds r cfg = true ∧ k = r.row) ∨
        ∃ r ∈ rules, k ∈ keys (matchedBy r cfg)) ∧
      ∀ e ∈ s, (∃ r ∈ rules, IsDefault r cfg e) ∨ ∃ r ∈ rules, IsMatched r cfg e
  | [], cfg, acc, out, h => by
    rw [configRules, Option.some.injEq] at h
    exact ⟨nofun, [], h.symm, by simp [keys], nofun⟩
  | r :: rest, cfg, acc, out, h => by
    rw [configRules] at h
    split at h
    · cases h
    · rename_i acc' hr
      obtain ⟨hp1, s1, rfl, hk1, hs1⟩ := configRule_inv hr
      obtain ⟨hp2, s2, rfl, hk2, hs2⟩ := configRules_inv rest cfg _ out h
      simp only [List.mem_cons, exists_eq_or_imp, forall_eq_or_imp]
      refine ⟨⟨hp1, hp2⟩, s1 ++ s2, (List.foldl_append ..).symm, fun k => ?_, fun e he => ?_⟩
      · rw [keys_append, List.mem_append, hk1, hk2]
        grind
      · rcases List.mem_append.1 he with he | he
        · exact (hs1 e he).imp .inl .inl
        · exact (hs2 e he).imp .inr .inr

theorem config_inv {rules : List IRule} {cfg out : List (String × Cfg)} (h : configRules rules cfg [] = some out) :
    (keys out).Nodup ∧ (∀ r ∈ rules, (parseRow false r.row.toList).isSome = true) ∧
      (∀ k, k ∈ keys out ↔ (∃ r ∈ rules, adds r cfg = true ∧ k = r.row) ∨
        ∃ r ∈ rules, k ∈ keys (matchedBy r cfg)) ∧
      ∀ e ∈ out, (∃ r ∈ rules, IsDefault r cfg e) ∨ ∃ r ∈ rules, IsMatched r cfg e := by
  obtain ⟨hp, s, rfl, hk, hs⟩ := configRules_inv _ _ _ _ h
  refine ⟨nodup_setAll s [] List.nodup_nil, hp, fun k => ?_, fun e he => ?_⟩
  · rw [mem_keys_setAll, ← hk]
    simp [keys]
  · exact hs e ((mem_setAll s [] he).resolve_left List.not_mem_nil)

theorem rules_some : (rules : List IRule) → (cfg acc : List (String × Cfg)) →
    (∀ r ∈ rules, (parseRow false r.row.toList).isSome = true ∧
      (adds r cfg = true → (configRules r.children [] []).isSome = true) ∧
      ∀ line sub, (line, Cfg.mk sub) ∈ cfg → matchesLine r line = true →
        (configRules r.children sub []).isSome = true) →
    ∃ out, configRules rules cfg acc = some out
  | [], _, acc, _ => ⟨acc, by rw [configRules]⟩
  | r :: rest, cfg, acc, h => by
    rw [configRules]
    obtain ⟨h1, h2, h3⟩ := h r List.mem_cons_self
    obtain ⟨acc', ha⟩ := rule_some acc h1 h2 h3
    rw [ha]
    exact rules_some rest cfg acc' (fun r' hr' => h r' (List.mem_cons_of_mem _ hr'))

theorem hasKey_iff (t : Cfg) (k : String) : hasKey t k = true ↔ k ∈ keys t.kids := any_key _ _

theorem adds_eq (r : IRule) (t : Cfg) :
    adds r t.kids = (!r.ignore && !hasLineOfKind r t && !hasKey t r.row) := by
  simp only [adds, matchedBy, hasLineOfKind, hasKey, List.any_filter, matchesLine]
  have : ∀ a : String × Cfg, (rowMatches r a.1 == some true && !a.1.isEmpty) =
      (!a.1.isEmpty && rowMatches r a.1 == some true) := fun a => Bool.and_comm _ _
  simp only [this]

/-- The keys of the completion: the explicit ones, and the row of every rule without `!` that finds no line of its kind. -/
theorem complete_keys {rules : List IRule} {t m : Cfg} (h : complete rules t = some m) (k : String) :
    hasKey m k = true ↔
      hasKey t k = true ∨ ∃ r ∈ rules, r.ignore = false ∧ hasLineOfKind r t = false ∧ k = r.row := by
  obtain ⟨imp, hi, rfl⟩ := complete_eq h
  obtain ⟨a⟩ := t
  rw [hasKey_iff, hasKey_iff, mem_keys_merge, (config_inv hi).2.2.1 k]
  simp only [adds_eq, Bool.and_eq_true, Bool.not_eq_true']
  constructor
  · rintro (h | ⟨r, hr, ⟨⟨hi, hk⟩, _⟩, rfl⟩ | ⟨r, _, h⟩)
    · exact .inl h
    · exact .inr ⟨r, hr, hi, hk, rfl⟩
    · obtain ⟨e, he, _, rfl⟩ := mem_keys_matchedBy.1 h
      exact .inl (keys_of_mem he)
  · rintro (h | ⟨r, hr, hi, hk, rfl⟩)
    · exact .inl h
    · cases hx : hasKey (.mk a) r.row
      · exact .inr (.inl ⟨r, hr, ⟨⟨hi, hk⟩, hx⟩, rfl⟩)
      · exact .inl ((hasKey_iff _ _).1 hx)

open Annet.Gen.Lemmas (mergeL_eq_map) in
theorem mergeL_eq_self (a b : List (String × Cfg))
    (h : ∀ k c, (k, c) ∈ a → ∀ c', Cfg.lookup b k = some c' → merge c c' = c) : mergeL a b = a := by
  rw [mergeL_eq_map]
  refine (List.map_congr_left fun e he => ?_).trans (List.map_id _)
  cases hl : Cfg.lookup b e.1 with
  | none => rfl
  | some c' => exact Prod.ext rfl (h e.1 e.2 he c' hl)

theorem adds_iff (r : IRule) (cfg : List (String × Cfg)) :
    adds r cfg = true ↔ r.ignore = false ∧ (∀ k ∈ keys cfg, matchesLine r k = true → k.isEmpty = true) ∧
      r.row ∉ keys cfg := by
  rw [← any_key]
  simp only [adds, matchedBy, List.any_filter, keys, Bool.and_eq_true, Bool.not_eq_true', List.any_eq_false,
    List.mem_map, Bool.not_eq_true, forall_exists_index, and_imp, forall_apply_eq_imp_iff₂,
    and_assoc, beq_iff_eq]
  constructor
  · rintro ⟨h1, h2, h3⟩
    refine ⟨h1, fun e he hm => ?_, by simpa using h3⟩
    have := h2 e he
    simpa [hm] using this
  · rintro ⟨h1, h2, h3⟩
    refine ⟨h1, fun e he => ?_, by simpa using h3⟩
    cases hm : matchesLine r e.1
    · simp
    · simpa using h2 e he hm

theorem Deep.here {P : List IRule → Bool} {rules : List IRule} (h : Deep P rules) : P rules = true := by
  simp only [Deep, Bool.and_eq_true] at h; exact h.1

theorem deepL_mem {P : List IRule → Bool} : (rules : List IRule) → deepL P rules = true →
    ∀ r ∈ rules, deepR P r = true
  | [], _, _, hr => by cases hr
  | r0 :: rest, h, r, hr => by
    rw [deepL, Bool.and_eq_true] at h
    rcases List.mem_cons.1 hr with rfl | hr
    · exact h.1
    · exact deepL_mem rest h.2 r hr

theorem Deep.child {P : List IRule → Bool} {rules : List IRule} (h : Deep P rules) {r : IRule} (hr : r ∈ rules) :
    Deep P r.children := by
  simp only [Deep, Bool.and_eq_true] at h
  have := deepL_mem rules h.2 r hr
  obtain ⟨row, ign, ch⟩ := r
  rw [deepR] at this
  exact this

/-- `SelfMatch` is not a theorem: an `(?i)` row is outside its own language -/
example : rowMatches (.mk "(?i)foo" false []) "(?i)foo" = some false := by decide +kernel

theorem sizeOf_children_lt {rules : List IRule} {r : IRule} (hr : r ∈ rules) : sizeOf r.children < sizeOf rules := by
  have := List.sizeOf_lt_of_mem hr
  obtain ⟨row, ign, ch⟩ := r
  simp only [IRule.mk.sizeOf_spec] at this
  simp only [IRule.children]
  omega

theorem complete_of_config {rules : List IRule} {sub sub' : List (String × Cfg)}
    (h : configRules rules sub [] = some sub') :
    complete rules (.mk sub) = some (merge (.mk sub) (.mk sub')) := by
  simp [complete, config, Cfg.kids, h]

/-- **The completion, entry by entry** (`complete_keys` gives the keys): an explicit line keeps its block or gets it
completed by the children of a rule that recognises it; any other entry is a default row over the completion of the
empty block. -/
theorem complete_inv {rules : List IRule} {t m : Cfg} (h : complete rules t = some m) (hn : (keys t.kids).Nodup)
    {k : String} {c : Cfg} (hm : (k, c) ∈ m.kids) :
    (∃ c0, (k, c0) ∈ t.kids ∧ ((c = c0 ∧ ∀ r ∈ rules, matchesLine r k = false) ∨
      ∃ r ∈ rules, matchesLine r k = true ∧ complete r.children c0 = some c)) ∨
    (k ∉ keys t.kids ∧ ∃ r ∈ rules, adds r t.kids = true ∧ k = r.row ∧ complete r.children (.mk []) = some c) := by
  obtain ⟨imp, hi, rfl⟩ := complete_eq h
  obtain ⟨a⟩ := t
  simp only [Cfg.kids] at hi hn ⊢
  obtain ⟨hni, -, hki, hmi⟩ := config_inv hi
  have hl := (lookup_some_iff (nodup_keys_merge hn hni)).2 hm
  rw [lookup_merge] at hl
  simp only [Cfg.kids] at hl
  cases h0 : Cfg.lookup a k <;> cases h1 : Cfg.lookup imp k <;> rw [h0, h1] at hl <;> cases hl
  · refine .inr ⟨lookup_none_iff.1 h0, ?_⟩
    rcases hmi _ (mem_of_lookup h1) with ⟨r1, hr1, hadd, sub, hcr, he⟩ | ⟨_, _, line, sub, sub', hl, _, he⟩
    · cases he
      exact ⟨r1, hr1, hadd, rfl, by rw [complete_of_config hcr, merge_nil_left]⟩
    · cases he
      exact (lookup_none_iff.1 h0 (keys_of_mem (mem_matchedBy.1 hl).1)).elim
  · have hc0 := mem_of_lookup h0
    refine .inl ⟨c, hc0, .inl ⟨rfl, fun r hr => ?_⟩⟩
    rw [← Bool.not_eq_true]
    exact fun hmatch => lookup_none_iff.1 h1 ((hki k).2 (.inr ⟨r, hr, mem_keys_matchedBy.2 ⟨_, hc0, hmatch, rfl⟩⟩))
  · rename_i c0 c1
    have hc0 := mem_of_lookup h0
    refine .inl ⟨c0, hc0, ?_⟩
    rcases hmi _ (mem_of_lookup h1) with ⟨r1, _, hadd, _, _, he⟩ | ⟨r1, hr1, line, sub, sub', hl, hcr, he⟩
    · cases he
      exact (((adds_iff r1 a).1 hadd).2.2 (keys_of_mem hc0)).elim
    · cases he
      obtain ⟨hla, hm1⟩ := mem_matchedBy.1 hl
      obtain rfl : c0 = .mk sub := entry_unique a hn hc0 hla
      exact .inr ⟨r1, hr1, hm1, complete_of_config hcr⟩

theorem adds_complete {rules : List IRule} {t m : Cfg} (h : complete rules t = some m) {r : IRule} (hr : r ∈ rules) :
    adds r m.kids = false := by
  rw [← Bool.not_eq_true]
  intro hadd
  have hk := fun k => (hasKey_iff m k).symm.trans ((complete_keys h k).trans (or_congr_left (hasKey_iff t k)))
  obtain ⟨h1, h2, h3⟩ := (adds_iff r _).1 hadd
  have : adds r t.kids = true :=
    (adds_iff r _).2 ⟨h1, fun k hk' => h2 k ((hk k).2 (.inl hk')), fun hk' => h3 ((hk _).2 (.inl hk'))⟩
  simp only [adds_eq, Bool.and_eq_true, Bool.not_eq_true'] at this
  exact h3 ((hk _).2 (.inr ⟨r, hr, h1, this.1.2, rfl⟩))

/-- **Fixed points of the completion**: no default is missing, and every block a rule recognises is a fixed point for
that rule's children. -/
theorem complete_fix {rules : List IRule} {m : Cfg} (hn : (keys m.kids).Nodup)
    (hp : ∀ r ∈ rules, (parseRow false r.row.toList).isSome = true)
    (N : ∀ r ∈ rules, adds r m.kids = false)
    (K : ∀ k c, (k, c) ∈ m.kids → ∀ r ∈ rules, matchesLine r k = true → complete r.children c = some c) :
    complete rules m = some m := by
  obtain ⟨mk⟩ := m
  simp only [Cfg.kids] at hn N K
  obtain ⟨imp2, hi2⟩ : ∃ imp2, configRules rules mk [] = some imp2 := by
    refine rules_some _ _ _ fun r hr => ⟨hp r hr, fun hadd => ?_, fun line sub hl hm => ?_⟩
    · rw [N r hr] at hadd; cases hadd
    · obtain ⟨imp', h', _⟩ := complete_eq (K line (.mk sub) hl r hr hm)
      simp only [Cfg.kids] at h'
      rw [h']; rfl
  rw [complete_of_config hi2, merge]
  obtain ⟨_, _, hki2, hmi2⟩ := config_inv hi2
  have e1 : mergeL mk imp2 = mk := by
    apply mergeL_eq_self
    intro k c hc c' hf
    rcases hmi2 _ (Annet.Gen.Lemmas.mem_of_lookup hf) with ⟨r1, hr1, hadd, _⟩ | ⟨r1, hr1, line, sub, sub', hl, hcr, he⟩
    · rw [N r1 hr1] at hadd; cases hadd
    · cases he
      obtain ⟨hlm, hm1⟩ := mem_matchedBy.1 hl
      obtain rfl : c = .mk sub := entry_unique mk hn hc hlm
      have := K _ _ hlm r1 hr1 hm1
      rw [complete_of_config hcr] at this
      exact Option.some.inj this
  have e2 : imp2.filter (fun e => !(mk.any (·.1 == e.1))) = [] := by
    refine new_eq_nil fun e he => ?_
    rcases (hki2 e.1).1 (keys_of_mem he) with ⟨r1, hr1, hadd, _⟩ | ⟨r1, hr1, hk⟩
    · rw [N r1 hr1] at hadd; cases hadd
    · obtain ⟨e', he', _, hk⟩ := mem_keys_matchedBy.1 hk
      rw [← hk]; exact keys_of_mem he'
  rw [e1, e2, List.append_nil]

/-- **Idempotence**, by induction over the rule tree: no default is missing (`adds_complete`), and a block that a rule
recognises was completed by that very rule (`complete_inv`; *same line, same rule* is where `Disjoint`, `DeepDistinct`
and `SelfMatch` come in), hence is a fixed point by induction; `complete_fix` concludes. -/
theorem idem_core (rules : List IRule) (t m : Cfg) (h : complete rules t = some m)
    (hnd : NoDupKeys t) (hdd : DeepDistinct rules) (hdis : Disjoint rules) (hsm : SelfMatch rules) :
    complete rules m = some m := by
  have hd : RowsDistinct rules := by simpa using hdd.here
  obtain ⟨hdis1, hdis2⟩ : (∀ r1 ∈ rules, ∀ r2 ∈ rules, r1.row ≠ r2.row → ∀ line,
      rowMatches r1 line = some true → rowMatches r2 line = some true → False) ∧
      (∀ r ∈ rules, Disjoint r.children) := by
    cases hdis with
    | mk _ h1 h2 => exact ⟨h1, h2⟩
  have IH : ∀ r ∈ rules, ∀ t' m', complete r.children t' = some m' → NoDupKeys t' →
      complete r.children m' = some m' := fun r hr t' m' h' hn' =>
    idem_core r.children t' m' h' hn' (hdd.child hr) (hdis2 r hr) (hsm.child hr)
  have hself : ∀ r ∈ rules, matchesLine r r.row = true := by
    have := hsm.here
    simp only [List.all_eq_true] at this
    exact this
  -- same line ⇒ same rule
  have hsame : ∀ r1 ∈ rules, ∀ r2 ∈ rules, ∀ line, matchesLine r1 line = true → matchesLine r2 line = true →
      r1 = r2 := by
    intro r1 h1 r2 h2 line hm1 hm2
    apply List.inj_of_nodup_map IRule.row rules hd r1 h1 r2 h2
    apply Classical.byContradiction
    intro hne
    exact hdis1 r1 h1 r2 h2 hne line (by simpa [matchesLine] using hm1) (by simpa [matchesLine] using hm2)
  have hnt : NoDupKeysL t.kids := by cases t; rwa [NoDupKeys] at hnd
  have hna := nodupKeys_keys _ hnt
  obtain ⟨imp, hi, hm⟩ := complete_eq h
  refine complete_fix ?_ (config_inv hi).2.1 (fun r hr => adds_complete h hr) fun k c hkc r hr hmatch => ?_
  · cases t; rw [hm]; exact nodup_keys_merge hna (config_inv hi).1
  · rcases complete_inv h hna hkc with ⟨c0, hc0, ⟨_, hno⟩ | ⟨r1, hr1, hm1, hc⟩⟩ | ⟨_, r1, hr1, _, rfl, hc⟩
    · rw [hno r hr] at hmatch; cases hmatch
    · obtain rfl := hsame r hr r1 hr1 k hmatch hm1
      exact IH r hr _ _ hc (nodupKeys_child _ hnt _ _ hc0)
    · obtain rfl := hsame r hr r1 hr1 _ hmatch (hself r1 hr1)
      exact IH r hr _ _ hc (by rw [NoDupKeys, NoDupKeysL]; trivial)
termination_by sizeOf rules
decreasing_by exact sizeOf_children_lt hr

/-
`DeepDistinct` is needed: `RowsDistinct` constrains the top level only and `Disjoint` says nothing about two sibling
rules with the same row, so two child rules may share a row:
  rules = [t {a {x}, !a {y}}], t = {}: the first run gives t/a/x, the second adds t/a/y.
(`Disjoint rules` holds here, but it quantifies over all lines and is not part of the evaluated example.)
-/
example :
    let rules : List IRule := [.mk "t" false [.mk "a" false [.mk "x" false []], .mk "a" true [.mk "y" false []]]]
    RowsDistinct rules ∧
    (complete rules (.mk [])).map Cfg.paths = some [["t"], ["t", "a"], ["t", "a", "x"]] ∧
    ((complete rules (.mk [])).bind (complete rules)).map Cfg.paths =
      some [["t"], ["t", "a"], ["t", "a", "x"], ["t", "a", "y"]] := by
  decide +kernel

end Annet.Implicit.Lemmas
