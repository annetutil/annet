/-
Helper lemmas for the provenance of patch commands (C02 clause (a)):
  * `ProvL` as a membership statement, `buildTree` and `sortTree` keep provenance,
  * a boolean equality on `PTree` (`beqT`) and `okIs`, for closed examples.

Core Lean only.
-/
import AnnetModel.Spec.Provenance
import AnnetModel.Lemmas.Sort
import AnnetModel.Lemmas.SortTree
import AnnetModel.Lemmas.Pre
import AnnetModel.Lemmas.PatchLogic

namespace Annet.Patch.Prov
open Annet.Rules Annet.Diff Annet.Patch Annet.Patch.PreLemmas

theorem provL_iff {v : Vendor} {d : List DItem} {items : List (String × Option PTree × SortKey)} :
    ProvL v d items ↔ ∀ it ∈ items, ProvI v d it := by
  induction items with
  | nil => exact ⟨fun _ _ h => (nomatch h), fun _ => ProvL.nil⟩
  | cons a rest ih =>
    constructor
    · intro h
      cases h with
      | cons h1 h2 =>
        intro it hit
        rcases List.mem_cons.1 hit with rfl | hit
        · exact h1
        · exact ih.1 h2 it hit
    · intro h
      exact .cons (h a List.mem_cons_self) (ih.2 fun it hit => h it (List.mem_cons_of_mem _ hit))

theorem provT_iff {v : Vendor} {d : List DItem} {p : PTree} : ProvT v d p ↔ ∀ it ∈ p.items, ProvI v d it := by
  obtain ⟨items⟩ := p
  constructor
  · intro h
    cases h with
    | mk h => exact provL_iff.1 h
  · intro h
    exact .mk (provL_iff.2 h)

theorem mem_changed {it : PreItem} {x : PreEntry} (h : x ∈ changed it) : ∃ op, op ≠ .unchanged ∧ x ∈ iGet it op := by
  obtain ⟨k, a, r, m, f, u⟩ := it
  simp only [changed, List.mem_append] at h
  rcases h with ((h | h) | h) | h
  · exact ⟨.added, by decide, h⟩
  · exact ⟨.removed, by decide, h⟩
  · exact ⟨.moved, by decide, h⟩
  · exact ⟨.affected, by decide, h⟩

theorem mem_remOrMoved {it : PreItem} {x : PreEntry} (h : x ∈ remOrMoved it) :
    ∃ op, (op = .removed ∨ op = .moved) ∧ x ∈ iGet it op := by
  obtain ⟨k, a, r, m, f, u⟩ := it
  simp only [remOrMoved, List.mem_append] at h
  rcases h with h | h
  · exact ⟨.removed, .inl rfl, h⟩
  · exact ⟨.moved, .inr rfl, h⟩

/-- the raw item `x` of a patch level stems from `d`: a `force_commit` flag comes from an entry of a `%force_commit` rule,
and `x` is the row of a changed entry with a tree that stems from the entry's children (direct) or the removal command of
a REMOVED / MOVED entry (not direct).  `buildTree_prov` and `prov_step` meet at it. -/
def RawProv (v : Vendor) (d : List DItem) (x : RawItem) : Prop :=
  (x.forceCommit = true → ∃ e' ∈ d, e'.m.attrs.forceCommit = true) ∧
  ((x.direct = true ∧ ∃ e ∈ d, e.op ≠ .unchanged ∧ x.row = e.row ∧ ProvT v e.children x.children) ∨
   (x.direct = false ∧ ∃ e e', e ∈ d ∧ (e.op = .removed ∨ e.op = .moved) ∧ e' ∈ d ∧ e'.m.rawRule = e.m.rawRule ∧
      reverseCmd v e'.m.attrs e.m.key = some x.row))

theorem buildTree_prov (v : Vendor) (d : List DItem) (items : List RawItem) (h : ∀ x ∈ items, RawProv v d x) :
    ProvT v d (buildTree items) := by
  rw [buildTree_eq, provT_iff]
  intro it hit
  obtain ⟨x, hx, hit⟩ := List.mem_flatMap.1 hit
  obtain ⟨hc, hm⟩ := h x hx
  rcases List.mem_cons.1 hit with rfl | hit
  · unfold treeOf
    rcases hm with ⟨hd, e, he, hop, hrow, hch⟩ | ⟨hd, e, e', he, hop, he', hraw, hrev⟩
    · rw [hrow]
      split
      · exact .leaf he hop
      · exact .block he hop hch
    · rw [if_pos (by simp [isLeaf, hd])]
      exact .reverse he hop he' hraw hrev
  · split at hit
    · next hfc =>
      cases List.mem_singleton.1 hit
      obtain ⟨e', he', hf⟩ := hc hfc
      exact .commit he' hf
    · cases hit

mutual
  theorem sortTree_prov (v : Vendor) : (t : PTree) → ∀ (d : List DItem), ProvT v d t → ProvT v d (sortTree t)
    | .mk items, d, h => by
      simp only [sortTree]
      rw [provT_iff] at h ⊢
      intro it hit
      exact sortItems_prov v items d h it ((Lemmas.sort_perm _ _).mem_iff.1 hit)
  theorem sortItems_prov (v : Vendor) : (items : List (String × Option PTree × SortKey)) → ∀ (d : List DItem),
      (∀ it ∈ items, ProvI v d it) → ∀ it ∈ sortItems items, ProvI v d it
    | [], d, h => by rw [Lemmas.sortItems_eq_map]; nofun
    | (row, o, k) :: rest, d, h => by
      rw [Lemmas.sortItems_eq_map, List.map_cons, ← Lemmas.sortItems_eq_map]
      intro it hit
      rcases List.mem_cons.1 hit with rfl | hit
      · have h0 := h _ List.mem_cons_self
        cases o with
        | none => exact h0
        | some c =>
          cases h0 with
          | block he hop hch => exact .block he hop (sortTree_prov v c _ hch)
      · exact sortItems_prov v rest d (fun it hit => h it (List.mem_cons_of_mem _ hit)) it hit
end

/-! ### a boolean equality test for patch trees (for closed examples: `PTree` has no `DecidableEq`) -/

mutual
  def beqT : PTree → PTree → Bool
    | .mk a, .mk b => beqL a b
  def beqL : List (String × Option PTree × SortKey) → List (String × Option PTree × SortKey) → Bool
    | [], [] => true
    | (r, none, k) :: as, (r', none, k') :: bs => r == r' && k == k' && beqL as bs
    | (r, some c, k) :: as, (r', some c', k') :: bs => r == r' && k == k' && beqT c c' && beqL as bs
    | _, _ => false
end

mutual
  theorem beqT_sound : ∀ (a b : PTree), beqT a b = true → a = b
    | .mk a, .mk b, h => by
      rw [beqT] at h
      rw [beqL_sound a b h]
  theorem beqL_sound : ∀ (a b : List (String × Option PTree × SortKey)), beqL a b = true → a = b
    | [], [], _ => rfl
    | [], _ :: _, h => by simp [beqL] at h
    | (r, none, k) :: as, [], h => by simp [beqL] at h
    | (r, some c, k) :: as, [], h => by simp [beqL] at h
    | (r, none, k) :: as, (r', some c', k') :: bs, h => by simp [beqL] at h
    | (r, some c, k) :: as, (r', none, k') :: bs, h => by simp [beqL] at h
    | (r, none, k) :: as, (r', none, k') :: bs, h => by
      simp only [beqL, Bool.and_eq_true, beq_iff_eq] at h
      obtain ⟨⟨rfl, rfl⟩, h3⟩ := h
      rw [beqL_sound as bs h3]
    | (r, some c, k) :: as, (r', some c', k') :: bs, h => by
      simp only [beqL, Bool.and_eq_true, beq_iff_eq] at h
      obtain ⟨⟨⟨rfl, rfl⟩, h2⟩, h3⟩ := h
      rw [beqL_sound as bs h3, beqT_sound c c' h2]
end

def okIs (r : Except Patch.Err PTree) (p : PTree) : Bool :=
  match r with
  | .ok q => beqT q p
  | .error _ => false

theorem okIs_sound {r : Except Patch.Err PTree} {p : PTree} (h : okIs r p = true) : r = .ok p := by
  unfold okIs at h
  split at h
  · rw [beqT_sound _ _ h]
  · cases h

end Annet.Patch.Prov
