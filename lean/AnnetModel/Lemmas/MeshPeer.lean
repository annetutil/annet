/-
`to_bgp_peer` (`models_converter.py`): what it reads from the two DTOs, that it reads `ForbidChange` fields of equivalent
DTOs alike, and one direction of the correspondence between the `Peer` objects at the two ends of a mirrored pair.
-/
import AnnetModel.Lemmas.Mesh
import AnnetModel.Model.MeshExec

namespace Annet.Mesh

theorem toBgpPeer_ok {optFields : List String} {ipOf : String → Option String} {loc conn : Fields}
    {host : String} {iface : Option String} {P : PeerOut}
    (h : toBgpPeer optFields ipOf loc conn host iface = .ok P) :
    peerLocalAs loc = .ok P.localAs ∧ peerAddr ipOf conn = .ok P.addr ∧ peerRemoteAs conn = .ok P.remoteAs ∧
    P.localAddr = lookup "addr" loc := by
  simp only [toBgpPeer, Except.bind_eq_ok] at h
  obtain ⟨las, hlas, addr, haddr, ras, hras, hP⟩ := h
  cases hP
  exact ⟨hlas, haddr, hras, rfl⟩

theorem peerAddr_ok {ipOf : String → Option String} {c : Fields} {ip : String} (h : peerAddr ipOf c = .ok ip) :
    ∃ a cs, lookup "addr" c = some (.atom a) ∧ a.toList = 's' :: cs ∧ ipOf (String.ofList cs) = some ip := by
  unfold peerAddr at h
  split at h
  next a ha =>
    split at h
    next cs hcs =>
      split at h
      next ip' hip => cases h; exact ⟨a, cs, ha, hcs, hip⟩
      next => cases h
    next => cases h
  next => cases h
  next => cases h

theorem parseAsn_none : parseAsn noneAtom = .ok 0 := by
  simp [parseAsn]

/-- `options.local_as` and `ASN(asnum)` read the same attribute; `local_as = None` reads as AS 0, like
`ASN(None)` -/
theorem peerLocalAs_getD {l : Fields} {o : Option Nat} {n : Nat} (h1 : peerLocalAs l = .ok o)
    (h2 : peerRemoteAs l = .ok n) : o.getD 0 = n := by
  unfold peerLocalAs at h1
  unfold peerRemoteAs at h2
  split at h2
  next => cases h2
  next a ha =>
    simp only [ha] at h1
    by_cases hc : a = noneAtom
    · rw [if_pos hc] at h1
      rw [hc, parseAsn_none] at h2
      cases h1; cases h2; rfl
    · rw [if_neg hc, h2] at h1
      cases h1; rfl
  next => cases h2

theorem OptRel_leafEqv_cases {o o' : Option Val} (h : OptRel leafEqv o o') :
    o = o' ∨ ∃ a b, o = some (.set a) ∧ o' = some (.set b) := by
  cases o <;> cases o' <;> try exact h.elim
  · exact Or.inl rfl
  · rename_i v v'
    have h' : shapeEqv .set (fun a b => ∀ s, s ∈ a ↔ s ∈ b) v v' := leafEqv_eq ▸ h
    rcases h'.inv with ⟨rfl, _⟩ | ⟨a, b, hv, hv', _⟩
    · exact Or.inl rfl
    · exact Or.inr ⟨a, b, congrArg some (Shape.set.eq_make hv), congrArg some (Shape.set.eq_make hv')⟩

theorem lookup_fc_rel {dto : Table} {x y : Fields} (h : EquivFields dto x y) {f : String}
    (hf : (f, Merger.forbidChange) ∈ dto) : OptRel leafEqv (lookup f x) (lookup f y) :=
  (EquivFields_iff dto x y).mp h f _ hf

theorem peerLocalAs_congr {loc loc' : Fields} (h : OptRel leafEqv (lookup "asnum" loc) (lookup "asnum" loc')) :
    peerLocalAs loc = peerLocalAs loc' := by
  rcases OptRel_leafEqv_cases h with e | ⟨a, b, e1, e2⟩
  · simp only [peerLocalAs, e]
  · simp only [peerLocalAs, e1, e2]

theorem peerRemoteAs_congr {c c' : Fields} (h : OptRel leafEqv (lookup "asnum" c) (lookup "asnum" c')) :
    peerRemoteAs c = peerRemoteAs c' := by
  rcases OptRel_leafEqv_cases h with e | ⟨a, b, e1, e2⟩
  · simp only [peerRemoteAs, e]
  · simp only [peerRemoteAs, e1, e2]

theorem peerAddr_congr (ipOf : String → Option String) {c c' : Fields}
    (h : OptRel leafEqv (lookup "addr" c) (lookup "addr" c')) : peerAddr ipOf c = peerAddr ipOf c' := by
  rcases OptRel_leafEqv_cases h with e | ⟨a, b, e1, e2⟩
  · simp only [peerAddr, e]
  · simp only [peerAddr, e1, e2]

/-- one direction of `C15_mirrored_peer_fields` -/
theorem toBgpPeer_mirror {dto : Table} (haddr : ("addr", Merger.forbidChange) ∈ dto)
    (hasn : ("asnum", Merger.forbidChange) ∈ dto) {optFields : List String} {ipOf : String → Option String}
    {x y : Pair} (he : EquivFields dto y.loc x.connected) {hx hy : String} {ix iy : Option String} {X Y : PeerOut}
    (hX : toBgpPeer optFields ipOf x.loc x.connected hx ix = .ok X)
    (hY : toBgpPeer optFields ipOf y.loc y.connected hy iy = .ok Y) :
    (∃ a cs, Y.localAddr = some (.atom a) ∧ a.toList = 's' :: cs ∧ ipOf (String.ofList cs) = some X.addr) ∧
    Y.localAs.getD 0 = X.remoteAs := by
  obtain ⟨_, hxa, hxr, _⟩ := toBgpPeer_ok hX
  obtain ⟨hlas, _, _, hla⟩ := toBgpPeer_ok hY
  rw [← peerAddr_congr ipOf (lookup_fc_rel he haddr)] at hxa
  rw [← peerRemoteAs_congr (lookup_fc_rel he hasn)] at hxr
  obtain ⟨a, cs, ha, hcs, hip⟩ := peerAddr_ok hxa
  exact ⟨⟨a, cs, hla.trans ha, hcs, hip⟩, peerLocalAs_getD hlas hxr⟩

end Annet.Mesh
