/-
The nested device: blocks under lines, executed structurally (`applyTree`) or path by path (`execPath`).

* `inBlock` changes the sub-block of one line and nothing else (`inBlock_eq`, `inBlock_entry`).  An item of a patch tree
  (`itemStep`) acts on one slot of the level (`itemSlot`: `itemStep_frame` on any level, `itemAct`, `itemStep_entry` on a
  well-formed one), and executing a list of items is, slot by slot, the fold of the actions of the items addressing the
  slot (`applyItems_entries`).
* The path executor: `descend` with a function that leaves the visited set alone is `inBlock` (`descend_pure`); paths
  under one line `c`, sent to a level that holds `c` and no other line of its slot (`Settled`), run inside the block of
  `c` (`runPaths_block`).
* `HWF`, well-formed at every depth, is kept by every step of the structural executor (`hwf_applyTree`).
-/
import AnnetModel.Spec.ConvergeNested
import AnnetModel.Lemmas.Device

namespace Annet.Device.Lemmas
open Annet Annet.Rules Annet.Device Annet.Device.Abs Annet.ConvergeNested

theorem inBlock_eq (inner : List (String × Cfg) → List (String × Cfg)) (c : String) : ∀ l : List (String × Cfg),
    ((∀ e ∈ l, (e.1 == c) = false) ∧ ConvergeNested.inBlock inner c l = l) ∨
    ∃ pre ch post, l = pre ++ (c, ch) :: post ∧ (∀ e ∈ pre, (e.1 == c) = false) ∧
      ConvergeNested.inBlock inner c l = pre ++ (c, .mk (inner ch.kids)) :: post
  | [] => .inl ⟨nofun, rfl⟩
  | (row, .mk ch) :: more => by
    rw [ConvergeNested.inBlock]
    split
    · next h => exact .inr ⟨[], .mk ch, more, by rw [beq_iff_eq.1 h]; rfl, nofun, by rw [beq_iff_eq.1 h]; rfl⟩
    · next h =>
      have h : (row == c) = false := by simpa using h
      rcases inBlock_eq inner c more with ⟨h1, h2⟩ | ⟨pre, ch', post, h1, h2, h3⟩
      · exact .inl ⟨List.forall_mem_cons.2 ⟨h, h1⟩, by rw [h2]⟩
      · exact .inr ⟨(row, .mk ch) :: pre, ch', post, by rw [h1]; rfl, List.forall_mem_cons.2 ⟨h, h2⟩, by rw [h3]; rfl⟩

theorem inBlock_filter_other (rules : PRules) (inner : List (String × Cfg) → List (String × Cfg)) (c : String)
    (s : Slot) (hc : slotOf rules c ≠ some s) (l : List (String × Cfg)) :
    (inBlock inner c l).filter (fun e => slotOf rules e.1 == some s) = l.filter (fun e => slotOf rules e.1 == some s) := by
  rcases inBlock_eq inner c l with ⟨-, h⟩ | ⟨pre, ch, post, rfl, -, h⟩
  · rw [h]
  · have : (slotOf rules c == some s) = false := beq_eq_false_iff_ne.2 hc
    rw [h, List.filter_append, List.filter_append, List.filter_cons, List.filter_cons, this]
    rfl

theorem inBlock_find_self (inner : List (String × Cfg) → List (String × Cfg)) (r : String) (l : List (String × Cfg))
    (e0 : String × Cfg) (h : l.find? (fun e => e.1 == r) = some e0) :
    (inBlock inner r l).find? (fun e => e.1 == r) = some (e0.1, .mk (inner e0.2.kids)) := by
  rcases inBlock_eq inner r l with ⟨h1, -⟩ | ⟨pre, ch, post, rfl, hpre, h2⟩
  · rw [List.find?_eq_none.2 fun e he => by rw [h1 e he]; exact Bool.false_ne_true] at h
    cases h
  · have hn : pre.find? (fun e => e.1 == r) = none :=
      List.find?_eq_none.2 fun e he => by rw [hpre e he]; exact Bool.false_ne_true
    rw [List.find?_append, hn, Option.none_or, List.find?_cons, beq_self_eq_true] at h
    cases h
    rw [h2, List.find?_append, hn, Option.none_or, List.find?_cons, beq_self_eq_true]

end Annet.Device.Lemmas

namespace Annet.ConvergeNested.Lemmas

open Annet Annet.Rules Annet.Device Annet.Device.Abs Annet.Converge Annet.ConvergeNested
open Annet.Converge.Lemmas Annet.Device.Lemmas Annet.Patch

variable {rules : PRules} {v : Vendor} {env : Env}

theorem inBlock_rows (inner : List (String × Cfg) → List (String × Cfg)) (c : String) (l : List (String × Cfg)) :
    (inBlock inner c l).map (·.1) = l.map (·.1) := by
  rcases inBlock_eq inner c l with ⟨-, h⟩ | ⟨pre, ch, post, rfl, -, h⟩ <;> rw [h]
  simp

theorem inBlock_id (c : String) (l : List (String × Cfg)) : inBlock (fun ch => ch) c l = l := by
  rcases inBlock_eq (fun ch => ch) c l with ⟨-, h⟩ | ⟨pre, ch, post, rfl, -, h⟩ <;> rw [h]
  cases ch; rfl

theorem inBlock_find (inner : List (String × Cfg) → List (String × Cfg)) (c : String) (q : String → Bool)
    (l : List (String × Cfg)) (hn : (l.map (·.1)).Nodup) :
    (inBlock inner c l).find? (fun e => q e.1) =
      (l.find? (fun e => q e.1)).map fun e => if e.1 = c then (e.1, .mk (inner e.2.kids)) else e := by
  have keep : ∀ l' : List (String × Cfg), (∀ e ∈ l', (e.1 == c) = false) →
      (l'.find? (fun e => q e.1)).map (fun e => if e.1 = c then (e.1, .mk (inner e.2.kids)) else e) =
        l'.find? (fun e => q e.1) := fun l' h => by
    cases hf : l'.find? (fun e => q e.1) with
    | none => rfl
    | some e => simp [beq_eq_false_iff_ne.1 (h e (List.mem_of_find?_eq_some hf))]
  rcases inBlock_eq inner c l with ⟨h1, h⟩ | ⟨pre, ch, post, rfl, hpre, h⟩
  · rw [h, keep l h1]
  · have hpost : ∀ e ∈ post, (e.1 == c) = false := fun e he => beq_eq_false_iff_ne.2 fun hc => by
      simp only [List.map_append, List.map_cons] at hn
      exact (List.nodup_cons.1 (List.nodup_append.1 hn).2.1).1 (hc ▸ List.mem_map_of_mem he)
    rw [h, List.find?_append, List.find?_append, List.find?_cons, List.find?_cons]
    cases hp : pre.find? (fun e => q e.1) with
    | some e => simp [beq_eq_false_iff_ne.1 (hpre e (List.mem_of_find?_eq_some hp))]
    | none => cases hq : q c <;> simp [keep post hpost]

theorem inBlock_entry (rules : PRules) (inner : List (String × Cfg) → List (String × Cfg)) (c : String)
    (kids : List (String × Cfg)) (hwf : WF rules kids) :
    WF rules (inBlock inner c kids) ∧
    ∀ s, entryAt rules (inBlock inner c kids) s =
      (entryAt rules kids s).map fun e => if e.1 = c then (e.1, .mk (inner e.2.kids)) else e := by
  constructor
  · apply wf_of_map_eq (a := kids) _ hwf
    have := inBlock_rows inner c kids
    have h2 := congrArg (List.map (slotOf rules)) this
    simpa [List.map_map, Function.comp_def] using h2
  · intro s
    exact inBlock_find inner c (fun r => slotOf rules r == some s) kids (rows_nodup hwf)

abbrev TItem := String × Option PTree × SortKey

/-- one step of `applyItems` (`applyItems_foldl`) -/
def itemStep (env : Env) (rules : PRules) (t : TItem) (kids : List (String × Cfg)) : List (String × Cfg) :=
  match t with
  | (row, none, _) => execLeaf env rules row kids
  | (row, some T, _) =>
    match classify rules row with
    | none => kids
    | some (m, cr) => inBlock (applyTree env cr T) row (putLine rules m row kids)

theorem itemStep_block (env : Env) (rules : PRules) (row : String) (T : PTree) (k : SortKey)
    (kids : List (String × Cfg)) :
    itemStep env rules (row, some T, k) kids =
      match classify rules row with
      | none => kids
      | some (m, cr) => inBlock (applyTree env cr T) row (putLine rules m row kids) := rfl

theorem applyItems_foldl (env : Env) (rules : PRules) : ∀ (items : List TItem) (kids : List (String × Cfg)),
    applyItems env rules items kids = items.foldl (fun k t => itemStep env rules t k) kids
  | [], kids => by rw [applyItems]; rfl
  | (row, none, k) :: rest, kids => by
    rw [applyItems, applyItems_foldl env rules rest]; rfl
  | (row, some T, k) :: rest, kids => by
    rw [applyItems, List.foldl_cons, itemStep_block]
    cases classify rules row with
    | none => exact applyItems_foldl env rules rest kids
    | some mc => exact applyItems_foldl env rules rest _

theorem applyTree_eq (env : Env) (rules : PRules) (t : PTree) (kids : List (String × Cfg)) :
    applyTree env rules t kids = applyItems env rules t.items kids := by
  obtain ⟨items⟩ := t
  rw [applyTree]; rfl

theorem applyTree_nil (env : Env) (rules : PRules) (kids : List (String × Cfg)) :
    applyTree env rules (.mk []) kids = kids := by
  rw [applyTree, applyItems]

/-- the slot an item addresses; none for an exit word -/
def itemSlot (env : Env) (rules : PRules) : TItem → Option Slot
  | (c, none, _) => cmdSlot rules (den env rules c)
  | (c, some _, _) => slotOf rules c

def itemAct (env : Env) (rules : PRules) : TItem → Option (String × Cfg) → Option (String × Cfg)
  | (c, none, _), x => cmdAct (den env rules c) x
  | (c, some T, _), x =>
    match classify rules c with
    | none => x
    | some (_, cr) => some (c, .mk (applyTree env cr T (keepOrNew c x).2.kids))

theorem itemStep_leaf (env : Env) (rules : PRules) (c : String) (k : SortKey) (kids : List (String × Cfg)) :
    itemStep env rules (c, none, k) kids = run rules (den env rules c) kids :=
  execLeaf_eq_run env rules c kids

/-- an item leaves the lines of every slot but its own as they are, on any level -/
theorem itemStep_frame (env : Env) (rules : PRules) (t : TItem) (s : Slot) (h : itemSlot env rules t ≠ some s)
    (kids : List (String × Cfg)) :
    (itemStep env rules t kids).filter (fun e => slotOf rules e.1 == some s) =
      kids.filter (fun e => slotOf rules e.1 == some s) := by
  obtain ⟨c, o, k⟩ := t
  cases o with
  | none => rw [itemStep_leaf]; exact run_frame rules _ s h kids
  | some T =>
    have h : slotOf rules c ≠ some s := h
    rw [itemStep_block]
    cases hcl : classify rules c with
    | none => rfl
    | some mc =>
      obtain ⟨m, cr⟩ := mc
      simp only
      rw [inBlock_filter_other rules _ c s h, putLine_filter_other rules m c s kids h]
      rwa [slotOf_of_classify hcl] at h

theorem itemStep_entry (env : Env) (rules : PRules) (t : TItem) (kids : List (String × Cfg))
    (hwf : WF rules kids) :
    WF rules (itemStep env rules t kids) ∧
    ∀ s, itemSlot env rules t = some s →
      entryAt rules (itemStep env rules t kids) s = itemAct env rules t (entryAt rules kids s) := by
  obtain ⟨c, o, k⟩ := t
  cases o with
  | none => rw [itemStep_leaf]; exact run_entry rules _ kids hwf
  | some T =>
    rw [itemStep_block]
    simp only [itemSlot, itemAct]
    cases hcl : classify rules c with
    | none => exact ⟨hwf, fun s hs => by simp [slotOf, hcl] at hs⟩
    | some mc =>
      obtain ⟨m, cr⟩ := mc
      obtain ⟨hw1, he1⟩ := putLine_entry rules m c kids hwf (slotOf_of_classify hcl)
      obtain ⟨hw2, he2⟩ := inBlock_entry rules (applyTree env cr T) c _ hw1
      refine ⟨hw2, fun s hcs => ?_⟩
      rw [he2, he1, if_pos hcs]
      simp only [Option.map_some, keepOrNew_fst, if_true]

theorem applyItems_entries (env : Env) (rules : PRules) : ∀ (items : List TItem) (kids : List (String × Cfg)),
    WF rules kids →
    WF rules (applyItems env rules items kids) ∧
    ∀ s, entryAt rules (applyItems env rules items kids) s =
      (items.filter fun t => itemSlot env rules t == some s).foldl (fun x t => itemAct env rules t x)
        (entryAt rules kids s) := by
  intro items kids hwf
  rw [applyItems_foldl]
  induction items generalizing kids with
  | nil => exact ⟨hwf, fun _ => rfl⟩
  | cons t rest ih =>
    obtain ⟨hw1, he1⟩ := itemStep_entry env rules t kids hwf
    obtain ⟨hw2, he2⟩ := ih _ hw1
    refine ⟨hw2, fun s => ?_⟩
    rw [List.foldl_cons, he2 s, List.filter_cons]
    by_cases hs : itemSlot env rules t = some s
    · rw [he1 s hs]
      simp [hs]
    · have : (itemSlot env rules t == some s) = false := by simpa using hs
      rw [entryAt_of_filter_eq (itemStep_frame env rules t s hs kids)]
      simp [this]

theorem descend_pure (f : List (String × Cfg) → List (String × Cfg)) (c : String) :
    ∀ (l : List (String × Cfg)) (v : Visited),
    descend (fun v ch => (f ch, v)) c l v = (inBlock f c l, v)
  | [], v => rfl
  | (row, .mk ch) :: more, v => by
    rw [descend, inBlock]
    by_cases h : (row == c) = true
    · rw [if_pos h, if_pos h]
    · rw [if_neg h, if_neg h, descend_pure f c more v]

theorem inBlock_comp (f g : List (String × Cfg) → List (String × Cfg)) (c : String) :
    ∀ (l : List (String × Cfg)), inBlock g c (inBlock f c l) = inBlock (fun ch => g (f ch)) c l
  | [] => rfl
  | (row, .mk ch) :: more => by
    rw [inBlock, inBlock]
    by_cases h : (row == c) = true
    · rw [if_pos h, if_pos h, inBlock, if_pos h]
    · rw [if_neg h, if_neg h, inBlock, if_neg h, inBlock_comp f g c more]

theorem descend_rows (inner : Visited → List (String × Cfg) → List (String × Cfg) × Visited) (c : String) :
    ∀ (l : List (String × Cfg)) (v : Visited), (descend inner c l v).1.map (·.1) = l.map (·.1)
  | [], v => rfl
  | (row, .mk ch) :: more, v => by
    rw [descend]
    split
    · rfl
    · simp only [List.map_cons]
      rw [descend_rows inner c more v]

theorem descend_comp (f g : Visited → List (String × Cfg) → List (String × Cfg) × Visited) (c : String) :
    ∀ (l : List (String × Cfg)) (v : Visited),
    descend g c (descend f c l v).1 (descend f c l v).2 =
      descend (fun v ch => g (f v ch).2 (f v ch).1) c l v
  | [], v => rfl
  | (row, .mk ch) :: more, v => by
    by_cases h : (row == c) = true
    · simp only [descend, if_pos h]
    · have ih := descend_comp f g c more v
      simp only [descend, if_neg h]
      rw [ih]

/-- the level holds the line `c` and no other line of its slot -/
def Settled (rules : PRules) (m : PMatch) (c : String) (rows : List String) : Prop :=
  c ∈ rows ∧ ∀ r ∈ rows, r = c ∨ sameSlot rules m r = false

theorem putLine_settled (rules : PRules) (m : PMatch) (c : String) (kids : List (String × Cfg))
    (h : Settled rules m c (kids.map (·.1))) : putLine rules m c kids = kids := by
  obtain ⟨h1, h2⟩ := h
  unfold putLine
  have hany : kids.any (fun e => e.1 == c) = true := by
    obtain ⟨e, he, hc⟩ := List.mem_map.1 h1
    exact List.any_eq_true.2 ⟨e, he, by simp [hc]⟩
  rw [if_pos hany, List.filter_eq_self]
  intro e he
  rcases h2 e.1 (List.mem_map_of_mem he) with h | h
  · simp [h]
  · simp [h]

theorem putLine_settles (rules : PRules) (m : PMatch) (c : String) (kids : List (String × Cfg)) :
    Settled rules m c ((putLine rules m c kids).map (·.1)) := by
  unfold putLine
  split
  · rename_i h1
    obtain ⟨e0, he0, hec⟩ := List.any_eq_true.1 h1
    refine ⟨List.mem_map.2 ⟨e0, List.mem_filter.2 ⟨he0, by simp [hec]⟩, beq_iff_eq.1 hec⟩, fun r hr => ?_⟩
    obtain ⟨e, he, rfl⟩ := List.mem_map.1 hr
    simpa using (List.mem_filter.1 he).2
  · split
    · rename_i h2
      rcases rf_false_split rules m c kids with ⟨h, -⟩ | ⟨pre, x, rest, rfl, hpre, -, heq⟩
      · obtain ⟨e, he, hs⟩ := List.any_eq_true.1 h2
        rw [h e he] at hs; cases hs
      · rw [heq]
        refine ⟨by simp, fun r hr => ?_⟩
        simp only [List.map_append, List.map_cons, List.mem_append, List.mem_cons, List.mem_map, List.mem_filter] at hr
        rcases hr with ⟨e, he, rfl⟩ | rfl | ⟨e, ⟨-, he⟩, rfl⟩
        · exact .inr (hpre e he)
        · exact .inl rfl
        · exact .inr (by simpa using he)
    · rename_i h2
      refine ⟨by simp, fun r hr => ?_⟩
      simp only [List.map_append, List.map_cons, List.map_nil, List.mem_append, List.mem_singleton] at hr
      rcases hr with hr | hr
      · obtain ⟨e, he, rfl⟩ := List.mem_map.1 hr
        exact .inr (by simpa using fun hs => h2 (List.any_eq_true.2 ⟨e, he, hs⟩))
      · exact .inl hr

/-- the fold of `execPath` that `applyCmds` is, started at the level `here` -/
def runPaths (env : Env) (rules : PRules) (here : List String) (paths : List (List String))
    (st : List (String × Cfg) × Visited) : List (String × Cfg) × Visited :=
  paths.foldl (fun st p => execPath env p rules here st.2 st.1) st

theorem runPaths_nil (env : Env) (rules : PRules) (here : List String) (st : List (String × Cfg) × Visited) :
    runPaths env rules here [] st = st := rfl

theorem runPaths_cons (env : Env) (rules : PRules) (here : List String) (p : List String)
    (ps : List (List String)) (st : List (String × Cfg) × Visited) :
    runPaths env rules here (p :: ps) st = runPaths env rules here ps (execPath env p rules here st.2 st.1) := rfl

theorem runPaths_append (env : Env) (rules : PRules) (here : List String) (a b : List (List String))
    (st : List (String × Cfg) × Visited) :
    runPaths env rules here (a ++ b) st = runPaths env rules here b (runPaths env rules here a st) := by
  simp [runPaths, List.foldl_append]

theorem execPath_leaf (env : Env) (rules : PRules) (here : List String) (vis : Visited)
    (kids : List (String × Cfg)) (c : String) (h : isRewriteCmd rules c = false) :
    execPath env [c] rules here vis kids = (execLeaf env rules c kids, vis) := by
  simp [execPath, h]

theorem execPath_block (env : Env) (rules : PRules) (here : List String) (vis : Visited)
    (kids : List (String × Cfg)) (c : String) (p : List String) (hp : p ≠ []) {m : PMatch} {cr : PRules}
    (hcl : classify rules c = some (m, cr)) (h : isRewriteCmd rules c = false) :
    execPath env (c :: p) rules here vis kids =
      descend (fun v ch => execPath env p cr (here ++ [c]) v ch) c (putLine rules m c kids) vis := by
  cases p with
  | nil => exact (hp rfl).elim
  | cons c2 rest =>
    have hl : (m.attrs.logic == "common.rewrite") = false := by
      simpa [isRewriteCmd, hcl] using h
    simp [execPath, hcl, hl]

theorem execPath_none (env : Env) (rules : PRules) (here : List String) (vis : Visited)
    (kids : List (String × Cfg)) (c : String) (p : List String) (hp : p ≠ [])
    (hcl : classify rules c = none) : execPath env (c :: p) rules here vis kids = (kids, vis) := by
  cases p with
  | nil => exact (hp rfl).elim
  | cons c2 rest => simp [execPath, hcl]

theorem runPaths_none (env : Env) (rules : PRules) (here : List String) (c : String)
    (hcl : classify rules c = none) : ∀ (ps : List (List String)), (∀ p ∈ ps, p ≠ []) →
    ∀ st, runPaths env rules here (ps.map (c :: ·)) st = st
  | [], _, st => rfl
  | p :: ps, h, st => by
    rw [List.map_cons, runPaths_cons, execPath_none env rules here _ _ c p (h p List.mem_cons_self) hcl]
    exact runPaths_none env rules here c hcl ps (fun q hq => h q (List.mem_cons_of_mem _ hq)) _

theorem runPaths_block (env : Env) (rules : PRules) (here : List String) (c : String) {m : PMatch} {cr : PRules}
    (hcl : classify rules c = some (m, cr)) (hrw : isRewriteCmd rules c = false) :
    ∀ (ps : List (List String)), (∀ p ∈ ps, p ≠ []) → ∀ (K : List (String × Cfg)) (vis : Visited),
    Settled rules m c (K.map (·.1)) →
    runPaths env rules here (ps.map (c :: ·)) (K, vis) =
      descend (fun v ch => runPaths env cr (here ++ [c]) ps (ch, v)) c K vis
  | [], _, K, vis, _ => by
    have : (fun (v : Visited) (ch : List (String × Cfg)) => runPaths env cr (here ++ [c]) [] (ch, v)) =
        fun v ch => ((fun x => x) ch, v) := rfl
    rw [List.map_nil, runPaths_nil, this, descend_pure, inBlock_id]
  | p :: ps, h, K, vis, hK => by
    rw [List.map_cons, runPaths_cons]
    simp only
    rw [execPath_block env rules here vis K c p (h p List.mem_cons_self) hcl hrw, putLine_settled rules m c K hK]
    have hK' : Settled rules m c ((descend (fun v ch => execPath env p cr (here ++ [c]) v ch) c K vis).1.map (·.1)) := by
      rw [descend_rows]; exact hK
    have ih := runPaths_block env rules here c hcl hrw ps (fun q hq => h q (List.mem_cons_of_mem _ hq))
      (descend (fun v ch => execPath env p cr (here ++ [c]) v ch) c K vis).1
      (descend (fun v ch => execPath env p cr (here ++ [c]) v ch) c K vis).2 hK'
    rw [ih, descend_comp]
    rfl

mutual
  def HWFL : PRules → List (String × Cfg) → Prop
    | _, [] => True
    | rules, (row, c) :: rest => HWF (crOf rules row) c ∧ HWFL rules rest
  /-- `WF` at every level, each block under the child rules `crOf` gives its row -/
  def HWF : PRules → Cfg → Prop
    | rules, .mk ks => WF rules ks ∧ HWFL rules ks
end

theorem hwf_mk {ks : List (String × Cfg)} : HWF rules (.mk ks) ↔ WF rules ks ∧ HWFL rules ks := by
  rw [HWF]

theorem hwfL_iff {rules : PRules} : ∀ {ks : List (String × Cfg)},
    HWFL rules ks ↔ ∀ e ∈ ks, HWF (crOf rules e.1) e.2
  | [] => by rw [HWFL]; simp
  | (row, c) :: rest => by
    rw [HWFL, hwfL_iff (ks := rest)]
    simp

theorem hwf_nil (rules : PRules) : HWF rules (.mk []) := hwf_mk.2 ⟨wf_nil rules, hwfL_iff.2 (fun _ h => by cases h)⟩

theorem hwf_putLine {m : PMatch} {cr : PRules} {c : String} {kids : List (String × Cfg)}
    (hcl : classify rules c = some (m, cr)) (hh : HWF rules (.mk kids)) :
    HWF rules (.mk (putLine rules m c kids)) := by
  obtain ⟨hw, hl⟩ := hwf_mk.1 hh
  obtain ⟨hw', hent⟩ := putLine_entry rules m c kids hw (slotOf_of_classify hcl)
  refine hwf_mk.2 ⟨hw', hwfL_iff.2 fun e he => ?_⟩
  -- an entry of the new level is the entry of its slot: the old one, or the line put with the old or an empty block
  obtain ⟨s, hs⟩ := Option.isSome_iff_exists.1 (hw'.1 e he)
  have h := hent s
  rw [entryAt_of_mem hw' he hs] at h
  split at h
  · cases h
    cases hk : entryAt rules kids s with
    | none => exact hwf_nil _
    | some e0 =>
      obtain ⟨c', sub⟩ := e0
      by_cases hc : c' = c
      · subst hc
        simp only [keepOrNew, if_true]
        exact hwfL_iff.1 hl _ (entryAt_some hk).1
      · simp only [keepOrNew, hc, if_false]
        exact hwf_nil _
  · exact hwfL_iff.1 hl e (entryAt_some h.symm).1

theorem hwf_filter {kids : List (String × Cfg)} (p : String × Cfg → Bool)
    (hh : HWF rules (.mk kids)) : HWF rules (.mk (kids.filter p)) := by
  obtain ⟨hw, hl⟩ := hwf_mk.1 hh
  exact hwf_mk.2 ⟨wf_filter p hw, hwfL_iff.2 fun e he => hwfL_iff.1 hl e (List.mem_filter.1 he).1⟩

theorem hwf_execLeaf (env : Env) (c : String) {kids : List (String × Cfg)}
    (hh : HWF rules (.mk kids)) : HWF rules (.mk (execLeaf env rules c kids)) := by
  unfold execLeaf
  split
  · exact hh
  · split
    · exact hwf_filter _ hh
    · split
      · rename_i m cr hcl
        exact hwf_putLine hcl hh
      · exact hh

theorem hwf_inBlock (inner : List (String × Cfg) → List (String × Cfg)) (c : String)
    {kids : List (String × Cfg)} (hh : HWF rules (.mk kids))
    (hinner : ∀ ch, HWF (crOf rules c) (.mk ch) → HWF (crOf rules c) (.mk (inner ch))) :
    HWF rules (.mk (inBlock inner c kids)) := by
  obtain ⟨hw, hl⟩ := hwf_mk.1 hh
  obtain ⟨hw', hent⟩ := inBlock_entry rules inner c kids hw
  refine hwf_mk.2 ⟨hw', hwfL_iff.2 fun e he => ?_⟩
  obtain ⟨s, hs⟩ := Option.isSome_iff_exists.1 (hw'.1 e he)
  have h := hent s
  rw [entryAt_of_mem hw' he hs] at h
  obtain ⟨e0, hk, rfl⟩ := Option.map_eq_some_iff.1 h.symm
  have h0 := hwfL_iff.1 hl e0 (entryAt_some hk).1
  split
  · rename_i hc
    rw [hc] at h0 ⊢
    exact hinner _ (by cases h2 : e0.2; rw [h2] at h0; exact h0)
  · exact h0

mutual
  theorem hwf_applyItems (env : Env) : ∀ (rules : PRules) (items : List (String × Option PTree × SortKey))
      (kids : List (String × Cfg)), HWF rules (.mk kids) → HWF rules (.mk (applyItems env rules items kids))
    | rules, [], kids, h => by rw [applyItems]; exact h
    | rules, (row, none, _) :: rest, kids, h => by
      rw [applyItems]
      exact hwf_applyItems env rules rest _ (hwf_execLeaf env row h)
    | rules, (row, some t, _) :: rest, kids, h => by
      rw [applyItems]
      cases hcl : classify rules row with
      | none => exact hwf_applyItems env rules rest kids h
      | some mc =>
        obtain ⟨m, cr⟩ := mc
        simp only
        apply hwf_applyItems env rules rest
        apply hwf_inBlock _ _ (hwf_putLine hcl h)
        intro ch hch
        rw [crOf_eq hcl] at hch ⊢
        exact hwf_applyTree env cr t ch hch
  theorem hwf_applyTree (env : Env) : ∀ (rules : PRules) (t : PTree) (kids : List (String × Cfg)),
      HWF rules (.mk kids) → HWF rules (.mk (applyTree env rules t kids))
    | rules, .mk items, kids, h => by
      rw [applyTree]
      exact hwf_applyItems env rules items kids h
end

end Annet.ConvergeNested.Lemmas
