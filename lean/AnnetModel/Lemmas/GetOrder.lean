/-
`Orderer.get_order` on any rulebook: what one step can do (`getOrderStep_inv`) and the invariant rule of the loop
(`getOrder_inv`).  A removal command is never made direct without `%order_reverse` or the exit word (`getOrder_removal`), so
the creation of a row does not sort before the removal of the same rule (`put_not_before_removal`).
-/
import AnnetModel.Lemmas.Sort

namespace Annet.Converge.Lemmas
open Annet Annet.Rules Annet.Patch

theorem ite_cases {α : Type} {c : Prop} [Decidable c] {a b x : α} (h : (if c then a else b) = x) :
    a = x ∨ b = x := by
  split at h
  · exact Or.inl h
  · exact Or.inr h

theorem setOrder_direct_fOrder (st1 : OState) (i w : Nat) (c : Prop) [Decidable c] :
    (if c then ({ st1 with fOrder := some (.fin i), fWeight := w } : OState) else st1).direct = st1.direct ∧
    ((if c then ({ st1 with fOrder := some (.fin i), fWeight := w } : OState) else st1).fOrder = st1.fOrder ∨
     (if c then ({ st1 with fOrder := some (.fin i), fWeight := w } : OState) else st1).fOrder = some (.fin i)) := by
  split <;> simp

/-- the state of `get_order` for a command that is not direct: no rule made it direct -/
def NotDirect (st : OState) : Prop := st.direct = false ∧ (st.fOrder = none ∨ ∃ n, st.fOrder = some (.fin n))

/-- what one step of `get_order` can do -/
theorem getOrderStep_inv {v : Vendor} {row : String} {sc : Option String} {st st' : OState} {i : Nat} {r : ORule}
    (h : getOrderStep v row sc st i r = some st') :
    (∀ x ∈ st'.children, x ∈ st.children ∨ x = r ∨ x ∈ r.children) ∧
    ((st'.direct = st.direct ∧ (st'.fOrder = st.fOrder ∨ st'.fOrder = some (.fin i))) ∨
      (r.orderReverse = true ∧ st.direct = false) ∨ (v.exit ≠ "" ∧ v.exit = row ∧ st'.direct = true)) := by
  unfold getOrderStep at h
  simp only [Option.bind_eq_bind, Option.pure_def] at h
  have key : ∀ st1 : OState, st1 = (if r.isGlobal = true then
      { fOrder := st.fOrder, fWeight := st.fWeight, direct := st.direct, children := st.children ++ [r] } else st) →
      st1.direct = st.direct ∧ st1.fOrder = st.fOrder ∧ ∀ x ∈ st1.children, x ∈ st.children ∨ x = r ∨ x ∈ r.children := by
    intro st1 h1; subst h1; split
    · exact ⟨rfl, rfl, fun x hx => (List.mem_append.1 hx).imp_right fun hx => Or.inl (List.mem_singleton.1 hx)⟩
    · exact ⟨rfl, rfl, fun x hx => Or.inl hx⟩
  generalize (if r.isGlobal = true then
      ({ fOrder := st.fOrder, fWeight := st.fWeight, direct := st.direct, children := st.children ++ [r] } : OState)
      else st) = st1 at h key
  obtain ⟨k1, k2, k3⟩ := key st1 rfl
  clear key
  rcases ite_cases h with h | h
  · cases h; exact ⟨fun x hx => Or.inl hx, Or.inl ⟨rfl, Or.inl rfl⟩⟩
  obtain ⟨dp, -, h⟩ := Option.bind_eq_some_iff.1 h
  obtain ⟨rp, -, h⟩ := Option.bind_eq_some_iff.1 h
  by_cases hc1 : (!r.orderReverse && ((dp.match? row.toList).isSome || (rp.match? row.toList).isSome)) = true
  · rw [if_pos hc1, Option.some.injEq] at h
    subst h
    have upd : ∀ (c : Prop) [Decidable c] (w : Nat),
        (if c then ({ st1 with fOrder := some (.fin i), fWeight := w } : OState) else st1).children = st1.children :=
      fun c _ w => by split <;> rfl
    refine ⟨fun x hx => ?_, Or.inl (k1 ▸ k2 ▸ setOrder_direct_fOrder _ _ _ _)⟩
    rcases List.mem_append.1 hx with hx | hx
    · rw [upd] at hx; exact k3 x hx
    · exact Or.inr (Or.inr hx)
  rw [if_neg hc1] at h
  by_cases hc2 : (r.orderReverse && !st1.direct && (dp.match? row.toList).isSome) = true
  · rw [if_pos hc2, Option.some.injEq] at h
    subst h
    simp only [Bool.and_eq_true, Bool.not_eq_true', k1] at hc2
    exact ⟨nofun, Or.inr (Or.inl ⟨hc2.1.1, hc2.1.2⟩)⟩
  rw [if_neg hc2] at h
  by_cases hc3 : (v.exit != "" && v.exit == row) = true
  · rw [if_pos hc3] at h
    cases h
    simp only [Bool.and_eq_true, bne_iff_ne, ne_eq, beq_iff_eq] at hc3
    exact ⟨nofun, Or.inr (Or.inr ⟨hc3.1, hc3.2, rfl⟩)⟩
  · rw [if_neg hc3] at h
    cases h
    exact ⟨k3, Or.inl ⟨k1, Or.inl k2⟩⟩

theorem getOrder_inv {v : Vendor} {row : String} {sc : Option String} (I : OState → Prop) {rb : List ORule}
    (hstep : ∀ r ∈ rb, ∀ i st st', getOrderStep v row sc st i r = some st' → I st → I st') {dir : Bool} {o : OrderRes}
    (h0 : I { direct := dir }) (h : getOrder v rb row dir sc = some o) :
    ∃ st, I st ∧ o = ⟨st.fOrder.getD (.fin 0), st.direct, dedupLast st.children⟩ := by
  have go : ∀ (l : List ORule) (i : Nat) (st st' : OState), (∀ r ∈ l, r ∈ rb) →
      getOrder.go v row sc l i st = some st' → I st → I st' := by
    intro l
    induction l with
    | nil => intro i st st' _ h hi; cases h; exact hi
    | cons r rs ih =>
      intro i st st' hl h hi
      simp only [getOrder.go] at h
      split at h
      · cases h
      · rename_i st1 hst1
        exact ih _ _ _ (fun x hx => hl x (List.mem_cons_of_mem _ hx)) h
          (hstep r (hl r List.mem_cons_self) i st st1 hst1 hi)
  unfold getOrder at h
  split at h
  · cases h
  · rename_i st hst
    cases h
    exact ⟨st, go rb 0 _ st (fun _ hr => hr) hst h0, rfl⟩

theorem getOrder_direct (v : Vendor) (rb : List ORule) (row : String) (sc : Option String) (o : OrderRes)
    (h : getOrder v rb row true sc = some o) : o.direct = true := by
  obtain ⟨st, hst, rfl⟩ := getOrder_inv (·.direct = true) (fun r _ i st st' hs hd => by
    rcases (getOrderStep_inv hs).2 with ⟨h1, -⟩ | ⟨-, h2⟩ | ⟨-, -, h3⟩
    · rw [h1]; exact hd
    · rw [hd] at h2; cases h2
    · exact h3) rfl h
  exact hst

theorem getOrder_removal (v : Vendor) (rb : List ORule) (row : String) (sc : Option String) (o : OrderRes)
    (hrb : ∀ r ∈ rb, r.orderReverse = false) (hex : v.exit = "" ∨ v.exit ≠ row)
    (h : getOrder v rb row false sc = some o) : o.direct = false ∧ ∃ n, o.order = .fin n := by
  obtain ⟨st, ⟨h1, h2⟩, rfl⟩ := getOrder_inv NotDirect (fun r hr i st st' hs hd => by
    rcases (getOrderStep_inv hs).2 with ⟨h1, h2⟩ | ⟨h2, -⟩ | ⟨h2, h3, -⟩
    · refine ⟨by rw [h1]; exact hd.1, ?_⟩
      rcases h2 with h2 | h2
      · rw [h2]; exact hd.2
      · exact Or.inr ⟨i, h2⟩
    · rw [hrb r hr] at h2; cases h2
    · exact (hex.elim h2 fun hne => hne h3).elim) ⟨rfl, Or.inl rfl⟩ h
  refine ⟨h1, ?_⟩
  rcases h2 with h2 | ⟨n, h2⟩
  · exact ⟨0, by simp [h2]⟩
  · exact ⟨n, by simp [h2]⟩

theorem put_not_before_removal (raw : String) (o1 o2 : OrderRes) (h1 : o1.direct = false ∧ ∃ n, o1.order = .fin n)
    (h2 : o2.direct = true) :
    SortKey.lt ⟨signed o2.order o2.direct, raw, o2.direct⟩ ⟨signed o1.order o1.direct, raw, o1.direct⟩ = false := by
  obtain ⟨h1, n1, h1'⟩ := h1
  rw [h1, h1', h2]
  cases o2.order with
  | fin n2 => exact Patch.Lemmas.removal_key_not_after_creation n1 n2 raw
  | inf => simp [SortKey.lt, signed, SOrd.lt]

end Annet.Converge.Lemmas
