/-
Rulebooks of word and word-star rules, for any vendor.  A level whose rules are literal words `w` or one-star rules `w *`
with pairwise distinct first characters, none of them the negation word (`Simple`, decidable): the removal command of a
rule and key (`reverseCmd_eq`, any grammar rule) and what the device makes of it (`removal_simple`: the removal clause of
`CmdsOK`, by `Pattern.Lemmas.match_roundtrip`).  The closed instances of the convergence and outside theorems (C01,
C02) get their rulebook hypotheses here; the names are in the namespace of the first of them,
`Annet.ConvergeNested.Example`.
-/
import AnnetModel.Lemmas.Basic
import AnnetModel.Lemmas.Pattern
import AnnetModel.Lemmas.Rules

namespace Annet.ConvergeNested.Example
open Annet Annet.Rules Annet.Device Annet.Device.Abs Annet.Pattern
open Annet.Offside (pyIsSpace)
open Annet.Pattern.Lemmas (lit_head key_length format_makeReverse joinWords_cons_ne match_roundtrip)
open Annet.Device.Lemmas (classify_match)
open Annet.ConvergeNested.Lemmas (ruleMatches)

theorem reverseCmd_eq {v : Vendor} {attrs : PAttrs} {toks : List Tok} {ic : Bool} {key : List (List Char)}
    (hp : parseRow true attrs.row.toList = some ⟨toks, ic, false⟩)
    (hs : startsWithPrefixTok v.reverse.toList toks = false) (hk : holes toks ≤ key.length) :
    Patch.reverseCmd v attrs (key.map String.ofList) =
      some (String.ofList (joinWords (v.reverse.toList :: subst toks key))) := by
  have hkey : (key.map String.ofList).map String.toList = key := by simp
  simp [Patch.reverseCmd, hp, hkey, format_makeReverse _ _ _ hk, hs]

theorem stripReverse_ofList {env : Env} (hne : (env.reverse != "") = true) (x : List Char) :
    stripReverse env (String.ofList (env.reverse.toList ++ ' ' :: x)) = some (String.ofList x) := by
  unfold stripReverse
  simp only [String.toList_ofList]
  have e : env.reverse.toList ++ ' ' :: x = (env.reverse.toList ++ [' ']) ++ x := by simp
  have hpre : (env.reverse.toList ++ [' ']).isPrefixOf (env.reverse.toList ++ ' ' :: x) = true := by
    rw [e, List.isPrefixOf_iff_prefix]; exact List.prefix_append _ _
  rw [hne, hpre]
  simp only [Bool.and_self, if_true]
  rw [e, List.drop_left]

theorem removal_of_match {v : Vendor} {env : Env} {rules : PRules} {f : PRule} {pat : Pat} {l : List Char}
    {k : List (List Char)} (hrev : env.reverse = v.reverse) (hne : (env.reverse != "") = true)
    (hg : rules.glob = [])
    (hall : ∀ r ∈ rules.loc, (parseRow false r.attrs.row.toList).isSome ∧ r.ignore = false)
    (hf : f ∈ rules.loc) (hp : parseRow false f.attrs.row.toList = some pat) (hself : pat.match? l = some k)
    (hexcl : ∀ f' ∈ rules.loc, ∀ pat' k', parseRow false f'.attrs.row.toList = some pat' →
      pat'.match? l = some k' → f' = f) :
    stripReverse env (String.ofList (v.reverse.toList ++ ' ' :: l)) = some (String.ofList l) ∧
    slotOf rules (String.ofList l) = some (f.rawRule, k.map String.ofList) := by
  refine ⟨by rw [← hrev]; exact stripReverse_ofList hne _, ?_⟩
  have hm : ruleMatches (String.ofList l) f = true := by
    simp [ruleMatches, hp, String.toList_ofList, hself]
  have hsome := classify_isSome_of_match hg hall hf hm
  cases hcl : classify rules (String.ofList l) with
  | none => rw [hcl] at hsome; cases hsome
  | some mc =>
    obtain ⟨m', cr'⟩ := mc
    obtain ⟨f', hf', h1, -, pat', k', h3, h4, h5⟩ := classify_match hcl
    rw [hg] at hf'
    rcases hf' with hf' | hf'
    · rw [String.toList_ofList] at h4
      have := hexcl f' hf' pat' k' h3 h4
      subst this
      rw [hp] at h3
      cases h3
      rw [hself] at h4
      cases h4
      rw [Device.Lemmas.slotOf_of_classify hcl, h1, h5]
    · cases hf'

/-- the pattern of the rule `c w` (`star = false`) or `c w *` -/
def litPat (c : Char) (w : List Char) (star : Bool) : Pat :=
  ⟨.lit (c :: w) :: (if star then [.star] else []), false, false⟩

/-- a level without `%global` rules, given as the list of its rules, each with the first character and the rest of its
word and whether a `*` follows -/
def Simple (v : Vendor) (spec : List (PRule × Char × List Char × Bool)) : Prop :=
  (∀ x ∈ spec, x.1.ignore = false ∧ ((x.2.1 :: x.2.2.1) == v.reverse.toList) = false ∧
    (∀ b, parseRow b x.1.attrs.row.toList = some (litPat x.2.1 x.2.2.1 x.2.2.2)) ∧
    ∀ c ∈ x.2.1 :: x.2.2.1, pyIsSpace c = false) ∧
  (spec.map (·.2.1)).Nodup

instance (v : Vendor) (spec : List (PRule × Char × List Char × Bool)) : Decidable (Simple v spec) := by
  unfold Simple; infer_instance

def levelOf (spec : List (PRule × Char × List Char × Bool)) : PRules := ⟨spec.map (·.1), []⟩

variable {pv : Vendor} {spec : List (PRule × Char × List Char × Bool)}

theorem simple_classify (hs : Simple pv spec) {row : String}
    {m : PMatch} {cr : PRules} (h : classify (levelOf spec) row = some (m, cr)) :
    ∃ x ∈ spec, m.rawRule = x.1.rawRule ∧ m.attrs = x.1.attrs ∧
      ∃ k, (litPat x.2.1 x.2.2.1 x.2.2.2).match? row.toList = some k ∧ m.key = k.map String.ofList := by
  obtain ⟨f, hf, h1, h2, pat, k, h3, h4, h5⟩ := classify_match h
  rcases hf with hf | hf
  · obtain ⟨x, hx, rfl⟩ := List.mem_map.1 hf
    rw [(hs.1 x hx).2.2.1 false] at h3
    cases h3
    exact ⟨x, hx, h1, h2, k, h4, h5⟩
  · cases hf

/-- two rules of the level matching the same row are the same rule: the row starts with the first character of both -/
theorem simple_excl (hs : Simple pv spec)
    {x x' : PRule × Char × List Char × Bool} (hx : x ∈ spec) (hx' : x' ∈ spec) {l : List Char}
    {k k' : List (List Char)} (h : (litPat x.2.1 x.2.2.1 x.2.2.2).match? l = some k)
    (h' : (litPat x'.2.1 x'.2.2.1 x'.2.2.2).match? l = some k') : x' = x := by
  obtain ⟨rest, hr⟩ := lit_head h
  obtain ⟨rest', hr'⟩ := lit_head h'
  rw [hr] at hr'
  exact List.inj_of_nodup_map (·.2.1) spec hs.2 x' hx' x hx (List.cons.inj hr').1.symm

theorem removal_simple {env : Env} (hrev : env.reverse = pv.reverse) (hne : (env.reverse != "") = true)
    (hs : Simple pv spec) {row : String} {m : PMatch} {cr : PRules}
    (hcl : classify (levelOf spec) row = some (m, cr)) {cmd : String}
    (hcmd : Patch.reverseCmd pv m.attrs m.key = some cmd) :
    (∃ x, cmd = String.ofList (pv.reverse.toList ++ x)) ∧
    ∃ r', stripReverse env cmd = some r' ∧ slotOf (levelOf spec) r' = some (m.rawRule, m.key) := by
  have hall : ∀ r ∈ (levelOf spec).loc, (parseRow false r.attrs.row.toList).isSome ∧ r.ignore = false := by
    intro r hr
    obtain ⟨x, hx, rfl⟩ := List.mem_map.1 hr
    exact ⟨by rw [(hs.1 x hx).2.2.1 false]; rfl, (hs.1 x hx).1⟩
  obtain ⟨x, hx, h1, h2, k, hk, h5⟩ := simple_classify hs hcl
  obtain ⟨hig, hw, hparse, hsp⟩ := hs.1 x hx
  have hf : x.1 ∈ (levelOf spec).loc := List.mem_map.2 ⟨_, hx, rfl⟩
  have hwf : WFToks (litPat x.2.1 x.2.2.1 x.2.2.2).toks := by
    cases x.2.2.2 <;> exact ⟨⟨by simp, hsp⟩, trivial⟩
  have hself := (match_roundtrip false _ _ k hwf (by simp [litPat]) hk).1
  obtain ⟨e2, e3⟩ := removal_of_match (v := pv) (env := env) hrev hne rfl hall hf (hparse false) hself
    fun f' hf' pat' k' hp' hm' => by
      obtain ⟨x', hx', rfl⟩ := List.mem_map.1 hf'
      rw [(hs.1 x' hx').2.2.1 false] at hp'
      cases hp'
      rw [simple_excl hs hx hx' hself hm']
  rw [h2, h5, reverseCmd_eq (hparse true) (by cases x.2.2.2 <;> simp [startsWithPrefixTok, hw])
    (Nat.le_of_eq (key_length _ _ _ _ _ hk).symm), joinWords_cons_ne _ (by simp [subst])] at hcmd
  cases hcmd
  exact ⟨⟨_, rfl⟩, _, e2, by rw [e3, h1, h5]⟩
end Annet.ConvergeNested.Example
