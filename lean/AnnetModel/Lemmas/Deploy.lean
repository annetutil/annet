/-
Deploy side of C09: every run of `groupby` (`GroupRuns`) is
wrapped by the session commands of its first element, `match_deploy_rule` follows the unique rule
chain when sibling rules are disjoint, and the apply-logic table has no commit command when
committing is disabled.  `Annet.Deploy.Spec` (`specChain`, `Disjoint`) is the second namespace of `Spec/Format.lean`.
-/
import AnnetModel.Spec.Format
import AnnetModel.Spec.DeployWords
import AnnetModel.Lemmas.GroupRuns
import AnnetModel.Lemmas.Basic

namespace Annet.Deploy.Lemmas
open Annet.Deploy Annet.Deploy.Spec
open Annet.Format (Ctx)

theorem cmdOf_ok {rx : Rx} {tab : ApplyTab} {hw : String} {rules : List DRule} {df dc : Bool}
    {p : List String × Ctx} {w : WithApply} (h : cmdOf rx tab hw rules df dc p = .ok w) :
    (w.cmd.cmd, w.cmd.level) = pathCmd p ∧
    ∃ r, matchDeployRule rx rules p.1 p.2 = .ok r ∧ applyLogic tab r.applyLogic hw dc df = .ok (w.before, w.after) ∧
      makeCmdParams r = .ok (w.cmd.questions, w.cmd.timeout) := by
  revert h
  fun_cases cmdOf rx tab hw rules df dc p <;> intro h
  case case5 rule hr qs t hq b a ha last hl => cases h; exact ⟨by simp [pathCmd, hl], rule, hr, ha, hq⟩
  all_goals cases h

theorem cmdsWithApply_forall {rx : Rx} {tab : ApplyTab} {hw : String} {rules : List DRule} {df dc : Bool}
    {paths : List (List String × Ctx)} {cwa : List WithApply}
    (h : cmdsWithApply rx tab hw rules df dc paths = .ok cwa) :
    Forall2 (fun p w => cmdOf rx tab hw rules df dc p = .ok w) paths cwa := by
  fun_induction cmdsWithApply rx tab hw rules df dc paths generalizing cwa
  case case4 hc _ hcs ih => cases h; exact Forall2.cons hc (ih hcs)
  all_goals cases h
  exact Forall2.nil

theorem forall2_map_cmd {rx : Rx} {tab : ApplyTab} {hw : String} {rules : List DRule} {df dc : Bool}
    {paths : List (List String × Ctx)} {cwa : List WithApply}
    (h : Forall2 (fun p w => cmdOf rx tab hw rules df dc p = .ok w) paths cwa) :
    cwa.map (fun w => (w.cmd.cmd, w.cmd.level)) = paths.map pathCmd :=
  (h.map_eq fun _ _ hpw => (cmdOf_ok hpw).1.symm).symm

theorem fillCmd_ok {rx : Rx} {rules : List DRule} {c : TabCmd} {x : Cmd} (h : fillCmd rx rules c = .ok x) :
    x.cmd = c.cmd ∧ x.level = 0 := by
  revert h
  fun_cases fillCmd rx rules c <;> intro h
  case case3 => cases h; exact ⟨rfl, rfl⟩
  all_goals cases h

theorem fillCmds_spec {rx : Rx} {rules : List DRule} {cs : List TabCmd} {xs : List Cmd}
    (h : fillCmds rx rules cs = .ok xs) : xs.map (·.cmd) = cs.map (·.cmd) ∧ ∀ x ∈ xs, x.level = 0 := by
  fun_induction fillCmds rx rules cs generalizing xs
  case case4 hx _ hxs ih =>
    cases h
    simpa [fillCmd_ok hx] using ih hxs
  all_goals cases h
  simp

/-- the shape of the command list: every run between the filled `before`/`after` of its first element -/
inductive Wrapped (rx : Rx) (rules : List DRule) : List (List WithApply) → List Cmd → Prop
  | nil : Wrapped rx rules [] []
  | cons {w : WithApply} {ws : List WithApply} {gs : List (List WithApply)} {b a out : List Cmd} :
      fillCmds rx rules w.before = .ok b → fillCmds rx rules w.after = .ok a → Wrapped rx rules gs out →
      Wrapped rx rules ((w :: ws) :: gs) (b ++ (w :: ws).map (·.cmd) ++ a ++ out)

theorem wrapGroups_wrapped {rx : Rx} {rules : List DRule} {gs : List (List WithApply)} {out : List Cmd}
    (hne : ∀ g ∈ gs, g ≠ []) (h : wrapGroups rx rules gs = .ok out) : Wrapped rx rules gs out := by
  fun_induction wrapGroups rx rules gs generalizing out
  case case4 g gs x hx xs hxs ih =>
    cases h
    revert hx
    fun_cases wrapGroup rx rules g <;> intro hx
    case case1 => exact absurd rfl (hne [] List.mem_cons_self)
    case case4 hb _ ha => cases hx; exact Wrapped.cons hb ha (ih (fun g hg => hne g (List.mem_cons_of_mem _ hg)) hxs)
    all_goals cases hx
  all_goals cases h
  exact Wrapped.nil

theorem wrapped_sublist {rx : Rx} {rules : List DRule} {gs : List (List WithApply)} {out : List Cmd}
    (h : Wrapped rx rules gs out) : (gs.flatten.map (·.cmd)).Sublist out := by
  induction h with
  | nil => simp
  | @cons w ws gs b a out _ _ _ ih =>
    simp only [List.flatten_cons, List.map_append]
    have h1 : ((w :: ws).map (·.cmd)).Sublist (b ++ (w :: ws).map (·.cmd) ++ a) :=
      (List.sublist_append_right _ _).trans (List.sublist_append_left _ _)
    exact List.Sublist.append h1 ih

theorem wrapped_mem {rx : Rx} {rules : List DRule} {gs : List (List WithApply)} {out : List Cmd}
    (h : Wrapped rx rules gs out) :
    ∀ c ∈ out, c ∈ gs.flatten.map (·.cmd) ∨
      ∃ w ∈ gs.flatten, c.level = 0 ∧ (c.cmd ∈ w.before.map (·.cmd) ∨ c.cmd ∈ w.after.map (·.cmd)) := by
  induction h with
  | nil => simp
  | @cons w ws gs b a out hb ha _ ih =>
    intro c hc
    simp only [List.flatten_cons, List.map_append, List.mem_append] at hc ⊢
    have hw : w ∈ (w :: ws) ∨ w ∈ gs.flatten := Or.inl List.mem_cons_self
    rcases hc with ((hc | hc) | hc) | hc
    · obtain ⟨h1, h2⟩ := fillCmds_spec hb
      right
      refine ⟨w, hw, h2 c hc, Or.inl ?_⟩
      rw [← h1]; exact List.mem_map.mpr ⟨c, hc, rfl⟩
    · left; left; exact hc
    · obtain ⟨h1, h2⟩ := fillCmds_spec ha
      right
      refine ⟨w, hw, h2 c hc, Or.inr ?_⟩
      rw [← h1]; exact List.mem_map.mpr ⟨c, hc, rfl⟩
    · rcases ih c hc with h | ⟨w', hw', h⟩
      · left; right; exact h
      · right; exact ⟨w', Or.inr hw', h⟩

theorem apply_decompose {rx : Rx} {tab : ApplyTab} {hw : String} {rules : List DRule}
    {paths : List (List String × Ctx)} {df dc : Bool} {out : List Cmd}
    (h : applyDeployRulebook rx tab hw rules paths df dc = .ok out) :
    ∃ cwa gs, Forall2 (fun p w => cmdOf rx tab hw rules df dc p = .ok w) paths cwa ∧
      gs.flatten = cwa ∧ gs = groupRuns groupKey cwa ∧ Wrapped rx rules gs out := by
  unfold applyDeployRulebook at h
  split at h
  · cases h
  · rename_i cwa hcwa
    exact ⟨cwa, groupRuns groupKey cwa, cmdsWithApply_forall hcwa, groupRuns_flatten _ _, rfl,
      wrapGroups_wrapped (groupRuns_nonempty _ _) h⟩

theorem applyLogic_noCommit {tab : ApplyTab} (ht : tabNoCommit tab = true) {logic hw : String} {df : Bool}
    {b a : List TabCmd} (h : applyLogic tab logic hw false df = .ok (b, a)) :
    ∀ c ∈ b ++ a, isCommitCmd c.cmd = false := by
  revert h
  fun_cases applyLogic tab logic hw false df <;> intro h
  case case1 e he r hr =>
    cases h
    have hall := List.all_eq_true.1 ht e (List.mem_of_find?_eq_some he)
    have hp := List.find?_some he
    simp only [Bool.and_eq_true, beq_iff_eq] at hp
    simpa [hp.1.2, hr, or_imp, forall_and] using hall
  all_goals cases h

theorem scanLevel_nomatch (rx : Rx) (ctx : Ctx) (isLast : Bool) (row : String) :
    ∀ (rules cur : List DRule), (∀ r ∈ rules, rx r.row row = false) →
      scanLevel rx ctx isLast row rules cur = .ok (.cont cur) := by
  intro rules
  induction rules with
  | nil => intro cur _; rfl
  | cons r rest ih =>
    intro cur h
    rw [scanLevel, if_neg (by simp [h r List.mem_cons_self])]
    exact ih cur (fun r' hr' => h r' (List.mem_cons_of_mem _ hr'))

theorem scanLevel_disjoint (rx : Rx) (ctx : Ctx) (isLast : Bool) (row : String) :
    ∀ (rules cur : List DRule) (st : Step),
      rules.Pairwise (fun a b => ¬ (rx a.row row = true ∧ rx b.row row = true)) →
      scanLevel rx ctx isLast row rules cur = .ok st →
      st = match rules.find? (fun r => rx r.row row && ctxHolds ctx r) with
        | none => .cont cur
        | some r => if isLast then .ret r else .cont r.children := by
  intro rules
  induction rules with
  | nil => intro cur st _ h; cases h; rfl
  | cons r rest ih =>
    intro cur st hp h
    rw [List.pairwise_cons] at hp
    rw [scanLevel] at h
    rw [List.find?_cons]
    cases hrx : rx r.row row
    · simp only [hrx, Bool.false_eq_true, if_false] at h
      exact ih cur st hp.2 h
    · -- `r` matches the row, so no later rule does: the rest of the loop changes nothing
      have hrest : ∀ r' ∈ rest, rx r'.row row = false := fun r' hr' => by simpa [hrx] using hp.1 r' hr'
      have hnone : rest.find? (fun r => rx r.row row && ctxHolds ctx r) = none :=
        List.find?_eq_none.2 fun r' hr' => by simp [hrest r' hr']
      simp only [hrx, if_true, scanLevel_nomatch rx ctx isLast row rest _ hrest] at h
      cases hm : matchContext r.ifcontext ctx with
      | error e => rw [hm] at h; cases h
      | ok bmatch =>
        have hh : ctxHolds ctx r = bmatch := by cases bmatch <;> simp [ctxHolds, hm]
        rw [hm] at h
        rw [hh, Bool.true_and]
        cases bmatch
        · cases h; simp only [hnone]
        · cases isLast
          · by_cases hch : r.children.isEmpty = true
            · simp only [hch, Bool.false_eq_true, if_false, if_true] at h
              cases h; exact congrArg Step.cont (List.isEmpty_iff.1 hch).symm
            · simp only [hch, Bool.false_eq_true, if_false] at h
              cases h; rfl
          · cases h; rfl

theorem disjointL_mem {rx : Rx} : ∀ {rules : List DRule}, DisjointL rx rules → ∀ r ∈ rules, DisjointR rx r
  | [], _ => fun _ hr => nomatch hr
  | _ :: _, h => by
    rw [DisjointL] at h
    exact List.forall_mem_cons.2 ⟨h.1, disjointL_mem h.2⟩

theorem disjointR_children {rx : Rx} {r : DRule} (h : DisjointR rx r) : Disjoint rx r.children := by
  cases r
  exact h

theorem matchDeployRule_spec (rx : Rx) (ctx : Ctx) :
    ∀ (path : List String) (rules : List DRule) (r : DRule), Disjoint rx rules →
      matchDeployRule rx rules path ctx = .ok r → r = specChain rx ctx rules path := by
  intro path
  induction path with
  | nil => intro rules r _ h; simp [matchDeployRule] at h; simp [specChain, h]
  | cons row more ih =>
    intro rules r hd h
    rw [matchDeployRule] at h
    rw [specChain]
    cases hs : scanLevel rx ctx more.isEmpty row rules rules with
    | error e => rw [hs] at h; cases h
    | ok st =>
      rw [hs] at h
      have hst := scanLevel_disjoint rx ctx more.isEmpty row rules rules st (hd.1 row) hs
      cases hf : rules.find? (fun r => rx r.row row && ctxHolds ctx r) with
      | none =>
        rw [hf] at hst
        subst hst
        simp only at h ⊢
        exact ih rules r hd h
      | some r0 =>
        rw [hf] at hst
        simp only at hst ⊢
        by_cases hl : more.isEmpty = true
        · rw [if_pos hl] at hst ⊢
          subst hst
          simp only at h
          cases h; rfl
        · rw [if_neg hl] at hst ⊢
          subst hst
          simp only at h
          have hmem := List.mem_of_find?_eq_some hf
          exact ih r0.children r (disjointR_children (disjointL_mem hd.2 r0 hmem)) h

end Annet.Deploy.Lemmas
