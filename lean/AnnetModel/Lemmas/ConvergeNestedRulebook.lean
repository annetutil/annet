/-
The rulebook of the closed instance of `nested_converges`: three levels (`interface *` with children `sub *` (undo_redo;
child `ip`), `mtu` (undo_redo), `description`; and `sysname`) over the vendor `undo` / `quit`.  It is a nested rulebook
(`nestedRules`) whose levels are `Simple`, so the device understands its commands at every level (`cmdsOKAll`).
-/
import AnnetModel.Lemmas.ExampleVendor

namespace Annet.ConvergeNested.Example
open Annet Annet.Rules Annet.Device Annet.Converge Annet.ConvergeNested

def mkAttrs (row logic : String) (parent : Bool) : PAttrs :=
  { row := row, logic := logic, diffLogic := "common.default_diff", parent := parent, forceCommit := false }

def ipAttrs : PAttrs := mkAttrs "ip" "common.default" false
def subAttrs : PAttrs := mkAttrs "sub *" "common.undo_redo" true
def mtuAttrs : PAttrs := mkAttrs "mtu" "common.undo_redo" false
def descAttrs : PAttrs := mkAttrs "description" "common.default" false
def ifAttrs : PAttrs := mkAttrs "interface *" "common.default" true
def sysAttrs : PAttrs := mkAttrs "sysname" "common.default" false

def ipRule : PRule := .mk "ip" false ipAttrs (some ([], []))
def subRule : PRule := .mk "sub *" false subAttrs (some ([ipRule], []))
def mtuRule : PRule := .mk "mtu" false mtuAttrs (some ([], []))
def descRule : PRule := .mk "description" false descAttrs (some ([], []))
def ifRule : PRule := .mk "interface *" false ifAttrs (some ([subRule, mtuRule, descRule], []))
def sysRule : PRule := .mk "sysname" false sysAttrs (some ([], []))

-- the rulebook, and the rules of the blocks `interface *`, `sub *` and of the leaves
def rules : PRules := ⟨[ifRule, sysRule], []⟩
def rules1 : PRules := ⟨[subRule, mtuRule, descRule], []⟩
def rules2 : PRules := ⟨[ipRule], []⟩
def rules3 : PRules := ⟨[], []⟩

theorem nestedRules : NestedRules rules := by
  refine ⟨rfl, ?_, ?_⟩
  · simp [rules, ifRule, sysRule, subRule, mtuRule, descRule, ipRule, NestedRulesL, NestedRule, ifAttrs, sysAttrs,
      subAttrs, mtuAttrs, descAttrs, ipAttrs, mkAttrs]
  · simp only [rules, ifRule, sysRule, subRule, mtuRule, descRule, ipRule, DistinctRawL, DistinctRawR,
      List.mem_cons, List.not_mem_nil, or_false, forall_eq_or_imp, forall_eq, PRule.rawRule, and_true, true_and,
      false_implies, implies_true]
    decide +kernel

theorem cmdsOK3 : CmdsOK v env rules3 := cmdsOK_simple (spec := []) (by decide +kernel) (by decide +kernel)

theorem cmdsOK2 : CmdsOK v env rules2 :=
  cmdsOK_simple (spec := [(ipRule, 'i', "p".toList, false)]) (by decide +kernel) (by decide +kernel)

theorem cmdsOK1 : CmdsOK v env rules1 :=
  cmdsOK_simple (spec := [(subRule, 's', "ub".toList, true), (mtuRule, 'm', "tu".toList, false),
    (descRule, 'd', "escription".toList, false)]) (by decide +kernel) (by decide +kernel)

theorem cmdsOK0 : CmdsOK v env rules :=
  cmdsOK_simple (spec := [(ifRule, 'i', "nterface".toList, true), (sysRule, 's', "ysname".toList, false)])
    (by decide +kernel) (by decide +kernel)

theorem cmdsOKAll3 : CmdsOKAll v env rules3 := ⟨cmdsOK3, okL_nil⟩

theorem cmdsOKAll2 : CmdsOKAll v env rules2 := ⟨cmdsOK2, okL_cons (okR_mk cmdsOK3 okL_nil) okL_nil⟩

theorem cmdsOKAll1 : CmdsOKAll v env rules1 :=
  ⟨cmdsOK1, okL_cons (okR_mk cmdsOK2 cmdsOKAll2.2)
    (okL_cons (okR_mk cmdsOK3 okL_nil) (okL_cons (okR_mk cmdsOK3 okL_nil) okL_nil))⟩

theorem cmdsOKAll : CmdsOKAll v env rules :=
  ⟨cmdsOK0, okL_cons (okR_mk cmdsOK1 cmdsOKAll1.2) (okL_cons (okR_mk cmdsOK3 okL_nil) okL_nil)⟩

end Annet.ConvergeNested.Example
