/-
Over `JsonFragment`: `J.beq` decides equality; `apply_acl_filters` keeps a sub-document
(`filters_sub`).
-/
import AnnetModel.Lemmas.JsonFragment

namespace Annet.Json.Lemmas
open Annet.Json

mutual
  theorem beq_refl : ∀ d : J, J.beq d d = true
    | .null => rfl
    | .bool b => by simp [J.beq]
    | .num n => by simp [J.beq]
    | .str s => by simp [J.beq]
    | .arr xs => by simp [J.beq, beqList_refl xs]
    | .obj kvs => by simp [J.beq, beqKvs_refl kvs]
  theorem beqList_refl : ∀ xs : List J, J.beqList xs xs = true
    | [] => rfl
    | x :: xs => by simp [J.beqList, beq_refl x, beqList_refl xs]
  theorem beqKvs_refl : ∀ kvs : List (String × J), J.beqKvs kvs kvs = true
    | [] => rfl
    | (k, x) :: rest => by simp [J.beqKvs, beq_refl x, beqKvs_refl rest]
end

mutual
  theorem eq_of_beq : ∀ a b : J, J.beq a b = true → a = b
    | .arr a, b, h => by
      cases b with
      | arr b => exact congrArg J.arr (eq_of_beqList a b (by simpa only [J.beq] using h))
      | _ => simp [J.beq] at h
    | .obj a, b, h => by
      cases b with
      | obj b => exact congrArg J.obj (eq_of_beqKvs a b (by simpa only [J.beq] using h))
      | _ => simp [J.beq] at h
    | .null, b, h | .bool _, b, h | .num _, b, h | .str _, b, h => by cases b <;> simp_all [J.beq]
  theorem eq_of_beqList : ∀ a b : List J, J.beqList a b = true → a = b
    | [], [], _ => rfl
    | x :: xs, y :: ys, h => by
      simp only [J.beqList, Bool.and_eq_true] at h
      rw [eq_of_beq x y h.1, eq_of_beqList xs ys h.2]
    | [], _ :: _, h | _ :: _, [], h => by simp [J.beqList] at h
  theorem eq_of_beqKvs : ∀ a b : List (String × J), J.beqKvs a b = true → a = b
    | [], [], _ => rfl
    | (k, x) :: xs, (k', y) :: ys, h => by
      simp only [J.beqKvs, Bool.and_eq_true, beq_iff_eq] at h
      rw [h.1.1, eq_of_beq x y h.1.2, eq_of_beqKvs xs ys h.2]
    | [], _ :: _, h | _ :: _, [], h => by simp [J.beqKvs] at h
end

/-- `J.beq` decides equality, so closed instances of the model compute by `decide`. -/
instance : DecidableEq J := fun a b =>
  decidable_of_iff (J.beq a b = true) ⟨eq_of_beq a b, fun h => h ▸ beq_refl a⟩

instance {ε α : Type} [DecidableEq ε] [DecidableEq α] : DecidableEq (Except ε α)
  | .ok a, .ok b => decidable_of_iff (a = b) ⟨congrArg _, Except.ok.inj⟩
  | .error a, .error b => decidable_of_iff (a = b) ⟨congrArg _, Except.error.inj⟩
  | .ok _, .error _ => isFalse nofun
  | .error _, .ok _ => isFalse nofun

mutual
  theorem isSub_refl : ∀ d : J, d.wf = true → isSub d d = true
    | .null, _ => rfl
    | .bool b, _ => by simp [isSub, J.beq]
    | .num n, _ => by simp [isSub, J.beq]
    | .str s, _ => by simp [isSub, J.beq]
    | .arr xs, _ => by simp [isSub, beq_refl]
    | .obj kvs, h => by
      simp only [isSub]
      exact isSubKvs_refl kvs kvs (by simpa [J.wf] using h) (fun k v hm => lookup_of_mem k v kvs (by simpa [J.wf] using h) hm)
  theorem isSubKvs_refl : ∀ (l kvs : List (String × J)), J.wfKvs l = true →
      (∀ k v, (k, v) ∈ l → lookup k kvs = some v) → isSubKvs l kvs = true
    | [], _, _, _ => rfl
    | (k, v) :: rest, kvs, hw, hl => by
      simp only [J.wfKvs, Bool.and_eq_true] at hw
      simp only [isSubKvs, hl k v (by simp), Bool.and_eq_true]
      exact ⟨isSub_refl v hw.1.2, isSubKvs_refl rest kvs hw.2 (fun k' v' hm => hl k' v' (by simp [hm]))⟩
end

theorem isSub_obj_right (r : J) (kvs : List (String × J)) (h : isSub r (.obj kvs) = true) : ∃ rk, r = .obj rk := by
  cases r with
  | obj rk => exact ⟨rk, rfl⟩
  | _ => simp [isSub, J.beq] at h

theorem isSubKvs_iff (rk dk : List (String × J)) :
    isSubKvs rk dk = true ↔ ∀ kv ∈ rk, ∃ v', lookup kv.1 dk = some v' ∧ isSub kv.2 v' = true := by
  induction rk with
  | nil => simp [isSubKvs]
  | cons a rest ih =>
    simp only [isSubKvs, Bool.and_eq_true, ih, List.forall_mem_cons]
    refine and_congr_left fun _ => ?_
    cases lookup a.1 dk <;> simp

theorem isSubKvs_lookup (rk dk : List (String × J)) (k : String) (c : J) (h : isSubKvs rk dk = true)
    (hl : lookup k rk = some c) : ∃ dc, lookup k dk = some dc ∧ isSub c dc = true :=
  (isSubKvs_iff rk dk).1 h (k, c) (mem_of_lookup k c rk hl)

theorem isSubKvs_upsert (rk dk : List (String × J)) (k : String) (v dc : J) (h : isSubKvs rk dk = true)
    (hd : lookup k dk = some dc) (hv : isSub v dc = true) : isSubKvs (upsert k v rk) dk = true := by
  rw [isSubKvs_iff] at h ⊢
  intro kv hkv
  rcases Assoc.mem_upsert (upsert_eq k v rk ▸ hkv) with hkv | rfl
  · exact h kv hkv
  · exact ⟨dc, hd, hv⟩

/-- a sub-document of `d` admits every object path `q` of `d`, and stays a sub-document when it takes
`d`'s value at `q` -/
theorem sub_setO (q : Ptr) (r d part : J) (hq : q ≠ []) (hs : isSub r d = true) (hp : ObjPath q d)
    (hg : getP q d = some part) (hw : d.wf = true) : Admits q r ∧ isSub (setO q part r) d = true := by
  induction q generalizing r d with
  | nil => exact absurd rfl hq
  | cons k rest ih =>
    obtain ⟨dk, rfl⟩ := objPath_root k rest d hp
    obtain ⟨rk, rfl⟩ := isSub_obj_right r dk hs
    have hk : J.wfKvs dk = true := by simpa [J.wf] using hw
    rw [getP_cons] at hg
    obtain ⟨dc, hd, hg⟩ := Option.bind_eq_some_iff.mp hg
    have hsk : isSubKvs rk dk = true := by simpa [isSub] using hs
    simp only [setO, isSub]
    cases rest with
    | nil =>
      cases hg
      exact ⟨rfl, isSubKvs_upsert rk dk k _ _ hsk hd (isSub_refl _ (wf_of_lookup k dk _ hk hd))⟩
    | cons k2 r2 =>
      obtain ⟨dc', hd', hpc⟩ := objPath_child k k2 r2 dk hp
      cases hd.symm.trans hd'
      have step := fun c hc => ih c dc (by simp) hc hpc hg (wf_of_lookup k dk dc hk hd)
      simp only [Admits]
      cases hl : lookup k rk with
      | none =>
        obtain ⟨dk2, rfl⟩ := objPath_root k2 r2 dc hpc
        exact ⟨trivial, isSubKvs_upsert rk dk k _ _ hsk hd (step _ (by simp [isSub, isSubKvs])).2⟩
      | some c =>
        obtain ⟨dc2, hd2, hsc⟩ := isSubKvs_lookup rk dk k c hsk hl
        cases hd.symm.trans hd2
        exact ⟨(step c hsc).1, isSubKvs_upsert rk dk k _ _ hsk hd (step c hsc).2⟩

/-- lines 112-119 of jsontools.py: create the path, then `add` the value -/
theorem mkPath_add (q : Ptr) (v d : J) (ha : Admits q d) (hq : q ≠ []) :
    (do let r1 ← mkPath q d; atParent (addLast v) q r1) = .ok (setO q v d) := by
  induction q generalizing d with
  | nil => exact absurd rfl hq
  | cons k rest ih =>
    obtain ⟨kvs, rfl⟩ := admits_obj (k :: rest) d (by simp) ha
    cases rest with
    | nil =>
      simp only [mkPath, setO]
      simp [bind, Except.bind, atParent, addLast, upsert_upsert]
    | cons k2 r =>
      have hchild : Admits (k2 :: r) (match lookup k kvs with | none => J.obj [] | some c => c) := by
        cases hl : lookup k kvs with
        | none => exact admits_empty _
        | some c => exact admits_child k (k2 :: r) kvs c ha hl (by simp)
      have := ih _ hchild (by simp)
      simp only [mkPath]
      cases hm : mkPath (k2 :: r) (match lookup k kvs with | none => J.obj [] | some c => c) with
      | error e => simp [hm, bind, Except.bind] at this
      | ok c' =>
        simp only [hm, bind, Except.bind] at this
        simp only [bind, Except.bind, atParent, lookup_upsert_self, this, setO, upsert_upsert]
        congr 3
        cases lookup k kvs <;> rfl

theorem filterPtr_eq (content result : J) (q : Ptr) (part : J) (hq : q ≠ []) (hg : getP q content = some part)
    (ha : Admits q result) : filterPtr content result q = .ok (setO q part result) := by
  have := mkPath_add q part result ha hq
  simp only [filterPtr, getPtr_of_getP q content part hg, parsePointer_path]
  cases hm : mkPath q result with
  | error e => simp [hm, bind, Except.bind] at this
  | ok r1 =>
    simp only [hm, bind, Except.bind] at this
    simp only [bind, Except.bind]
    cases q with
    | nil => exact absurd rfl hq
    | cons _ _ => simpa [opAdd] using this

theorem filter_ptrs (ps : List (List String)) (p : List String) (hp : p ∈ ps) (hpne : p ≠ []) (d : J)
    (hw : d.wf = true) (hs : SpineNoArr ps d) (L : List Ptr)
    (hL : ∀ q ∈ L, matchPtr p q = true ∧ getP q d ≠ none) (result : J) (hr : isSub result d = true) :
    ∃ r, L.foldlM (filterPtr d) result = .ok r ∧ isSub r d = true := by
  induction L generalizing result with
  | nil => exact ⟨result, rfl, hr⟩
  | cons q L ih =>
    obtain ⟨hm, hg⟩ := hL q (by simp)
    have hq := ne_nil_of_matchPtr p q hm hpne
    have hop := objPath_of_rel ps d d hs (fun _ _ _ _ _ _ hv => .inr hv) p hp q hm hg
    cases hv : getP q d with
    | none => exact absurd hv hg
    | some part =>
      obtain ⟨ha, hs'⟩ := sub_setO q result d part hq hr hop hv hw
      have h1 := filterPtr_eq d result q part hq hv ha
      obtain ⟨r, g1, g2⟩ := ih (fun x hx => hL x (by simp [hx])) _ hs'
      exact ⟨r, by rw [List.foldlM_cons, h1]; exact g1, g2⟩

/-- the loop over the filter texts of `apply_acl_filters` -/
theorem filters_sub (ps : List (List String)) (d : J) (hw : d.wf = true) (hs : SpineNoArr ps d) (F : List String)
    (hF : ∀ t ∈ F, pyStrip t = "" ∨ ∃ p ∈ ps, p ≠ [] ∧ parsePointer (pyStrip t) = .ok p) (result : J)
    (hr : isSub result d = true) : ∃ r, F.foldlM (filterStep d) result = .ok r ∧ isSub r d = true := by
  induction F generalizing result with
  | nil => exact ⟨result, rfl, hr⟩
  | cons t F ih =>
    have hrest := ih fun x hx => hF x (by simp [hx])
    rw [List.foldlM_cons, filterStep]
    by_cases he : pyStrip t = ""
    · simp only [he, if_true]
      exact hrest result hr
    · obtain ⟨p, hp, hpne, hparse⟩ := (hF t (by simp)).resolve_left he
      obtain ⟨qs, hqs, mem⟩ := resolve_spec (pyStrip t) p d hparse hpne hw
      obtain ⟨r1, f1, f2⟩ := filter_ptrs ps p hp hpne d hw hs qs (fun q hq => (mem q).1 hq) result hr
      simp only [he, if_false, hqs, f1, bind, Except.bind]
      exact hrest r1 f2

end Annet.Json.Lemmas
