/-
Helper lemmas for C10: the offside parser on the output of a generator program.

`runSt` is the parser pipeline (`Offside.runItems`) returning its final state, so that runs compose (`runSt_append`).
`sim_run` is the embedding lemma: the lines of one yield, moved `B` columns to the right and parsed in the state the
enclosing blocks left, get the paths of the yield's own parse prefixed by the block path.  `layout_run_op` and
`layout_run_list` lift it to whole programs by mutual induction.
-/
import AnnetModel.Lemmas.GenSpec
import AnnetModel.Lemmas.Basic
import AnnetModel.Lemmas.Offside

namespace Annet.Gen.Lemmas
open Annet Annet.Offside Annet.Offside.Lemmas Annet.Gen.Spec

/-- the parser pipeline, returning the yielded stacks, the final indent state and the final stack -/
def runSt : List Item → St → List String → Option (List (List String) × St × List String)
  | [], st, stack => some ([], st, stack)
  | .blank :: rest, st, stack => runSt rest st stack
  | .sectionEnd :: rest, _, stack => runSt rest St.init stack
  | .text lvl body :: rest, st, stack =>
    match stepText st lvl with
    | none => none
    | some (st', depth) =>
      match runSt rest st' (restack stack depth body) with
      | none => none
      | some (out, s, k) => some (restack stack depth body :: out, s, k)

theorem runItems_runSt (items : List Item) (st : St) (stack : List String) (n : Nat) :
    (runItems items st stack n).toOption = (runSt items st stack).map (·.1) := by
  induction items generalizing st stack n with
  | nil => simp [runItems, runSt, Except.toOption]
  | cons it rest ih =>
    cases it with
    | blank => simpa [runItems, runSt] using ih st stack (n + 1)
    | sectionEnd => simpa [runItems, runSt] using ih St.init stack (n + 1)
    | text k s =>
      rw [runSt]
      cases hst : stepText st k with
      | none => rw [runItems_text_none hst]; rfl
      | some r =>
        obtain ⟨st', depth⟩ := r
        rw [runItems_text_some hst, Except.toOption_map, ih]
        simp only
        cases runSt rest st' (restack stack depth s) <;> rfl

theorem runSt_append (a b : List Item) (st : St) (stack : List String) :
    runSt (a ++ b) st stack =
      (runSt a st stack).bind fun r => (runSt b r.2.1 r.2.2).map fun q => (r.1 ++ q.1, q.2) := by
  induction a generalizing st stack with
  | nil =>
    rw [List.nil_append, runSt, Option.bind_some]
    cases runSt b st stack <;> rfl
  | cons it rest ih =>
    cases it with
    | blank => exact ih st stack
    | sectionEnd => exact ih St.init stack
    | text k s =>
      simp only [List.cons_append, runSt]
      cases stepText st k with
      | none => rfl
      | some r =>
        simp only [ih]
        cases runSt rest r.1 (restack stack r.2 s) with
        | none => rfl
        | some r1 =>
          simp only [Option.bind_some]
          cases runSt b r1.2.1 r1.2.2 <;> rfl

def Pos (l : List Nat) : Prop := ∀ d ∈ l, 0 < d

theorem Pos.tail {d : Nat} {l : List Nat} (h : Pos (d :: l)) : Pos l := fun x hx => h x (List.mem_cons_of_mem _ hx)

theorem pos_sum_zero {l : List Nat} (h : Pos l) (hs : l.sum = 0) : l = [] := by
  cases l with
  | nil => rfl
  | cons d ds =>
    have := h d List.mem_cons_self
    rw [List.sum_cons] at hs
    omega

/-- the state an enclosing block leaves: its own and its ancestors' widths `inds` (summing to the column `B`),
below whatever the lines since the header pushed -/
def ctxSt (inds extra : List Nat) (B : Nat) (g : Option Nat) : St := ⟨extra ++ inds, ((B + extra.sum : Nat) : Int), g⟩

theorem stepText_zero (oi : List Nat) (oc : Int) (lvl : Nat) :
    stepText ⟨oi, oc, some 0⟩ lvl =
      if oc < lvl then some (⟨((lvl : Int) - oc).toNat :: oi, lvl, some 0⟩, oi.length + 1)
      else if (lvl : Int) < oc then
        if (popLoop lvl oi oc).2 != lvl then none
        else some (⟨(popLoop lvl oi oc).1, (popLoop lvl oi oc).2, some 0⟩, (popLoop lvl oi oc).1.length)
      else some (⟨oi, oc, some 0⟩, oi.length) := by
  simp only [stepText, Option.getD_some, Int.natCast_zero, Int.sub_zero, Int.not_lt.2 (Int.natCast_nonneg lvl),
    if_false, gt_iff_lt, List.length_cons]

/-- invariant of a yield's own parse: the current level is the sum of the open indents, which are positive -/
def OwnInv (st : St) : Prop := st.curr = ((st.indents.sum : Nat) : Int) ∧ Pos st.indents ∧ st.g = some 0

/-- the own state seen from the enclosing block -/
def embSt (inds : List Nat) (B : Nat) (st : St) : St := ⟨st.indents ++ inds, st.curr + (B : Int), some 0⟩

theorem embSt_eq_ctx (inds : List Nat) (B : Nat) (st : St) (h : OwnInv st) :
    embSt inds B st = ctxSt inds st.indents B (some 0) := by
  rw [embSt, ctxSt, h.1, Int.natCast_add, Int.add_comm]

/-- popping inside the yield never reaches the enclosing blocks' indents: the own ones sum to the own level -/
theorem popLoop_sim (inds : List Nat) (B : Nat) (lvl : Int) (hl : 0 ≤ lvl) :
    (oi : List Nat) → (oc : Int) → oc = ((oi.sum : Nat) : Int) →
    popLoop (lvl + B) (oi ++ inds) (oc + B) = ((popLoop lvl oi oc).1 ++ inds, (popLoop lvl oi oc).2 + B)
  | [], oc, h => by
    subst h
    cases inds with
    | nil => rfl
    | cons d ds =>
      simp only [List.nil_append, popLoop, List.sum_nil, Int.natCast_zero, Int.zero_add]
      rw [if_neg (by omega)]
  | d :: ds, oc, h => by
    rw [List.cons_append, popLoop, popLoop]
    simp only [gt_iff_lt, Int.add_lt_add_iff_right]
    split
    · rw [show oc + B - d = oc - d + B by omega]
      exact popLoop_sim inds B lvl hl ds (oc - d) (by rw [h, List.sum_cons]; omega)
    · rfl

theorem popLoop_inv (lvl : Int) : (oi : List Nat) → (oc : Int) → oc = ((oi.sum : Nat) : Int) → Pos oi →
    (popLoop lvl oi oc).2 = (((popLoop lvl oi oc).1.sum : Nat) : Int) ∧ Pos (popLoop lvl oi oc).1
  | [], _, h, hp => ⟨h, hp⟩
  | d :: ds, oc, h, hp => by
    rw [popLoop]
    split
    · exact popLoop_inv lvl ds (oc - (d : Int)) (by rw [h, List.sum_cons]; omega) hp.tail
    · exact ⟨h, hp⟩

theorem step_sim (inds : List Nat) (B lvl : Nat) (st : St) (h : OwnInv st) :
    stepText (embSt inds B st) (B + lvl) =
      (stepText st lvl).map (fun r => (embSt inds B r.1, r.2 + inds.length)) := by
  obtain ⟨oi, oc, g⟩ := st
  obtain ⟨h1, _, rfl⟩ := h
  simp only [embSt, stepText_zero, Int.natCast_add, Int.add_comm (B : Int) lvl,
    popLoop_sim inds B lvl (Int.natCast_nonneg lvl) oi oc h1, Int.add_lt_add_iff_right, Int.add_sub_add_right]
  split
  · simp only [Option.map_some, List.cons_append, List.length_append, Nat.add_right_comm]
  · split
    · simp only [bne_iff_ne, ne_eq, Int.add_left_inj]
      split
      · rfl
      · simp only [Option.map_some, List.length_append]
    · simp only [Option.map_some, List.length_append]

theorem stepText_ownInv {st st' : St} {lvl d : Nat} (h : OwnInv st) (hs : stepText st lvl = some (st', d)) :
    OwnInv st' := by
  obtain ⟨oi, oc, g⟩ := st
  obtain ⟨h1, h2, rfl⟩ := h
  rw [stepText_zero] at hs
  split at hs
  · cases hs
    refine ⟨?_, ?_, rfl⟩
    · simp only [List.sum_cons] at h1 ⊢
      omega
    · exact List.forall_mem_cons.2 ⟨by omega, h2⟩
  · split at hs
    · split at hs
      · cases hs
      · cases hs
        exact ⟨(popLoop_inv lvl oi oc h1 h2).1, (popLoop_inv lvl oi oc h1 h2).2, rfl⟩
    · cases hs
      exact ⟨h1, h2, rfl⟩

theorem restack_base {base : List String} {n : Nat} (hb : base.length = n) (os : List String) (d : Nat) (s : String) :
    restack (base ++ os) (d + n) s = base ++ restack os d s := by
  subst hb
  rw [restack_eq, restack_eq, List.take_append, List.take_of_length_le (Nat.le_add_left ..), Nat.add_sub_cancel,
    List.append_assoc]

theorem restack_base_zero {base : List String} {n : Nat} (hb : base.length = n) (junk : List String) (s : String) :
    restack (base ++ junk) n s = base ++ [s] := by
  rw [restack_eq, List.take_left' hb]

/-- the lines of a yield after its first significant line: exact simulation -/
theorem sim_run (inds : List Nat) (B : Nat) (base : List String) (hb : base.length = inds.length) :
    (items : List Item) → (st : St) → (os : List String) → items.all (· != .sectionEnd) = true → OwnInv st →
    runSt (items.map (shiftItem B)) (embSt inds B st) (base ++ os) =
      (runSt items st os).map (fun r => (r.1.map (base ++ ·), embSt inds B r.2.1, base ++ r.2.2)) ∧
    ∀ out st' os', runSt items st os = some (out, st', os') → OwnInv st'
  | [], st, os, _, hi => by
    refine ⟨rfl, fun out st' os' h => ?_⟩
    cases h
    exact hi
  | .blank :: rest, st, os, hn, hi => sim_run inds B base hb rest st os hn hi
  | .sectionEnd :: rest, st, os, hn, hi => nomatch hn
  | .text k s :: rest, st, os, hn, hi => by
    rw [List.all_cons, Bool.and_eq_true] at hn
    simp only [List.map_cons, shiftItem, runSt, step_sim inds B k st hi]
    cases hst : stepText st k with
    | none => exact ⟨rfl, fun _ _ _ h => nomatch h⟩
    | some r =>
      obtain ⟨st1, d⟩ := r
      obtain ⟨ih1, ih2⟩ := sim_run inds B base hb rest st1 (restack os d s) hn.2 (stepText_ownInv hi hst)
      simp only [Option.map_some, restack_base hb, ih1]
      cases hrs : runSt rest st1 (restack os d s) with
      | none => exact ⟨rfl, fun _ _ _ h => nomatch h⟩
      | some r2 =>
        refine ⟨rfl, fun out2 st2 os2 h => ?_⟩
        cases h
        exact ih2 _ _ _ hrs

/-- a line at column `B` arriving in state `st` closes what is open and lands at depth `inds.length` -/
def Ready (inds : List Nat) (B : Nat) (st : St) : Prop :=
  stepText st B = some (ctxSt inds [] B (some 0), inds.length)

theorem ready_ctx (inds extra : List Nat) (B : Nat) (hp : Pos extra) : Ready inds B (ctxSt inds extra B (some 0)) := by
  rw [Ready, ctxSt, stepText_zero, if_neg (by omega)]
  split
  · simp only [popLoop_all inds B extra hp, bne_self_eq_false, Bool.false_eq_true, if_false]
    rfl
  · rw [pos_sum_zero hp (by omega)]
    rfl

/-- `items`, parsed in a state ready for column `B` with `base` on the stack, yield the stacks `spec` (`none`: are
refused) and leave the parser as they found it (no significant line) or in a state of the enclosing block -/
def RunsAs (inds : List Nat) (B : Nat) (base : List String) (items : List Item) (st : St) (junk : List String)
    (spec : Option (List (List String))) : Prop :=
  ∃ st' junk', runSt items st (base ++ junk) = spec.map (fun ps => (ps, st', base ++ junk')) ∧
    (st' = st ∨ ∃ extra, Pos extra ∧ st' = ctxSt inds extra B (some 0))

theorem RunsAs.outputs {inds : List Nat} {B : Nat} {base : List String} {items : List Item} {st : St}
    {junk : List String} {spec : Option (List (List String))} (h : RunsAs inds B base items st junk spec) :
    (runSt items st (base ++ junk)).map (·.1) = spec := by
  obtain ⟨st', junk', hrun, _⟩ := h
  rw [hrun]
  cases spec <;> rfl

theorem RunsAs.append {inds : List Nat} {B : Nat} {base : List String} {a b : List Item} {st : St} {junk : List String}
    {sa sb : Option (List (List String))} (hr : Ready inds B st) (ha : RunsAs inds B base a st junk sa)
    (hb : ∀ st1 junk1, Ready inds B st1 → RunsAs inds B base b st1 junk1 sb) :
    RunsAs inds B base (a ++ b) st junk (match (generalizing := false) sa, sb with | some x, some y => some (x ++ y) | _, _ => none) := by
  obtain ⟨st1, junk1, h1, hform1⟩ := ha
  obtain ⟨st2, junk2, h2, hform2⟩ := hb st1 junk1 (by
    rcases hform1 with rfl | ⟨extra, hp, rfl⟩
    · exact hr
    · exact ready_ctx inds extra B hp)
  refine ⟨st2, junk2, ?_, ?_⟩
  · rw [runSt_append, h1]
    cases sa with
    | none => rfl
    | some x =>
      rw [Option.map_some, Option.bind_some, h2]
      cases sb <;> rfl
  · rcases hform2 with rfl | h
    · exact hform1
    · exact .inr h

theorem own_run (inds : List Nat) (B : Nat) (base : List String) (hb : base.length = inds.length) :
    (items : List Item) → (st : St) → (junk : List String) → OwnOk items = true → Ready inds B st →
    RunsAs inds B base (items.map (shiftItem B)) st junk ((runSt items St.init []).map (·.1.map (base ++ ·)))
  | [], st, junk, _, _ => ⟨st, junk, rfl, .inl rfl⟩
  | .blank :: rest, st, junk, ho, hr => own_run inds B base hb rest st junk ho hr
  | .sectionEnd :: rest, st, junk, ho, _ => nomatch ho
  | .text k s :: rest, st, junk, ho, hr => by
    rw [ownOk_cons_text, Bool.and_eq_true, beq_iff_eq] at ho
    obtain ⟨rfl, hn⟩ := ho
    have hi0 : OwnInv ⟨[], 0, some 0⟩ := ⟨rfl, nofun, rfl⟩
    obtain ⟨s1, s2⟩ := sim_run inds B base hb rest ⟨[], 0, some 0⟩ [s] hn hi0
    rw [Ready, (embSt_eq_ctx inds B _ hi0).symm] at hr
    have h0 : stepText St.init 0 = some (⟨[], 0, some 0⟩, 0) := rfl
    have hs : restack [] 0 s = [s] := rfl
    -- the first line lands at the block's column, the others are simulated
    simp only [RunsAs, List.map_cons, shiftItem, Nat.add_zero, runSt, hr, restack_base_zero hb, s1, h0, hs]
    cases hrun : runSt rest ⟨[], 0, some 0⟩ [s] with
    | none => exact ⟨st, junk, rfl, .inl rfl⟩
    | some r =>
      have hi' := s2 _ _ _ hrun
      exact ⟨embSt inds B r.2.1, r.2.2, rfl, .inr ⟨r.2.1.indents, hi'.2.1, embSt_eq_ctx inds B r.2.1 hi'⟩⟩

theorem specPaths_emit (base : List String) (items : List Item) :
    specPaths base (.emit items) = (runSt items St.init []).map (·.1.map (base ++ ·)) := by
  rw [specPaths, show (fun r : List (List String) × St × List String => r.1.map (base ++ ·)) =
    List.map (base ++ ·) ∘ (·.1) from rfl, ← Option.map_map, ← runItems_runSt items St.init [] 1]
  show _ = Option.map _ (stacks items).toOption
  cases stacks items <;> rfl

theorem ready_push (inds : List Nat) (B w : Nat) (hw : 0 < w) :
    Ready (w :: inds) (B + w) (ctxSt inds [] B (some 0)) := by
  rw [Ready, ctxSt, stepText_zero, if_pos (by simp only [List.sum_nil]; omega)]
  simp only [ctxSt, List.nil_append, List.sum_nil, Nat.add_zero, List.length_cons]
  rw [show ((B + w : Nat) : Int) - (B : Int) = (w : Int) by omega]
  rfl

theorem RunsAs.block {inds : List Nat} {B w : Nat} {base : List String} {h : String} {body : List Item} {st : St}
    {junk : List String} {sb : Option (List (List String))} (hb : base.length = inds.length) (hw : 0 < w)
    (hr : Ready inds B st) (hbody : RunsAs (w :: inds) (B + w) (base ++ [h]) body (ctxSt inds [] B (some 0)) [] sb) :
    RunsAs inds B base (.text B h :: body) st junk
      (match (generalizing := false) sb with | some ps => some ((base ++ [h]) :: ps) | none => none) := by
  rw [Ready] at hr
  obtain ⟨st', junk', hrun, hform⟩ := hbody
  refine ⟨st', [h] ++ junk', ?_, .inr ?_⟩
  · simp only [runSt, hr, restack_base_zero hb]
    rw [← List.append_nil (base ++ [h]), hrun, List.append_assoc]
    cases sb <;> rfl
  · rcases hform with rfl | ⟨extra, hp, rfl⟩
    · exact ⟨[], nofun, rfl⟩
    · refine ⟨extra ++ [w], ?_, ?_⟩
      · exact fun x hx => (List.mem_append.1 hx).elim (hp x) fun hx => List.mem_singleton.1 hx ▸ hw
      · simp only [ctxSt, List.append_assoc, List.singleton_append, List.sum_append, List.sum_cons, List.sum_nil]
        congr 1
        omega

mutual
  theorem layout_run_op : (op : LOp) → WF op = true → ∀ (inds : List Nat) (B : Nat) (base : List String) (st : St)
      (junk : List String), base.length = inds.length → Ready inds B st →
      (match specPaths base op with
       | none => runSt (layout B op) st (base ++ junk) = none
       | some ps => ∃ st' junk', runSt (layout B op) st (base ++ junk) = some (ps, st', base ++ junk') ∧
           (st' = st ∨ ∃ extra, Pos extra ∧ st' = ctxSt inds extra B (some 0)))
    | .emit items, hwf, inds, B, base, st, junk, hb, hr => by
      rw [WF] at hwf
      obtain ⟨st', junk', h, hp⟩ := own_run inds B base hb items st junk hwf hr
      rw [← specPaths_emit] at h
      revert h
      rw [layout]
      cases specPaths base (.emit items) <;> intro h
      · exact h
      · exact ⟨st', junk', h, hp⟩
    | .block h w body, hwf, inds, B, base, st, junk, hb, hr => by
      rw [WF, Bool.and_eq_true, decide_eq_true_eq] at hwf
      obtain ⟨st', junk', h, hp⟩ := RunsAs.block (junk := junk) hb hwf.1 hr (layout_run_list body hwf.2 (w :: inds) (B + w)
        (base ++ [h]) _ [] (by rw [List.length_append, hb]; rfl) (ready_push inds B w hwf.1))
      revert h
      rw [specPaths, layout]
      cases specPathsL (base ++ [h]) body <;> intro h
      · exact h
      · exact ⟨st', junk', h, hp⟩
  theorem layout_run_list : (ops : List LOp) → WFL ops = true → ∀ (inds : List Nat) (B : Nat) (base : List String)
      (st : St) (junk : List String), base.length = inds.length → Ready inds B st →
      RunsAs inds B base (layoutL B ops) st junk (specPathsL base ops)
    | [], _, inds, B, base, st, junk, _, _ => ⟨st, junk, rfl, .inl rfl⟩
    | op :: rest, hwf, inds, B, base, st, junk, hb, hr => by
      rw [WFL, Bool.and_eq_true] at hwf
      rw [specPathsL, layoutL]
      refine RunsAs.append hr ?_ (fun st1 junk1 hr1 => layout_run_list rest hwf.2 inds B base st1 junk1 hb hr1)
      have h := layout_run_op op hwf.1 inds B base st junk hb hr
      revert h
      cases specPaths base op
      · exact fun h => ⟨st, junk, h, .inl rfl⟩
      · exact id
end

end Annet.Gen.Lemmas
