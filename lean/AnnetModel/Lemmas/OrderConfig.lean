/-
`Orderer.order_config` (C08): it permutes the rows of every block (`orderConfig_perm_aux`) and is idempotent
(`orderConfig_idem_aux`).  The key of a row depends only on the row and the rules handed down to its block, so every item of
an ordered block is `OCFixed`: `get_order` recomputes its key, and its children are ordered already.
-/
import AnnetModel.Lemmas.Sort

namespace Annet.Patch.Lemmas
open Annet Annet.Patch Annet.Patch.Spec

abbrev ocPair (it : OCItem) : String × Cfg := (it.row, it.children)

mutual
  theorem orderConfig_perm_aux (v : Rules.Vendor) : (t : Cfg) → ∀ (rb : List Rules.ORule) (t' : Cfg),
      orderConfig v rb t = some t' → CfgPerm t t'
    | .mk ks, rb, t', h => by
      simp only [orderConfig, Option.map_eq_some_iff] at h
      obtain ⟨items, hi, rfl⟩ := h
      exact .mk (orderConfigL_perm_aux v ks rb items _ hi ((sort_perm ocLt items).map ocPair).symm)
  theorem orderConfigL_perm_aux (v : Rules.Vendor) : (ks : List (String × Cfg)) →
      ∀ (rb : List Rules.ORule) (items : List OCItem) (b : List (String × Cfg)),
      orderConfigL v rb ks = some items → (items.map ocPair).Perm b → CfgPermL ks b
    | [], rb, items, b, h, hp => by
      simp only [orderConfigL, Option.some.injEq] at h
      subst h
      have := hp.symm.eq_nil
      subst this
      exact .nil
    | (row, ch) :: rest, rb, items, b, h, hp => by
      simp only [orderConfigL] at h
      split at h
      · cases h
      · rename_i o ho
        split at h
        · rename_i ch' rest' hch hrest
          cases h
          have hmem : (row, ch') ∈ b := hp.mem_iff.mp (by simp)
          obtain ⟨b1, b2, rfl⟩ := List.append_of_mem hmem
          refine .cons (orderConfig_perm_aux v ch o.children ch' hch) rfl
            (orderConfigL_perm_aux v rest rb rest' _ hrest ?_)
          exact (List.perm_cons _).mp (hp.trans List.perm_middle)
        · cases h
end

/-- an ordered item whose key is what `get_order` recomputes from its row, with ordered children -/
def OCFixed (v : Rules.Vendor) (rb : List Rules.ORule) (it : OCItem) : Prop :=
  ∃ o, getOrder v rb it.row (!(v.reverse.toList.isPrefixOf it.row.toList)) none = some o ∧
    o.direct = it.direct ∧ o.order = it.order ∧ orderConfig v o.children it.children = some it.children

theorem orderConfigL_of_fixed (v : Rules.Vendor) (rb : List Rules.ORule) (l : List OCItem)
    (h : ∀ it ∈ l, OCFixed v rb it) : orderConfigL v rb (l.map ocPair) = some l := by
  induction l with
  | nil => simp [orderConfigL]
  | cons it rest ih =>
    obtain ⟨o, ho, hd, hord, hch⟩ := h it List.mem_cons_self
    have ih' := ih (fun it' hit' => h it' (List.mem_cons_of_mem _ hit'))
    obtain ⟨row, ch, d, ord⟩ := it
    simp only at ho hd hord hch
    subst hd hord
    simp only [List.map_cons, orderConfigL, ho, hch, ih']

mutual
  theorem orderConfig_idem_aux (v : Rules.Vendor) : (t : Cfg) → ∀ (rb : List Rules.ORule) (t' : Cfg),
      orderConfig v rb t = some t' → orderConfig v rb t' = some t'
    | .mk ks, rb, t', h => by
      simp only [orderConfig, Option.map_eq_some_iff] at h
      obtain ⟨items, hi, rfl⟩ := h
      have hfix := orderConfigL_fixed_aux v ks rb items hi
      have hfix' : ∀ it ∈ stableSort ocLt items, OCFixed v rb it :=
        fun it hit => hfix it ((sort_perm ocLt items).mem_iff.mp hit)
      simp only [orderConfig]
      rw [orderConfigL_of_fixed v rb _ hfix']
      simp only [Option.map_some, sort_idempotent ocLt ocLt_strictWeak]
  theorem orderConfigL_fixed_aux (v : Rules.Vendor) : (ks : List (String × Cfg)) →
      ∀ (rb : List Rules.ORule) (items : List OCItem),
      orderConfigL v rb ks = some items → ∀ it ∈ items, OCFixed v rb it
    | [], rb, items, h => by
      simp only [orderConfigL, Option.some.injEq] at h
      subst h
      simp
    | (row, ch) :: rest, rb, items, h => by
      simp only [orderConfigL] at h
      split at h
      · cases h
      · rename_i o ho
        split at h
        · rename_i ch' rest' hch hrest
          cases h
          intro it hit
          rcases List.mem_cons.mp hit with rfl | hit
          · exact ⟨o, ho, rfl, rfl, orderConfig_idem_aux v ch o.children ch' hch⟩
          · exact orderConfigL_fixed_aux v rest rb rest' hrest it hit
        · cases h
end

end Annet.Patch.Lemmas
