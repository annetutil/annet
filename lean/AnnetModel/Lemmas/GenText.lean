/-
From the rows a generator program appends (strings) to the layout it denotes (items), and what `_split_and_strip`
guarantees about the first row of a yield.
-/
import AnnetModel.Lemmas.GenSpec
import AnnetModel.Lemmas.Offside
import AnnetModel.Lemmas.OffsideRule

namespace Annet.Gen.Lemmas
open Annet Annet.Offside Annet.Offside.Lemmas Annet.Gen.Spec

theorem comments_hash : comments.contains "#" = true := by decide
theorem comments_mem : "#" ∈ comments := by decide

theorem classify_indent (ws row : String) (hws : ws.toList.all isBlankTab = true)
    (hse : classify comments row ≠ .sectionEnd) :
    classify comments (ws ++ row) = shiftItem ws.length (classify comments row) := by
  have hrow : startsWith row.toList ['#'] = false :=
    Bool.eq_false_iff.2 fun h => hse (by simp [classify, comments_mem, h])
  have hcat : startsWith (ws.toList ++ row.toList) ['#'] = false := by
    cases hw : ws.toList with
    | nil => exact hrow
    | cons c cs =>
      rw [hw, List.all_cons, Bool.and_eq_true] at hws
      have hc : c ≠ '#' := by rintro rfl; exact absurd hws.1 (by decide)
      simpa [startsWith, List.isPrefixOf] using hc.symm
  simp only [classify, String.toList_append, hcat, hrow, Bool.and_false, Bool.false_eq_true, if_false,
    strip_append_ws _ _ hws, parseIndent_append_ws _ _ hws]
  split
  · rfl
  · simp [shiftItem, String.length_toList]

theorem concatStr_append (a : List String) (b : String) : concatStr (a ++ [b]) = concatStr a ++ b := by
  induction a with
  | nil => simp [concatStr]
  | cons x xs ih => simp [concatStr, ih, String.append_assoc]

/-- the indents pushed so far (`self._indents`) are blanks and tabs only -/
def IndsOk (indents : List String) : Prop := (concatStr indents).toList.all isBlankTab = true

/-- their total length: the column of the current block -/
def width (indents : List String) : Nat := (concatStr indents).length

theorem indsOk_nil : IndsOk [] := by simp [IndsOk, concatStr]

theorem indsOk_snoc {indents : List String} {ind : String} (h : IndsOk indents) (hi : IndentOk ind = true) :
    IndsOk (indents ++ [ind]) := by
  simp only [IndentOk, Bool.and_eq_true] at hi
  simp only [IndsOk, concatStr_append, String.toList_append, List.all_append, Bool.and_eq_true]
  exact ⟨h, hi.2⟩

theorem width_snoc (indents : List String) (ind : String) : width (indents ++ [ind]) = width indents + ind.length := by
  simp [width, concatStr_append]

theorem indentOk_pos {ind : String} (hi : IndentOk ind = true) : 0 < ind.length := by
  simp only [IndentOk, Bool.and_eq_true, Bool.not_eq_eq_eq_not, Bool.not_true] at hi
  rw [← String.length_toList]
  cases h : ind.toList with
  | nil => rw [h] at hi; simp at hi
  | cons c cs => simp

theorem appendText_items (indents : List String) (text : String) (hi : IndsOk indents)
    (hse : ∀ i ∈ ownItems text, i ≠ .sectionEnd) :
    (appendText indents text).map (classify comments) = (ownItems text).map (shiftItem (width indents)) := by
  simp only [appendText, ownItems, List.map_map] at hse ⊢
  apply List.map_congr_left
  intro r hr
  simp only [Function.comp]
  exact classify_indent _ _ hi (hse _ (List.mem_map.2 ⟨r, hr, rfl⟩))

theorem emit_rows (indents : List String) (text : String) (hi : IndsOk indents)
    (hw : WFL [.emit (ownItems text)] = true) :
    (appendText indents text).map (classify comments) = layoutL (width indents) [.emit (ownItems text)] := by
  rw [appendText_items indents text hi (ownOk_noSE _ (by simpa [WFL, WF] using hw))]
  simp [layoutL, layout]

theorem block_rows (indents : List String) (h hb : String) (ind : String) (b : List LOp) (bodyRows : List String)
    (hh : headerOf h = some hb) (hi : IndsOk indents)
    (hbody : bodyRows.map (classify comments) = layoutL (width (indents ++ [ind])) b) :
    (appendText indents h ++ bodyRows).map (classify comments) =
      layoutL (width indents) [.block hb ind.length b] := by
  have ho := headerOf_some hh
  have hse : ∀ i ∈ ownItems h, i ≠ .sectionEnd := by
    rw [ho]; intro i hi; simp only [List.mem_singleton] at hi; subst hi; intro hc; cases hc
  rw [List.map_append, appendText_items indents h hi hse, ho, hbody, width_snoc]
  simp [layoutL, layout, shiftItem]

theorem block_run {indents : List String} {toks : List Val} {ind : String} {inner : Option (List LOp)}
    {run : Option (List String)} {lops : List LOp}
    (hl : blockLayout toks ind inner = some lops) (hw : WFL lops = true) (hi : IndsOk indents)
    (hbody : ∀ b, inner = some b → WFL b = true → IndsOk (indents ++ [ind]) →
      ∃ rows, run = some rows ∧ rows.map (classify comments) = layoutL (width (indents ++ [ind])) b) :
    ∃ h rows, joinToks toks = some h ∧ run = some rows ∧
      (appendText indents h ++ rows).map (classify comments) = layoutL (width indents) lops := by
  obtain ⟨h, hj, b, hbl, hb, hh, hio, rfl⟩ := blockLayout_inv hl
  obtain ⟨rows, hr, hrows⟩ := hbody b hbl (wfl_block hw).2 (indsOk_snoc hi hio)
  exact ⟨h, rows, hj, hr, block_rows indents h hb ind b rows hh hi hrows⟩

/-- `multiblock(b, …)` is `block(b)` around `multiblock(…)` -/
theorem runOp_multiblock_cons (indents : List String) (b : List Val) (bs : List (List Val)) (body : List Op) :
    runOp indents (.multiblock (b :: bs) body) =
      (joinToks b).bind fun h => (runOp (indents ++ ["  "]) (.multiblock bs body)).map (appendText indents h ++ ·) := by
  have e : indents ++ (b :: bs).map (fun _ => "  ") = indents ++ ["  "] ++ bs.map fun _ => "  " := by simp
  rw [runOp, runOp, multiHeaders, e]
  cases joinToks b <;> cases multiHeaders (indents ++ ["  "]) bs <;>
    cases runOps (indents ++ ["  "] ++ bs.map fun _ => "  ") body <;> simp

theorem multi_run {body : List Op}
    (hbody : ∀ indents b, toLayoutL body = some b → WFL b = true → IndsOk indents →
      ∃ rows, runOps indents body = some rows ∧ rows.map (classify comments) = layoutL (width indents) b) :
    (blocks : List (List Val)) → ∀ indents lops, multiLayout blocks (toLayoutL body) = some lops → WFL lops = true →
      IndsOk indents →
      ∃ rows, runOp indents (.multiblock blocks body) = some rows ∧
        rows.map (classify comments) = layoutL (width indents) lops
  | [], indents, lops, hl, hw, hi => by
    obtain ⟨rows, hr, h⟩ := hbody indents lops hl hw hi
    exact ⟨rows, by simp [runOp, multiHeaders, hr], h⟩
  | b :: bs, indents, lops, hl, hw, hi => by
    rw [multiLayout] at hl
    obtain ⟨h, rows, hj, hr, hrows⟩ := block_run hl hw hi fun b hb hwb hib => multi_run hbody bs _ b hb hwb hib
    exact ⟨appendText indents h ++ rows, by rw [runOp_multiblock_cons, hj, hr]; rfl, hrows⟩

mutual
  theorem run_layout_op : (op : Op) → ∀ (indents : List String) (lops : List LOp), toLayout op = some lops →
      WFL lops = true → IndsOk indents →
      ∃ rows, runOp indents op = some rows ∧ rows.map (classify comments) = layoutL (width indents) lops
    | .yieldStr text, indents, lops, hl, hw, hi => by
      cases hl
      exact ⟨appendText indents text, rfl, emit_rows indents text hi hw⟩
    | .yieldTuple vals, indents, lops, hl, hw, hi => by
      rw [toLayout] at hl
      split at hl
      · next t hj =>
        cases hl
        exact ⟨appendText indents t, by rw [runOp, hj], emit_rows indents t hi hw⟩
      · cases hl
    | .block toks indent body, indents, lops, hl, hw, hi => by
      rw [toLayout] at hl
      obtain ⟨h, rows, hj, hr, hrows⟩ := block_run hl hw hi fun b => run_layout_ops body _ b
      exact ⟨appendText indents h ++ rows, by rw [runOp, hj]; simp only [hr], hrows⟩
    | .blockIf toks cond body, indents, lops, hl, hw, hi => by
      rw [toLayout] at hl
      rw [runOp]
      split at hl
      · next hc =>
        obtain ⟨h, rows, hj, hr, hrows⟩ := block_run hl hw hi fun b => run_layout_ops body _ b
        exact ⟨appendText indents h ++ rows, by rw [if_pos hc, hj]; simp only [hr], hrows⟩
      · next hc =>
        rw [if_neg hc]
        exact run_layout_ops body indents lops hl hw hi
    | .multiblock blocks body, indents, lops, hl, hw, hi => by
      rw [toLayout] at hl
      exact multi_run (fun ind b => run_layout_ops body ind b) blocks indents lops hl hw hi
  theorem run_layout_ops : (ops : List Op) → ∀ (indents : List String) (lops : List LOp), toLayoutL ops = some lops →
      WFL lops = true → IndsOk indents →
      ∃ rows, runOps indents ops = some rows ∧ rows.map (classify comments) = layoutL (width indents) lops
    | [], indents, lops, hl, _, _ => by
      cases hl
      exact ⟨[], rfl, rfl⟩
    | op :: rest, indents, lops, hl, hw, hi => by
      rw [toLayoutL] at hl
      split at hl
      · next a b h1 h2 =>
        cases hl
        rw [wfl_append, Bool.and_eq_true] at hw
        obtain ⟨r1, hr1, hrows1⟩ := run_layout_op op indents a h1 hw.1 hi
        obtain ⟨r2, hr2, hrows2⟩ := run_layout_ops rest indents b h2 hw.2 hi
        refine ⟨r1 ++ r2, by rw [runOps, hr1]; simp only [hr2], ?_⟩
        rw [List.map_append, hrows1, hrows2, layoutL_append]
      · cases hl
end

theorem classify_empty : classify comments "" = .blank := by
  simp [classify, String.toList_empty, startsWith, strip, lstrip]

theorem stacks_split_common (rows : List String) :
    (stacks ((split .common rows).map (classify comments))).toOption =
      (stacks (rows.map (classify comments))).toOption := by
  rw [← blank_ignored, ← blank_ignored (rows.map (classify comments)), split, List.filter_map, List.filter_map,
    List.filter_filter]
  -- an empty row is a blank line, which the second filter drops anyway
  congr 3
  refine List.filter_congr fun r _ => ?_
  cases hr : r.isEmpty with
  | false => simp
  | true => simp [String.isEmpty_iff.1 hr, classify_empty]

theorem parseToTree_toOption (lines : List String) :
    (parseToTree comments lines).toOption = ((stacks (lines.map (classify comments))).toOption).map treeOfStacks := by
  rw [parseToTree, parseItems]
  cases stacks (lines.map (classify comments)) <;> rfl

theorem splitNl_ne_nil (l : List Char) : splitNl l ≠ [] := by
  cases l with
  | nil => simp [splitNl]
  | cons c cs =>
    rw [splitNl]
    split
    · simp
    · split <;> simp

theorem splitNl_head : (l : List Char) → (∀ c, l.head? = some c → pyIsSpace c = false) →
    ∃ r rest, splitNl l = r :: rest ∧ ∀ c, r.head? = some c → pyIsSpace c = false
  | [], _ => ⟨[], [], rfl, nofun⟩
  | c :: cs, h => by
    have hc := h c rfl
    obtain ⟨l, ls, hl⟩ := List.exists_cons_of_ne_nil (splitNl_ne_nil cs)
    have hnl : (c == '\n') = false := by
      rw [beq_eq_false_iff_ne]
      rintro rfl
      exact absurd hc (by decide)
    refine ⟨c :: l, ls, by rw [splitNl, hnl, hl]; rfl, fun d hd => ?_⟩
    cases hd
    exact hc

theorem splitAndStrip_of_no_nl {text : List Char} (h : text.contains '\n' = false) : splitAndStrip text = [strip text] := by
  rw [splitAndStrip, if_neg (by rw [h]; exact Bool.false_ne_true)]

/-- the first row `_split_and_strip` returns has no leading whitespace — for multi-line texts because the dedented
text is stripped as a whole, for single-line texts because the line is stripped -/
theorem splitAndStrip_head (text : List Char) :
    ∃ r rest, splitAndStrip text = r :: rest ∧ ∀ c, r.head? = some c → pyIsSpace c = false := by
  cases h : text.contains '\n' with
  | true => rw [splitAndStrip, if_pos h]; exact splitNl_head _ (strip_head _)
  | false => exact ⟨strip text, [], splitAndStrip_of_no_nl h, strip_head text⟩

theorem classify_text_indent (r : List Char) (hc : ∀ c, r.head? = some c → pyIsSpace c = false) (k : Nat) (s : String)
    (hcl : classify comments (String.ofList r) = .text k s) : k = 0 := by
  have hp := parseIndent_nonspace r hc
  simp only [classify, String.toList_ofList, hp] at hcl
  split at hcl
  · cases hcl
  · split at hcl
    · cases hcl
    · cases hcl; rfl

end Annet.Gen.Lemmas
