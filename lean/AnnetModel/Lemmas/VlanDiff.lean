/-
`vlan_diff` (huawei/vlandb.py:22-48) item by item: `vlanDiffItems batch` is `flatMap` of `vlanDiffItem batch` whenever it
does not raise, so what holds of one item's output holds of the whole, for any `batch`.  `vlanDiffItem` is written with
`pfxOf`/`idsOf`, the words of the two properties, so neither opens `_parse_vlancfg` again.
-/
import AnnetModel.Spec.VlanDev
import AnnetModel.Lemmas.Basic

namespace Annet.Vlan.Lemmas
open Annet.Vlan Annet.Vlan.Spec

theorem mem_sinter (x : Nat) (a b : List Nat) : x ∈ sinter a b ↔ x ∈ a ∧ x ∈ b := by
  simp [sinter]

/-- what `vlan_diff` passes on for one item whose row parses: a `vlan N` row with `N` in the batch is relabelled when
removed, kept when it has children, dropped otherwise; every other row is kept -/
def vlanDiffItem (batch : List Nat) (it : DItem) : List DItem :=
  if pfxOf it.row = some [.w "vlan"] ∧ sinter batch (idsOf it.row) ≠ [] then
    if it.op = .removed then [{ it with op := .affected }] else if it.hasChildren then [it] else []
  else [it]

theorem vlanDiffItems_eq {batch : List Nat} {items out : List DItem} (h : vlanDiffItems batch items = .ok out) :
    out = items.flatMap (vlanDiffItem batch) := by
  induction items generalizing out with
  | nil => cases h; rfl
  | cons it rest ih =>
    rw [vlanDiffItems] at h
    obtain ⟨⟨p, ids⟩, hp, h⟩ := Except.bind_eq_ok.1 h
    obtain ⟨more, hr, h⟩ := Except.bind_eq_ok.1 h
    rw [List.flatMap_cons, ← ih hr, vlanDiffItem, pfxOf, idsOf, hp]
    dsimp only at h ⊢
    -- the code's two tests against the nested form: a truth table over the four conditions
    by_cases h1 : p = [.w "vlan"] <;> by_cases h2 : sinter batch ids = [] <;> by_cases h3 : it.op = .removed <;>
      cases h4 : it.hasChildren <;> simp_all [pure, Except.pure]

theorem vlanDiff_keeps_batch (batch : List Nat) (items out : List DItem)
    (h : vlanDiffItems batch items = .ok out) :
    out.filter isBatchRow = items.filter isBatchRow := by
  conv => rhs; rw [← List.flatMap_singleton' items]
  rw [vlanDiffItems_eq h, List.filter_flatMap, List.filter_flatMap]
  congr 1; funext it
  unfold vlanDiffItem
  split
  · -- a `vlan` row, relabelled or not, is no batch row
    have hb : ∀ o, isBatchRow { it with op := o } = false := fun o => by simp [isBatchRow, ‹_ ∧ _›.1]
    have hi : isBatchRow it = false := hb it.op
    split
    · simp [hb]
    · split <;> simp [hi]
  · rfl

theorem vlanDiff_protects (batch : List Nat) (items out : List DItem)
    (h : vlanDiffItems batch items = .ok out) :
    ∀ it ∈ out, it.op = .removed → pfxOf it.row = some [.w "vlan"] →
      ∀ v, v ∈ idsOf it.row → v ∉ batch := by
  intro x hx hop hpf v hv hvb
  rw [vlanDiffItems_eq h, List.mem_flatMap] at hx
  obtain ⟨it, _, hx⟩ := hx
  unfold vlanDiffItem at hx
  split at hx
  · split at hx
    · cases List.mem_singleton.mp hx; cases hop
    · split at hx
      · cases List.mem_singleton.mp hx; exact ‹¬ _› hop
      · cases hx
  · rename_i hc
    cases List.mem_singleton.mp hx
    exact hc ⟨hpf, List.ne_nil_of_mem ((mem_sinter v batch _).mpr ⟨hvb, hv⟩)⟩

end Annet.Vlan.Lemmas
