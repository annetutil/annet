/-
Streams with a possible error (`Out α`): rows and error of a stream from those of its parts, and what reading a generator's
definition once shows: what its rows are (`AllRows`) and when it can raise after a row (`Gen`, `Part`).
-/
import AnnetModel.Spec.Rpl

namespace Annet.Rpl.Lemmas
open Annet.Rpl Annet.Rpl.Spec

@[simp] theorem emit_fst {α : Type} (l : List α) : (emit l).1 = l := rfl
@[simp] theorem emit_snd {α : Type} (l : List α) : (emit l).2 = none := rfl
@[simp] theorem fail_fst {α : Type} (e : Err) : (fail e : Out α).1 = [] := rfl
@[simp] theorem fail_snd {α : Type} (e : Err) : (fail e : Out α).2 = some e := rfl

@[simp] theorem emit_seq {α : Type} (l : List α) (b : Out α) : (emit l).seq b = (l ++ b.1, b.2) := rfl
@[simp] theorem fail_seq {α : Type} (e : Err) (b : Out α) : (fail e).seq b = fail e := rfl

theorem seq_of_none {α : Type} (a b : Out α) (h : a.2 = none) : a.seq b = (a.1 ++ b.1, b.2) := by
  unfold Out.seq; rw [h]

theorem seq_of_some {α : Type} (a b : Out α) (e : Err) (h : a.2 = some e) : a.seq b = a := by
  unfold Out.seq; rw [h]

@[simp] theorem raiseIf_true {α : Type} (e : Err) : (raiseIf true e : Out α) = fail e := rfl
@[simp] theorem raiseIf_false {α : Type} (e : Err) : (raiseIf false e : Out α) = emit [] := rfl

theorem raiseIf_fst {α : Type} (c : Bool) (e : Err) : (raiseIf c e : Out α).1 = [] := by cases c <;> rfl

theorem seq_rows_mem {α : Type} (a b : Out α) (x : α) (h : x ∈ (a.seq b).1) : x ∈ a.1 ∨ x ∈ b.1 := by
  cases ha : a.2 with
  | none => rw [seq_of_none _ _ ha] at h; exact List.mem_append.mp h
  | some e => rw [seq_of_some _ _ e ha] at h; exact .inl h

theorem fst_seq_nil {α : Type} (a b : Out α) (ha : a.1 = []) (hb : b.1 = []) : (a.seq b).1 = [] := by
  cases h : a.2 with
  | none => rw [seq_of_none _ _ h, ha, hb]; rfl
  | some e => rw [seq_of_some _ _ e h]; exact ha

theorem seq_assoc {α : Type} (a b c : Out α) : (a.seq b).seq c = a.seq (b.seq c) := by
  obtain ⟨a1, a2⟩ := a
  obtain ⟨b1, b2⟩ := b
  obtain ⟨c1, c2⟩ := c
  cases a2 <;> cases b2 <;> simp [Out.seq]

theorem seq_emit_nil {α : Type} (a : Out α) : a.seq (emit []) = a := by
  cases ha : a.2 with
  | some e => rw [seq_of_some a _ e ha]
  | none =>
    rw [seq_of_none a _ ha]
    simp only [emit_fst, List.append_nil, emit_snd]
    rw [← ha]

theorem mapRows_seq {α β : Type} (f : α → β) (a b : Out α) : (a.seq b).mapRows f = (a.mapRows f).seq (b.mapRows f) := by
  obtain ⟨a1, a2⟩ := a
  obtain ⟨b1, b2⟩ := b
  cases a2 <;> simp [Out.seq, Out.mapRows]

theorem seq_ok_left {α : Type} (a b : Out α) (h : (a.seq b).2 = none) : a.2 = none := by
  cases ha : a.2 with
  | none => rfl
  | some e => rw [seq_of_some _ _ e ha, ha] at h; cases h

theorem seq_ok_right {α : Type} (a b : Out α) (h : (a.seq b).2 = none) : b.2 = none := by
  have ha := seq_ok_left a b h
  rw [seq_of_none _ _ ha] at h; exact h

theorem seq_ok_rows {α : Type} (a b : Out α) (h : (a.seq b).2 = none) : (a.seq b).1 = a.1 ++ b.1 := by
  rw [seq_of_none _ _ (seq_ok_left a b h)]

theorem seqAll_cons {α : Type} (o : Out α) (os : List (Out α)) : seqAll (o :: os) = o.seq (seqAll os) := rfl

theorem seqAll_append {α : Type} (xs ys : List (Out α)) : seqAll (xs ++ ys) = (seqAll xs).seq (seqAll ys) := by
  induction xs with
  | nil => exact (emit_seq [] _).symm
  | cons x xs ih => rw [List.cons_append, seqAll_cons, seqAll_cons, ih, seq_assoc]

theorem seqAll_singleton {α : Type} (o : Out α) : seqAll [o] = o := seq_emit_nil o

theorem mapRows_seqAll {α β : Type} (f : α → β) (os : List (Out α)) :
    (seqAll os).mapRows f = seqAll (os.map (·.mapRows f)) := by
  induction os with
  | nil => rfl
  | cons o os ih => rw [seqAll_cons, mapRows_seq, ih]; rfl

theorem seqAll_firstErr {α : Type} (os : List (Out α)) : (seqAll os).2 = firstErr os := by
  induction os with
  | nil => rfl
  | cons o os ih =>
    rw [seqAll_cons]
    unfold firstErr
    cases ho : o.2 with
    | none => rw [seq_of_none _ _ ho]; exact ih
    | some e => rw [seq_of_some _ _ e ho]; exact ho

theorem seqAll_err_mem {α : Type} (os : List (Out α)) (e : Err) (h : (seqAll os).2 = some e) :
    ∃ o ∈ os, o.2 = some e := by
  induction os with
  | nil => cases h
  | cons o os ih =>
    rw [seqAll_cons] at h
    cases ho : o.2 with
    | none =>
      rw [seq_of_none _ _ ho] at h
      obtain ⟨x, hx, hxe⟩ := ih h
      exact ⟨x, List.mem_cons_of_mem _ hx, hxe⟩
    | some e' =>
      rw [seq_of_some _ _ e' ho] at h
      exact ⟨o, List.mem_cons_self, h⟩

theorem seqAll_rows_mem {α : Type} (os : List (Out α)) (x : α) (h : x ∈ (seqAll os).1) :
    ∃ o ∈ os, x ∈ o.1 := by
  induction os with
  | nil => cases h
  | cons o os ih =>
    rcases seq_rows_mem _ _ _ h with h | h
    · exact ⟨o, List.mem_cons_self, h⟩
    · obtain ⟨y, hy, hxy⟩ := ih h
      exact ⟨y, List.mem_cons_of_mem _ hy, hxy⟩

theorem seqAll_ok_all {α : Type} (os : List (Out α)) (h : (seqAll os).2 = none) : ∀ o ∈ os, o.2 = none := by
  induction os with
  | nil => exact fun _ ho => nomatch ho
  | cons x xs ih =>
    rw [seqAll_cons] at h
    cases hx : x.2 with
    | some e => rw [seq_of_some _ _ e hx, hx] at h; cases h
    | none =>
      rw [seq_of_none _ _ hx] at h
      exact List.forall_mem_cons.mpr ⟨hx, ih h⟩

theorem seqAll_no_err {α : Type} (os : List (Out α)) (h : ∀ o ∈ os, o.2 = none) :
    seqAll os = (os.flatMap (·.1), none) := by
  induction os with
  | nil => rfl
  | cons o os ih =>
    rw [seqAll_cons, seq_of_none _ _ (h o List.mem_cons_self), ih (fun x hx => h x (List.mem_cons_of_mem _ hx))]
    rfl

theorem seqAll_ok_rows {α : Type} (os : List (Out α)) (h : (seqAll os).2 = none) :
    (seqAll os).1 = os.flatMap (·.1) := by
  rw [seqAll_no_err os (seqAll_ok_all os h)]

theorem seqAll_map_ok {α β : Type} {l : List β} {f : β → Out α} (h : (seqAll (l.map f)).2 = none) {x : β} (hx : x ∈ l) :
    (f x).2 = none ∧ ∀ r ∈ (f x).1, r ∈ (seqAll (l.map f)).1 :=
  ⟨seqAll_ok_all _ h _ (List.mem_map_of_mem hx), fun r hr => by
    rw [seqAll_ok_rows _ h]
    exact List.mem_flatMap.mpr ⟨_, List.mem_map_of_mem hx, hr⟩⟩

theorem ofExcept_single_ok {α : Type} (x : Except Err α) (h : (ofExcept (x.map ([·]))).2 = none) :
    ∃ l, x = .ok l ∧ l ∈ (ofExcept (x.map ([·]))).1 := by
  cases x with
  | error e => simp [ofExcept, Except.map] at h
  | ok y => exact ⟨y, rfl, by simp [ofExcept, Except.map]⟩

def AllRows {α : Type} (P : α → Prop) (o : Out α) : Prop := ∀ r ∈ o.1, P r

namespace AllRows
-- Trap: from each of these theorems on, its name (`fail`, `emit`, `seq`, …) is the lemma and the model function is
-- `Annet.Rpl.…`; likewise in `Part` and `Gen`.
variable {α : Type} {P : α → Prop}

theorem fail {e : Err} : AllRows P (fail e) := fun _ h => nomatch h

theorem emit_nil : AllRows P (emit []) := fun _ h => nomatch h

theorem emit {l : List α} (h : ∀ r ∈ l, P r) : AllRows P (emit l) := h

theorem emit_one {r : α} (h : P r) : AllRows P (Annet.Rpl.emit [r]) :=
  fun _ hx => List.mem_singleton.mp hx ▸ h

theorem emit_map {β : Type} {f : β → α} {l : List β} (h : ∀ x ∈ l, P (f x)) : AllRows P (Annet.Rpl.emit (l.map f)) :=
  List.forall_mem_map.mpr h


theorem seq {a b : Out α} (ha : AllRows P a) (hb : AllRows P b) : AllRows P (a.seq b) :=
  fun r h => (seq_rows_mem a b r h).elim (ha r) (hb r)

theorem seqAll {os : List (Out α)} (h : ∀ o ∈ os, AllRows P o) : AllRows P (seqAll os) := by
  intro r hr
  obtain ⟨o, ho, hro⟩ := seqAll_rows_mem _ _ hr
  exact h o ho r hro

theorem seqAll_map {β : Type} {f : β → Out α} {l : List β} (h : ∀ x ∈ l, AllRows P (f x)) :
    AllRows P (Annet.Rpl.seqAll (l.map f)) := by
  refine .seqAll fun o ho => ?_
  obtain ⟨x, hx, rfl⟩ := List.mem_map.mp ho
  exact h x hx

theorem ofExcept_one {x : Except Err α} (h : ∀ r, x = .ok r → P r) : AllRows P (ofExcept (x.map ([·]))) := by
  cases x with
  | error e => exact .fail
  | ok r => exact .emit_one (h r rfl)

theorem ite {c : Prop} [Decidable c] {a b : Out α} (ha : AllRows P a) (hb : AllRows P b) :
    AllRows P (if c then a else b) := by
  split
  · exact ha
  · exact hb

theorem mapRows {β : Type} {f : β → α} {o : Out β} (h : AllRows (fun r => P (f r)) o) : AllRows P (o.mapRows f) := by
  intro r hr
  obtain ⟨x, hx, rfl⟩ := List.mem_map.mp hr
  exact h x hx

theorem mono {Q : α → Prop} {o : Out α} (h : AllRows P o) (hpq : ∀ r, P r → Q r) : AllRows Q o :=
  fun r hr => hpq r (h r hr)

end AllRows

theorem completedRows_map {α β : Type} (f : α → β) (os : List (Out α)) :
    completedRows (os.map (·.mapRows f)) = (completedRows os).map f := by
  induction os with
  | nil => rfl
  | cons o os ih =>
    simp only [List.map_cons, completedRows]
    have hm : (o.mapRows f).2 = o.2 := rfl
    have hm1 : (o.mapRows f).1 = o.1.map f := rfl
    rw [hm]
    cases ho : o.2 with
    | none => simp only [hm1, ih, List.map_append]
    | some e => rfl

theorem firstErr_map {α β : Type} (f : α → β) (os : List (Out α)) :
    firstErr (os.map (·.mapRows f)) = firstErr os := by
  rw [← seqAll_firstErr, ← mapRows_seqAll, ← seqAll_firstErr]; rfl

theorem ebl_mapRows {α β : Type} (f : α → β) (o : Out α) (h : ErrorBeforeLines o) : ErrorBeforeLines (o.mapRows f) := by
  intro e he
  show o.1.map f = []
  rw [h e he]; rfl

theorem seqAll_completed {α : Type} (os : List (Out α)) (h : ∀ o ∈ os, ErrorBeforeLines o) :
    (seqAll os).1 = completedRows os := by
  induction os with
  | nil => rfl
  | cons o os ih =>
    rw [seqAll_cons]
    unfold completedRows
    cases ho : o.2 with
    | none =>
      rw [seq_of_none _ _ ho, ih (fun x hx => h x (List.mem_cons_of_mem _ hx))]
    | some e =>
      rw [seq_of_some _ _ e ho]
      exact h o List.mem_cons_self e ho

theorem seqAll_clean {α : Type} (os : List (Out α)) (h : ∀ o ∈ os, ErrorBeforeLines o) :
    seqAll os = (completedRows os, firstErr os) := by
  rw [← seqAll_completed os h, ← seqAll_firstErr os]

/-! Every generator of `Model/Rpl.lean` is a term built from `emit`, `fail`, `raiseIf`, `if`, `match`, `Out.seq`,
`seqAll (l.map f)`, `allOrNothing`.  `AllRows`, `Part` and `Gen` each have one lemma per such constructor, under the same
names, so a statement about a generator is proved by reading its definition once (`unfold g; exact .ite .fail (.seq …)`); the
expected type picks the namespace.

In `a.seq b` an error of `b` comes behind the rows of `a`: `b` is in later position and each of its raises has to be
justified by `L` (`Part`, `.fail h`); `a` is in first position and may raise for free as long as it has yielded nothing
(`Gen`, `.fail`).  Hence no `Gen.seqAll_map`: the second element is already in later position.  "Error before any line"
under a hypothesis is `Gen P L o` with `¬ L`. -/

/-- every row satisfies `P`, and the stream raises after a row only if `L` -/
structure Gen {α : Type} (P : α → Prop) (L : Prop) (o : Out α) : Prop where
  rows : AllRows P o
  late : ∀ e, o.2 = some e → o.1 = [] ∨ L

structure Part {α : Type} (P : α → Prop) (L : Prop) (o : Out α) : Prop where
  rows : AllRows P o
  err : ∀ e, o.2 = some e → L

namespace Part
variable {α : Type} {P : α → Prop} {L : Prop}

theorem fail (hl : L) {e : Err} : Part P L (fail e) := ⟨.fail, fun _ _ => hl⟩

theorem emit {l : List α} (h : ∀ r ∈ l, P r) : Part P L (emit l) := ⟨.emit h, fun _ h => nomatch h⟩

theorem emit_nil : Part P L (Annet.Rpl.emit []) := .emit nofun

theorem emit_one {r : α} (h : P r) : Part P L (Annet.Rpl.emit [r]) := .emit (List.forall_mem_singleton.mpr h)

theorem emit_map {β : Type} {f : β → α} {l : List β} (h : ∀ x ∈ l, P (f x)) : Part P L (Annet.Rpl.emit (l.map f)) :=
  .emit (List.forall_mem_map.mpr h)

theorem ite {c : Prop} [Decidable c] {a b : Out α} (ha : Part P L a) (hb : Part P L b) :
    Part P L (if c then a else b) := by
  split
  · exact ha
  · exact hb

theorem seq {a b : Out α} (ha : Part P L a) (hb : Part P L b) : Part P L (a.seq b) := by
  refine ⟨.seq ha.rows hb.rows, fun e he => ?_⟩
  cases h : a.2 with
  | none => rw [seq_of_none _ _ h] at he; exact hb.err e he
  | some e' => rw [seq_of_some _ _ e' h] at he; exact ha.err e he

theorem seqAll_map {β : Type} {f : β → Out α} {l : List β} (h : ∀ x ∈ l, Part P L (f x)) :
    Part P L (Annet.Rpl.seqAll (l.map f)) := by
  refine ⟨.seqAll_map fun x hx => (h x hx).rows, fun e he => ?_⟩
  obtain ⟨o, ho, hoe⟩ := seqAll_err_mem _ e he
  obtain ⟨x, hx, rfl⟩ := List.mem_map.mp ho
  exact (h x hx).err e hoe

end Part

namespace Gen
variable {α : Type} {P : α → Prop} {L : Prop}

theorem fail {e : Err} : Gen P L (fail e) := ⟨.fail, fun _ _ => .inl rfl⟩

theorem ofPart {o : Out α} (h : Part P L o) : Gen P L o := ⟨h.rows, fun e he => .inr (h.err e he)⟩

theorem emit {l : List α} (h : ∀ r ∈ l, P r) : Gen P L (emit l) := ofPart (.emit h)

theorem emit_nil : Gen P L (Annet.Rpl.emit []) := ofPart .emit_nil

theorem emit_one {r : α} (h : P r) : Gen P L (Annet.Rpl.emit [r]) := ofPart (.emit_one h)

theorem ite {c : Prop} [Decidable c] {a b : Out α} (ha : Gen P L a) (hb : Gen P L b) : Gen P L (if c then a else b) := by
  split
  · exact ha
  · exact hb

theorem seq {a b : Out α} (ha : Gen P L a) (hb : Part P L b) : Gen P L (a.seq b) := by
  refine ⟨.seq ha.rows hb.rows, fun e he => ?_⟩
  cases h : a.2 with
  | none => rw [seq_of_none _ _ h] at he; exact .inr (hb.err e he)
  | some e' => rw [seq_of_some _ _ e' h] at he ⊢; exact ha.late e he

theorem rowless {o : Out α} (h : o.1 = []) : Gen P L o := ⟨fun _ hr => (by rw [h] at hr; cases hr), fun _ _ => .inl h⟩

/-- a check (`if …: raise …`) in front yields nothing -/
theorem after {a b : Out α} (ha : a.1 = []) (hb : Gen P L b) : Gen P L (a.seq b) := by
  cases h : a.2 with
  | none => rw [seq_of_none _ _ h, ha]; exact hb
  | some e => rw [seq_of_some _ _ e h]; exact .rowless ha

theorem after_check {c : Bool} {e0 : Err} {b : Out α} (hb : Gen P L b) : Gen P L ((raiseIf c e0).seq b) :=
  .after (raiseIf_fst c e0) hb

theorem allOrNothing {o : Out α} (h : AllRows P o) : Gen P L (allOrNothing o) := by
  unfold Annet.Rpl.allOrNothing
  split
  · exact .fail
  next hn => exact ⟨h, fun e he => by rw [hn] at he; cases he⟩

theorem mono {Q : α → Prop} {L' : Prop} {o : Out α} (h : Gen P L o) (hp : ∀ r, P r → Q r) (hl : L → L') : Gen Q L' o :=
  ⟨h.rows.mono hp, fun e he => (h.late e he).imp_right hl⟩

theorem imp {L' : Prop} {o : Out α} (h : Gen P L o) (hl : L → L') : Gen P L' o := h.mono (fun _ hr => hr) hl

theorem weaken {o : Out α} (h : Gen P False o) : Gen P L o := h.imp False.elim

theorem ebl {o : Out α} (h : Gen P L o) (hl : ¬ L) : ErrorBeforeLines o :=
  fun e he => (h.late e he).resolve_right hl

end Gen

/-- the row has a text: `" ".join(items)` is not empty -/
def RowNE (row : List Str) : Prop := joinSp row ≠ []

theorem rowNE_cons2 (a b : Str) (l : List Str) : RowNE (a :: b :: l) := by
  simp [RowNE, joinSp]

theorem rowNE_cons_snoc (a : Str) (ms : List Str) (b : Str) : RowNE (a :: (ms ++ [b])) := by
  cases ms with
  | nil => exact rowNE_cons2 a b []
  | cons m ms => exact rowNE_cons2 a m _

theorem rowNE_of_head {w : Str} (h : w ≠ []) (l : List Str) : RowNE (w :: l) := by
  cases l with
  | nil => exact h
  | cons b l => exact rowNE_cons2 w b l

end Annet.Rpl.Lemmas
