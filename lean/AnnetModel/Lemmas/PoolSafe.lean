/-
Worker pool (C12): what follows from `Inv` - no abort / no drop under the hypotheses (`Safe`), the loop-exit lemma
`break_exact`, the exactly-once theorem for any exit rule `exact_of_break` with the two window invariants (`win_reach`,
`Drained`) through which the rules meet its hypothesis, and closed schedules as reachability proofs.
-/
import AnnetModel.Lemmas.PoolInv

namespace Annet.Pool

theorem Inv.mem_sub {c : Cfg} {s : State} (h : Inv c s) {r : Res}
    (hr : r ∈ s.delivered ++ inflight c s ++ s.dropped) : ∃ id ∈ c.ids, r = c.res id := by
  obtain ⟨id, hid, rfl⟩ := List.mem_map.mp (h.cons.mem_iff.mpr hr)
  exact ⟨id, hid, rfl⟩

structure Safe (c : Cfg) (s : State) : Prop where
  noAbort : Tolerant c → s.pc.isAborted = false
  noDrop : Sendable c → s.dropped = []

theorem WMove.lost {c : Cfg} {i : Nat} {e : Ev} {t : Option Task} {w w' : Worker} {out dr : List Res}
    (h : WMove c i e t w w' out dr) : dr = [] ∨ ∃ r ∈ w.buf, r.out.sendable = false := by
  cases h with
  | flushDrop st r b hr | feederDie st r b hr => exact .inr ⟨r, List.mem_cons_self, hr⟩
  | _ => exact .inl rfl

theorem safe_step {c : Cfg} {s s' : State} {e : Ev} (hi : Inv c s) (h : Safe c s)
    (hs : Step c s e s') : Safe c s' := by
  cases hs with
  | worker hs =>
    refine ⟨fun htol => (wstep_frame hs).1 ▸ h.noAbort htol, fun hsend => ?_⟩
    have hnd := h.noDrop hsend
    obtain @⟨i, w, w', out, dr, t, q, hab, hw, hq, hm⟩ := hs
    rcases hm.lost with rfl | ⟨r, hr, hns⟩
    · simpa using hnd
    · -- what a feeder loses cannot be pickled, and it belongs to a submitted id
      obtain ⟨id, hid, rfl⟩ := hi.mem_sub (r := r) (by
        simp only [inflight, List.mem_append, List.mem_flatMap, Worker.flight]
        exact .inl (.inr (.inl (.inr ⟨w, List.mem_of_getElem? hw, .inl hr⟩))))
      rw [show (c.res id).out = c.out id from rfl, hsend id hid] at hns
      cases hns
  | parent hs =>
    constructor
    · intro htol
      cases hs with
      | abort r ret hpc htf hexc =>
        obtain ⟨id, hid, rfl⟩ := hi.mem_sub (r := r) (by simp [inflight, hpc, PC.gotL])
        rcases htol with ht | ht
        · rw [ht] at htf; cases htf
        · rw [show (c.res id).out = c.out id from rfl, ht id hid] at hexc; cases hexc
      | _ => rfl
    · intro hsend
      have hnd := h.noDrop hsend
      cases hs <;> exact hnd

theorem safe_reach {c : Cfg} {ok : State → Ev → Prop} {s : State} (h : ReachP c ok s) : Safe c s := by
  induction h with
  | init => exact ⟨fun _ => rfl, fun _ => rfl⟩
  | step e hr _ hs ih => exact safe_step (inv_reach hr) ih (step_sound hs)

/-- The loop-exit lemma: leaving the loop because every id was counted, or because the pool is
empty, the last `get` timed out and the pipe is (still) empty, leaves nothing behind. -/
theorem break_exact {c : Cfg} {s : State} {got : Option Res} {ret : List Nat} (h : Inv c s)
    (hpc : s.pc = .post got ret) (hdrop : s.dropped = []) (hpar : 0 < c.parallel)
    (hcase : s.tasksDone + got.toList.length ≥ c.ids.length ∨ (got = none ∧ s.pool = [] ∧ s.doneQ = [])) :
    (s.delivered ++ got.toList).Perm c.submitted := by
  have hcons := h.cons
  have hgot : s.pc.gotL = got.toList := by rw [hpc]; cases got <;> rfl
  simp only [inflight, hgot, hdrop, List.append_nil] at hcons
  have hlen := hcons.length_eq
  simp only [Cfg.submitted, List.length_append, List.length_map] at hlen
  -- in both cases nothing is left in the pipe, with a worker, or queued
  obtain ⟨h1, h2, h3⟩ : s.doneQ = [] ∧ s.ws.flatMap (Worker.flight c) = [] ∧ taskIds s.taskQ = [] := by
    rcases hcase with hA | ⟨hg, hpool, hq⟩
    · have hcount := h.count
      exact ⟨List.eq_nil_of_length_eq_zero (by omega), List.eq_nil_of_length_eq_zero (by omega),
        List.eq_nil_of_length_eq_zero (by omega)⟩
    · have hall : ∀ w ∈ s.ws, w.st = .exited .zero := by
        intro w hw
        obtain ⟨i, hi⟩ := List.mem_iff_getElem?.mp hw
        exact h.reaped i w hi (by simp [hpool])
      refine ⟨hq, List.flatMap_eq_nil_iff.mpr fun w hw => ?_, ?_⟩
      · simp [Worker.flight, h.exitedBuf w hw (by simp [hall w hw]), hall w hw]
      · by_cases hz : 0 < s.ws.length
        · -- no slot is live, so no STOP is queued, and ids come before STOPs
          refine h.idsFirst ?_
          rwa [h.stopsLive, List.countP_eq_zero.mpr fun w hw => by simp [hall w hw]]
        · -- no slot at all: nothing was submitted
          have hsz := h.size
          simp only [Cfg.poolSize] at hsz
          exact List.eq_nil_of_length_eq_zero (by split at hsz <;> omega)
  rw [h1, h2, h3] at hcons
  simpa using hcons.symm

theorem no_wstep_of_all_exited {c : Cfg} {s s' : State} {e : Ev} (hi : Inv c s)
    (hall : ∀ w ∈ s.ws, w.st = .exited .zero) (hs : WStep c s e s') : False := by
  obtain @⟨i, w, w', out, dr, t, q, hab, hw, hq, hm⟩ := hs
  have hm' := List.mem_of_getElem? hw
  have := (hm.not_exited (hi.exitedBuf w hm')).1
  rw [hall w hm'] at this
  cases this

/-- The parent enters the window behind a timed-out `get` with the pipe empty, and while it is
inside it does not touch the pipe. -/
theorem window_parent {c : Cfg} {s s' : State} (hs : PStep c s s') (ha : s'.pc.afterTimeout = true) :
    s'.doneQ = [] ∨ (s.pc.afterTimeout = true ∧ s'.doneQ = s.doneQ) := by
  cases hs with
  | getNone hpc hq => exact .inl hq
  | readNine got _ _ _ _ hpc | readZero got _ _ _ _ hpc | readNone got _ _ _ hpc | scanned got _ hpc =>
    exact .inr ⟨by rw [hpc]; cases got <;> exact ha, rfl⟩
  | _ => cases ha

theorem done_parent {c : Cfg} {s s' : State} (hs : PStep c s s') (hd : s'.pc = .done) :
    ∃ got ret, s.pc = .post got ret ∧ s'.delivered = s.delivered ++ got.toList ∧
      breakNow c s.pool.isEmpty got.isNone (s.tasksDone + got.toList.length) s.drained = true := by
  cases hs with
  | leave got ret hpc _ hb => exact ⟨got, ret, hpc, rfl, hb⟩
  | _ => cases hd

theorem terminal_done {c : Cfg} {s : State} (hsafe : Safe c s) (htol : Tolerant c) (ht : s.terminal = true) :
    s.pc = .done := by
  simp only [State.terminal, hsafe.noAbort htol, Bool.or_false, beq_iff_eq] at ht
  exact ht

/-- A loop-exit rule is exact - under any schedule restriction `ok` - as soon as, at every reachable state, its test
passes only in the two situations of `break_exact`: every id has been counted, or the pool is empty, the last `get`
timed out and the pipe is still empty.  The rules differ only in why the pipe is still empty. -/
theorem exact_of_break {c : Cfg} {ok : State → Ev → Prop} (hpar : 0 < c.parallel) (htol : Tolerant c) (hsend : Sendable c)
    (hB : ∀ s got ret, ReachP c ok s → s.pc = .post got ret →
      breakNow c s.pool.isEmpty got.isNone (s.tasksDone + got.toList.length) s.drained = true →
      s.tasksDone + got.toList.length ≥ c.ids.length ∨ (got = none ∧ s.pool = [] ∧ s.doneQ = []))
    {s : State} (hr : ReachP c ok s) (ht : s.terminal = true) : s.delivered.Perm c.submitted := by
  have hd := terminal_done (safe_reach hr) htol ht
  clear ht
  induction hr with
  | init => cases hd
  | step e hr' _ hs ih =>
    cases step_sound hs with
    | parent hS =>
      -- the step that leaves the loop is a passed test, and `break_exact` applies to the state before it
      obtain ⟨got, ret, hpc, hdel, hb⟩ := done_parent hS hd
      rw [hdel]
      exact break_exact (inv_reach hr') hpc ((safe_reach hr').noDrop hsend) hpar (hB _ got ret hr' hpc hb)
    | worker hS =>
      obtain ⟨h1, h2, _⟩ := wstep_frame hS
      rw [h2]; exact ih (h1 ▸ hd)

theorem win_step {c : Cfg} {s s' : State} {e : Ev} (hs : Step c s e s') (hok : NoFlushInWindow s e)
    (h : s.pc.afterTimeout = true → s.doneQ = []) (ha : s'.pc.afterTimeout = true) : s'.doneQ = [] := by
  cases hs with
  | parent hs =>
    rcases window_parent hs ha with h0 | ⟨h1, h2⟩
    · exact h0
    · rw [h2]; exact h h1
  | worker hs =>
    obtain ⟨h1, _, _, _, _, h6⟩ := wstep_frame hs
    rw [h1] at ha
    rw [h6 fun w hw => by have := hok w hw; rw [this] at ha; cases ha]
    exact h ha

theorem win_reach {c : Cfg} {s : State} (hr : ReachNoRace c s) (ha : s.pc.afterTimeout = true) : s.doneQ = [] := by
  induction hr with
  | init => rfl
  | step e _ hok hs ih => exact win_step (step_sound hs) hok ih ha

/-- Once the pool was found empty every worker has exited (whatever the rule), so no worker event exists any more
and the window of `win_step` is closed under every schedule. -/
structure Drained (s : State) : Prop where
  allEx : s.drained = true → ∀ w ∈ s.ws, w.st = .exited .zero
  win : s.drained = true → s.pc.afterTimeout = true → s.doneQ = []

theorem drained_step {c : Cfg} {s s' : State} {e : Ev} (hi : Inv c s) (h : Drained s) (hs : Step c s e s') :
    Drained s' := by
  -- a step that cannot be taken once the flag is set leaves it unset
  have hunset : s.drained ≠ true → s'.drained = s.drained → Drained s' := fun hnd hd' =>
    ⟨fun hd => absurd (hd' ▸ hd) hnd, fun hd => absurd (hd' ▸ hd) hnd⟩
  cases hs with
  | worker hs =>
    exact hunset (fun hd => no_wstep_of_all_exited hi (h.allEx hd) hs) (wstep_frame hs).2.2.1
  | parent hs =>
    have hwin := window_parent hs
    cases hs with
    | restart i todo hpc =>
      -- a slot waiting to be restarted has exit code 9
      exact hunset (fun hd => nomatch h.allEx hd _ (List.mem_of_getElem? (hi.retired i (by rw [hpc]; exact List.mem_cons_self)))) rfl
    | again got ret hpc =>
      -- the flag is set on finding the pool empty: every slot has been reaped
      refine ⟨fun hd w hw => ?_, fun _ ha => nomatch ha⟩
      rcases (Bool.or_eq_true _ _).mp hd with hd | hp
      · exact h.allEx hd w hw
      · obtain ⟨i, hiw⟩ := List.mem_iff_getElem?.mp hw
        exact hi.reaped i w hiw (by rw [List.isEmpty_iff.mp hp]; exact List.not_mem_nil)
    | _ => exact ⟨h.allEx, fun hd ha => (hwin ha).elim id fun hw => hw.2 ▸ h.win hd hw.1⟩

theorem drained_reach {c : Cfg} {ok : State → Ev → Prop} {s : State} (hr : ReachP c ok s) : Drained s := by
  induction hr with
  | init => exact ⟨nofun, nofun⟩
  | step e hr' _ hs ih => exact drained_step (inv_reach hr') ih (step_sound hs)

theorem reach_run {c : Cfg} {s s' : State} {es : List Ev} (h : Reach c s)
    (hr : runSched c s es = some s') : Reach c s' := by
  induction es generalizing s with
  | nil => cases hr; exact h
  | cons e es ih =>
    rw [runSched] at hr
    split at hr
    · exact ih (.step e h trivial ‹_›) hr
    · cases hr

/-- The hypothesis is a closed Boolean equation so that `decide +kernel` proves it. -/
theorem not_exactlyOnce_of_sched {c : Cfg} (es : List Ev) {n : Nat}
    (h : ((runSched c (init c) es).map fun s => (s.terminal, s.delivered.length)) = some (true, n))
    (hn : n ≠ c.ids.length) : ¬ ExactlyOnce c := by
  intro hE
  cases hs : runSched c (init c) es with
  | none => rw [hs] at h; cases h
  | some s =>
    rw [hs] at h
    obtain ⟨ht, hl⟩ := Prod.mk.inj (Option.some.inj h)
    have := (hE s (reach_run .init hs) ht).length_eq
    rw [hl, Cfg.submitted, List.length_map] at this
    exact hn this

/-- Boolean form of `NoFlushInWindow` (`okNR_sound`). -/
def okNR (s : State) : Ev → Bool
  | .flush _ => !s.pc.afterTimeout
  | _ => true

/-- `runSched` that also refuses a flush inside the window (`reachNR_run`). -/
def runSchedNR (c : Cfg) (s : State) : List Ev → Option State
  | [] => some s
  | e :: es =>
    if okNR s e then
      match step c s e with
      | some s' => runSchedNR c s' es
      | none => none
    else none

theorem okNR_sound {s : State} {e : Ev} (h : okNR s e = true) : NoFlushInWindow s e := by
  intro w hw
  subst hw
  simpa [okNR] using h

theorem reachNR_run {c : Cfg} {s s' : State} {es : List Ev} (h : ReachNoRace c s)
    (hr : runSchedNR c s es = some s') : ReachNoRace c s' := by
  induction es generalizing s with
  | nil => cases hr; exact h
  | cons e es ih =>
    rw [runSchedNR] at hr
    split at hr
    · split at hr
      · exact ih (.step e h (okNR_sound ‹_›) ‹_›) hr
      · cases hr
    · cases hr

end Annet.Pool
