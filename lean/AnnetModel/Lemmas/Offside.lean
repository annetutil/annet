/-
The offside parser's machine, step by step: what one text line does to the state of `_stripped_indents` in each of its
three branches (`stepText_push/_same/_pop`, `stepText_lt`; `popLoop_all` for the pop loop) and to the stack of `_stacked` (`restack_eq`), and one step of
the pipeline (`runItems_text_*`).  C04 and C10 run the machine itself on renderings / layouts with these equations.  Also
what `strip` leaves of a line (`strip_prefix`, `strip_head`, `strip_last`) and what `strip` and `parseIndent` see of a line
behind blanks and tabs (`strip_append_ws`, `parseIndent_append_ws`, `parseIndent_nonspace`).  That the machine computes the declarative
rule is `Lemmas/OffsideRule`.
-/
import AnnetModel.Model.Offside

namespace Annet.Offside.Lemmas
open Annet.Offside

theorem dropWhile_head_false {α : Type} (p : α → Bool) (l : List α) (c : α) (t : List α)
    (h : l.dropWhile p = c :: t) : p c = false := by
  have := List.head?_dropWhile_not p l
  rw [h] at this
  exact this

theorem strip_prefix (cs : List Char) : strip cs <+: lstrip cs := by
  have := List.reverse_prefix.2 (List.dropWhile_suffix pyIsSpace (l := (lstrip cs).reverse))
  rwa [List.reverse_reverse] at this

theorem strip_subset (cs : List Char) : ∀ c ∈ strip cs, c ∈ cs := fun _ hc =>
  (List.dropWhile_suffix _).subset ((strip_prefix cs).subset hc)

theorem strip_head (l : List Char) (c : Char) (h : (strip l).head? = some c) : pyIsSpace c = false := by
  obtain ⟨t, ht⟩ := strip_prefix l
  have := List.head?_dropWhile_not pyIsSpace l
  rw [show l.dropWhile pyIsSpace = lstrip l from rfl, ← ht, List.head?_append, h] at this
  simpa using this

theorem strip_last (cs : List Char) : (strip cs).getLast?.any pyIsSpace = false := by
  unfold strip
  rw [List.getLast?_reverse]
  generalize hl : lstrip (lstrip cs).reverse = l
  cases l with
  | nil => simp
  | cons c t =>
    unfold lstrip at hl
    have := dropWhile_head_false pyIsSpace _ c t hl
    simp [this]

theorem lstrip_append_ws (w r : List Char) (h : w.all (fun c => c == ' ' || c == '\t') = true) :
    lstrip (w ++ r) = lstrip r :=
  List.dropWhile_append_of_pos fun c hc => by
    have := List.all_eq_true.1 h c hc
    simp only [Bool.or_eq_true, beq_iff_eq] at this
    rcases this with rfl | rfl <;> decide

theorem strip_append_ws (w r : List Char) (h : w.all (fun c => c == ' ' || c == '\t') = true) :
    strip (w ++ r) = strip r := by
  rw [strip, lstrip_append_ws w r h, strip]

theorem parseIndent_append_ws (w r : List Char) (h : w.all (fun c => c == ' ' || c == '\t') = true) :
    parseIndent (w ++ r) = w.length + parseIndent r := by
  induction w with
  | nil => simp
  | cons c cs ih =>
    simp only [List.all_cons, Bool.and_eq_true] at h
    simp only [List.cons_append, parseIndent, Bool.or_comm _ _ ▸ h.1, if_true, List.length_cons, ih h.2]
    omega

theorem parseIndent_nonspace (r : List Char) (h : ∀ c, r.head? = some c → pyIsSpace c = false) : parseIndent r = 0 := by
  cases r with
  | nil => rfl
  | cons c cs =>
    rw [parseIndent, if_neg]
    intro hb
    simp only [Bool.or_eq_true, beq_iff_eq] at hb
    rcases hb with rfl | rfl <;> exact absurd (h _ rfl) (by decide)

theorem runItems_text_none {k : Nat} {s : String} {rest : List Item} {st : St}
    {stack : List String} {n : Nat} (h : stepText st k = none) :
    runItems (.text k s :: rest) st stack n = .error n := by
  simp only [runItems, h]

theorem runItems_text_some {k : Nat} {s : String} {rest : List Item} {st st' : St}
    {depth : Nat} {stack : List String} {n : Nat} (h : stepText st k = some (st', depth)) :
    runItems (.text k s :: rest) st stack n
      = (runItems rest st' (restack stack depth s) (n + 1)).map (restack stack depth s :: ·) := by
  simp only [runItems, h]
  cases runItems rest st' (restack stack depth s) (n + 1) <;> rfl

theorem restack_eq (stack : List String) (depth : Nat) (s : String) :
    restack stack depth s = stack.take depth ++ [s] := by
  unfold restack
  simp only
  split
  · rw [List.take_of_length_le (by omega)]
  · split
    · rename_i h
      have : depth = stack.length - 1 := by simp at h; omega
      rw [List.dropLast_eq_take, this]
    · simp

/-- popping back to the column `B` removes exactly the widths pushed since -/
theorem popLoop_all (inds : List Nat) (B : Nat) : (extra : List Nat) → (∀ d ∈ extra, 0 < d) →
    popLoop (B : Int) (extra ++ inds) ((B + extra.sum : Nat) : Int) = (inds, (B : Int))
  | [], _ => by
    cases inds with
    | nil => rfl
    | cons d ds => rw [List.nil_append, popLoop, if_neg (by simp only [List.sum_nil]; omega)]; rfl
  | e :: es, h => by
    have he := h e List.mem_cons_self
    rw [List.cons_append, popLoop, if_pos (by simp only [List.sum_cons]; omega),
      show ((B + (e :: es).sum : Nat) : Int) - (e : Int) = ((B + es.sum : Nat) : Int) by simp only [List.sum_cons]; omega]
    exact popLoop_all inds B es fun x hx => h x (List.mem_cons_of_mem _ hx)

theorem stepText_lt {inds : List Nat} {curr : Int} {g k : Nat} (h : k < g) :
    stepText ⟨inds, curr, some g⟩ k = none := by
  have : (k : Int) - (g : Int) < 0 := by omega
  simp [stepText, this]

theorem stepText_push {inds : List Nat} {curr : Int} {g k : Nat} (h1 : g ≤ k)
    (h2 : curr < (k : Int) - (g : Int)) :
    stepText ⟨inds, curr, some g⟩ k
      = some (⟨((k : Int) - (g : Int) - curr).toNat :: inds, (k : Int) - (g : Int), some g⟩,
          inds.length + 1) := by
  have h0 : ¬ (k : Int) - (g : Int) < 0 := by omega
  simp [stepText, h0, h2]

theorem stepText_same {inds : List Nat} {curr : Int} {g k : Nat} (h1 : g ≤ k)
    (h2 : curr = (k : Int) - (g : Int)) :
    stepText ⟨inds, curr, some g⟩ k = some (⟨inds, curr, some g⟩, inds.length) := by
  have h0 : ¬ (k : Int) - (g : Int) < 0 := by omega
  subst h2
  simp [stepText, h0]

theorem stepText_pop {inds : List Nat} {curr : Int} {g k : Nat} (h1 : g ≤ k)
    (h2 : (k : Int) - (g : Int) < curr) :
    stepText ⟨inds, curr, some g⟩ k
      = if (popLoop ((k : Int) - (g : Int)) inds curr).2 = (k : Int) - (g : Int) then
          some (⟨(popLoop ((k : Int) - (g : Int)) inds curr).1,
                 (popLoop ((k : Int) - (g : Int)) inds curr).2, some g⟩,
                (popLoop ((k : Int) - (g : Int)) inds curr).1.length)
        else none := by
  have h0 : ¬ (k : Int) - (g : Int) < 0 := by omega
  have h3 : ¬ (k : Int) - (g : Int) > curr := by omega
  simp only [stepText, Option.getD_some, h0, h3, h2, if_true, if_false]
  by_cases h : (popLoop ((k : Int) - (g : Int)) inds curr).2 = (k : Int) - (g : Int)
  · simp [h]
  · simp [h]

end Annet.Offside.Lemmas
