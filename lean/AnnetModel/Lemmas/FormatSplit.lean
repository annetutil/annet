/-
Round trip per formatter class from `split(join(t)) = render t` and `parse(render t) = t`; witnesses that the two
rules before the fixes (F04a Cisco, F04b RouterOS) did not round-trip.
-/
import AnnetModel.Lemmas.FormatSplitJuniper
import AnnetModel.Lemmas.FormatSplitRos

namespace Annet.FormatSplit.Lemmas
open Annet Annet.Offside Annet.FormatSplit

/-- every class but RouterOS: `split` gives back the reference rendering that `parse_render` reads -/
theorem split_join_WF (k : Kind) (hk : k ≠ .ros) (w : Nat) (hw : 0 < w) (t : Cfg) (h : WF k t = true) :
    wf (rowOk k) t = true ∧
      ∃ s, join ⟨k, blanks w⟩ t = some s ∧ split ⟨k, blanks w⟩ s = some (render w 0 t) := by
  cases k
  case ros => exact absurd rfl hk
  case juniper | ribbon => exact ⟨h, jun_split_join _ (junOk_fmtOf _) w t h⟩
  case nokia => exact ⟨(Bool.and_eq_true_iff.1 h).1, nokia_split_join w hw t h⟩
  all_goals exact ⟨h, _, rfl, split_join_indent _ (by decide) w t h⟩

theorem roundtrip_ros (w : Nat) (hw : 0 < w) (t : Cfg) (h : rosTop t = true) :
    RoundTrip ⟨.ros, blanks w⟩ t :=
  ⟨rosJoin (blanks w) t, rfl, by
    simp only [parse, split]
    rw [ros_join_text w t h, ros_split_text w hw t h]
    simp only [Option.map_some, ros_parse_lines w hw t h]⟩

theorem roundtrip_WF (k : Kind) (w : Nat) (hw : 0 < w) (t : Cfg) (h : WF k t = true) :
    RoundTrip ⟨k, blanks w⟩ t := by
  by_cases hk : k = .ros
  · subst hk; exact roundtrip_ros w hw t h
  · obtain ⟨hwf, s, hj, hs⟩ := split_join_WF k hk w hw t h
    exact ⟨s, hj, by simp only [parse, hs, Option.map_some, parse_render w hw _ (rowOk_base k) t hwf]⟩

/-- Cisco, Nexus-like and Asr ignore the keyword (always two blanks), see `mkFormatter` -/
theorem mkFormatter_blanks (k : Kind) (kw : Option Str)
    (hkw : kw = none ∨ ∃ w, 0 < w ∧ kw = some (blanks w)) :
    ∃ w, 0 < w ∧ mkFormatter k kw = ⟨k, blanks w⟩ := by
  have hd : ∀ d, 0 < d → ∃ w, 0 < w ∧ kw.getD (blanks d) = blanks w := by
    intro d hd
    rcases hkw with rfl | ⟨w, hw, rfl⟩
    · exact ⟨d, hd, rfl⟩
    · exact ⟨w, hw, rfl⟩
  obtain ⟨w2, h2, e2⟩ := hd 2 (by decide)
  obtain ⟨w4, h4, e4⟩ := hd 4 (by decide)
  cases k
  case cisco | nexusLike | asr => exact ⟨2, by decide, rfl⟩
  case juniper | ribbon | nokia => exact ⟨w4, h4, congrArg (Fmt.mk _) e4⟩
  all_goals exact ⟨w2, h2, congrArg (Fmt.mk _) e2⟩

theorem roundtrip_mkFormatter (k : Kind) (kw : Option Str)
    (hkw : kw = none ∨ ∃ w, 0 < w ∧ kw = some (blanks w)) (t : Cfg) (h : WF k t = true) :
    RoundTrip (mkFormatter k kw) t := by
  obtain ⟨w, hw, e⟩ := mkFormatter_blanks k kw hkw
  rw [e]
  exact roundtrip_WF k w hw t h

theorem fixpoint_of_roundtrip (f : Fmt) (t : Cfg) (h : RoundTrip f t) : FixPoint f t := by
  obtain ⟨s, hj, hp⟩ := h
  exact ⟨s, t, hj, hp, hj⟩

/-- F04a (before 13137d1): `address-family a` followed by a sibling -/
def ciscoWitness : Cfg := .mk [("address-family a", .mk []), ("c", .mk [])]

/-- the sibling comes back as a child -/
theorem ciscoWitness_old_parse :
    (parseToTree comments
        ((ciscoSplitOld (commonJoin (blanks 2) ciscoWitness)).map String.ofList)).toOption.map Cfg.paths
      = some [["address-family a"], ["address-family a", "c"]] := by decide +kernel

/-- F04b (before c926070): a section inside a section -/
def rosWitness : Cfg := .mk [("ip", .mk [("address", .mk [("r", .mk [])])])]

/-- the inner section comes back as a second top-level section -/
theorem rosWitness_old_parse :
    (rosSplit (blanks 2) (rosJoinOld (blanks 2) rosWitness)).map
        (fun ls => (parseToTree comments (ls.map String.ofList)).toOption.map Cfg.paths)
      = some (some [["ip"], ["address"], ["address", "r"]]) := by decide +kernel

end Annet.FormatSplit.Lemmas
