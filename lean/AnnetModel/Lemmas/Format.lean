/-
Lemmas for C09 (formatter side): over the tokens the generators yield, the path stack of `cmd_paths`
computes the block paths read off the tree (`flatTree`); the level counter of `_indent_blocks` follows the
path stack on any token list (`indentAux_eq_raw`); the dictionary of `cmd_paths` is the identity on lists
without repeated keys and a first-occurrence de-duplication otherwise; the block paths of a tree have no repeated key
when no level shows a word twice (`Keys`, `nodup_flatItems`).
-/
import AnnetModel.Spec.Format
import AnnetModel.Lemmas.Basic

namespace Annet.Format.Lemmas
open Annet.Format Annet.Format.Spec

theorem exitToks_wrapper (x : String) (last : Ctx) :
    exitToks (blockWrapper x) last = .bb :: ((exitToks [.s x] last) ++ [.be]) := by
  unfold exitToks blockWrapper
  simp only [List.filterMap_cons, List.filterMap_nil]
  split <;> rfl

theorem exitToks_bare (x : String) (last : Ctx) :
    exitToks [.s x] last = if x = "" then [] else [.row x last] := by
  by_cases hx : x = "" <;> simp [exitToks, List.filterMap, hx]

/-- The last component of the path stack is a scratch cell: every row overwrites it (`path.dropLast ++ [r]`), so which
word it holds after a segment does not matter; hence `∃ x'` here and in `run_blocksTree`/`run_blocksItems`. -/
theorem run_exitToks {ms : List Mark} (h : ExitOk ms) (last : Ctx) (pre : List String) (row : String) (more : List Tok) :
    ∃ x', rawPathsAux (exitToks ms last ++ more) (pre ++ [row]) =
      (rawPathsAux more (pre ++ [x'])).map (exitFlat ms pre row last ++ ·) := by
  rcases h with rfl | ⟨x, rfl⟩ | ⟨x, rfl⟩
  · exact ⟨row, (Except.map_id' _).symm⟩
  · refine ⟨row, ?_⟩
    rw [exitToks_wrapper, exitToks_bare]
    by_cases hx : x = ""
    · simp [exitFlat, wrappedWords, bareWords, blockWrapper, hx, rawPathsAux, Except.map_id']
    · simp [exitFlat, wrappedWords, bareWords, blockWrapper, hx, rawPathsAux]
  · rw [exitToks_bare]
    by_cases hx : x = ""
    · exact ⟨row, by simp [exitFlat, wrappedWords, bareWords, hx, Except.map_id']⟩
    · exact ⟨x, by simp [exitFlat, wrappedWords, bareWords, hx, rawPathsAux]⟩

mutual
  theorem run_blocksTree (ex : FCtx → List Mark) (hex : ∀ cx, ExitOk (ex cx)) :
      ∀ (t : PT) (parent : Option FCtx) (pre : List String) (x : String) (more : List Tok),
        ∃ x', rawPathsAux (blocksTree ex parent t ++ more) (pre ++ [x]) =
          (rawPathsAux more (pre ++ [x'])).map (flatTree ex parent pre t ++ ·)
    | .mk items, parent, pre, x, more => by
      rw [blocksTree, flatTree]
      exact run_blocksItems ex hex items parent none pre x more
  theorem run_blocksItems (ex : FCtx → List Mark) (hex : ∀ cx, ExitOk (ex cx)) :
      ∀ (items : List Item) (parent : Option FCtx) (prev : Option (String × Ctx)) (pre : List String) (x : String)
        (more : List Tok),
        ∃ x', rawPathsAux (blocksItems ex parent prev items ++ more) (pre ++ [x]) =
          (rawPathsAux more (pre ++ [x'])).map (flatItems ex parent prev pre items ++ ·)
    | [], parent, prev, pre, x, more => by
      rw [blocksItems, flatItems]
      exact ⟨x, by simp [Except.map_id']⟩
    | (row, none, rc) :: rest, parent, prev, pre, x, more => by
      rw [blocksItems, flatItems]
      obtain ⟨x', h⟩ := run_blocksItems ex hex rest parent (some (row, rc)) pre row more
      refine ⟨x', ?_⟩
      simp only [List.cons_append, rawPathsAux, List.dropLast_concat]
      rw [h, Except.map_map]
    | (row, some c, rc) :: rest, parent, prev, pre, x, more => by
      rw [blocksItems, flatItems]
      obtain ⟨x2, h2⟩ := run_exitToks (hex (ctxAt parent prev row rc rest))
        (lastCtx rc (blocksTree ex (some (ctxAt parent prev row rc rest)) c)) pre row
        (blocksItems ex parent (some (row, rc)) rest ++ more)
      obtain ⟨x3, h3⟩ := run_blocksItems ex hex rest parent (some (row, rc)) pre x2 more
      obtain ⟨x1, h1⟩ := run_blocksTree ex hex c (some (ctxAt parent prev row rc rest)) (pre ++ [row]) row
        (Tok.be :: (exitToks (ex (ctxAt parent prev row rc rest))
            (lastCtx rc (blocksTree ex (some (ctxAt parent prev row rc rest)) c)) ++
          (blocksItems ex parent (some (row, rc)) rest ++ more)))
      refine ⟨x3, ?_⟩
      have e : ∀ (inner ext rst : List Tok),
          (Tok.row row rc :: Tok.bb :: (inner ++ Tok.be :: (ext ++ rst))) ++ more =
            Tok.row row rc :: Tok.bb :: (inner ++ Tok.be :: (ext ++ (rst ++ more))) := by intros; simp
      rw [e]
      simp only [rawPathsAux, List.dropLast_concat, List.getLast?_concat]
      rw [h1]
      simp only [rawPathsAux, List.dropLast_concat]
      have hne : (pre ++ [row] ++ [x1]).isEmpty = false := by simp
      rw [hne]
      simp only [Bool.false_eq_true, if_false]
      rw [h2, h3, Except.map_map, Except.map_map, Except.map_map]
      simp only [List.append_assoc, List.cons_append]
end

theorem shownPaths_eq_flat (ex : FCtx → List Mark) (hex : ∀ cx, ExitOk (ex cx)) (pt : PT) :
    shownPaths ex pt = .ok (flatTree ex none [] pt) := by
  obtain ⟨items⟩ := pt
  unfold shownPaths
  cases items with
  | nil => simp [blocksTree, blocksItems, flatTree, flatItems, rawPathsAux]
  | cons it rest =>
    obtain ⟨x', h⟩ := run_blocksTree ex hex (.mk (it :: rest)) none [] "" []
    simp only [List.append_nil, List.nil_append] at h
    have e : rawPathsAux (blocksTree ex none (.mk (it :: rest))) [] =
        rawPathsAux (blocksTree ex none (.mk (it :: rest))) [""] := by
      obtain ⟨row, _ | c, rc⟩ := it <;> simp [blocksTree, blocksItems, rawPathsAux]
    rw [e, h]
    simp [rawPathsAux, Except.map]

/-- The level counter of `_indent_blocks` and the path stack of `cmd_paths` move in lock step over any token list on
which `cmd_paths` does not raise: the level is `len(path) - 1` throughout.  Neither the tree nor `ExitOk` matters. -/
theorem indentAux_eq_raw (ts : List Tok) (path : List String) (sp : List (List String × Ctx))
    (h : rawPathsAux ts path = .ok sp) : indentAux ts (path.length - 1) = sp.map fun e => depthLast e.1 := by
  fun_induction rawPathsAux ts path generalizing sp
  case case1 => cases h; rfl
  case case2 => cases h
  case case3 rest path t ht ih =>
    have hne : path ≠ [] := by rintro rfl; cases ht
    rw [indentAux, Nat.sub_add_cancel (List.length_pos_iff.2 hne), ← ih sp h, List.length_append, List.length_singleton,
      Nat.add_sub_cancel]
  case case4 => cases h
  case case5 rest path _ ih => rw [indentAux, ← ih sp h, List.length_dropLast]
  case case6 r c rest path path' ih =>
    obtain ⟨sp', hr, rfl⟩ := Except.map_eq_ok.1 h
    rw [indentAux, List.map_cons, ← ih sp' hr]
    simp [depthLast, path']

theorem cmdPathsAux_eq (ts : List Tok) (path : List String) (ret : List (List String × Ctx)) :
    cmdPathsAux ts path ret = (rawPathsAux ts path).map (fun l => l.foldl (fun d e => odictSet d e.1 e.2) ret) := by
  fun_induction rawPathsAux ts path generalizing ret
  case case6 r c rest path path' ih => rw [cmdPathsAux, ih]; cases rawPathsAux rest path' <;> rfl
  all_goals simp_all [cmdPathsAux, Except.map]

theorem odictSet_fresh {κ ν : Type} [BEq κ] [LawfulBEq κ] (d : List (κ × ν)) (k : κ) (v : ν)
    (h : k ∉ d.map (·.1)) : odictSet d k v = d ++ [(k, v)] :=
  Keyed.upsert_of_not_mem (key := Prod.fst) (f := fun e => (e.1, v)) h

theorem foldl_odictSet_nodup {κ ν : Type} [BEq κ] [LawfulBEq κ] (l : List (κ × ν)) :
    ∀ (d : List (κ × ν)), ((d ++ l).map (·.1)).Nodup →
      l.foldl (fun d e => odictSet d e.1 e.2) d = d ++ l := by
  induction l with
  | nil => intro d _; simp
  | cons e rest ih =>
    intro d hnd
    simp only [List.foldl_cons]
    have hfresh : e.1 ∉ d.map (·.1) := by
      intro hmem
      rw [List.map_append, List.map_cons] at hnd
      have := (List.nodup_append.mp hnd).2.2 _ hmem e.1 (List.mem_cons_self)
      exact this rfl
    rw [odictSet_fresh d e.1 e.2 hfresh]
    have : d ++ [(e.1, e.2)] ++ rest = d ++ e :: rest := by simp
    rw [ih (d ++ [(e.1, e.2)]) (by rw [this]; exact hnd), this]

theorem odictOfList_nodup {κ ν : Type} [BEq κ] [LawfulBEq κ] (l : List (κ × ν)) (h : (l.map (·.1)).Nodup) :
    odictOfList l = l := by
  unfold odictOfList
  simpa using foldl_odictSet_nodup l [] (by simpa using h)

theorem cmdPathsOf_eq (ex : FCtx → List Mark) (pt : PT) :
    cmdPathsOf ex pt = (shownPaths ex pt).map odictOfList := by
  unfold cmdPathsOf shownPaths odictOfList
  exact cmdPathsAux_eq _ _ _

theorem odictSet_keys {κ ν : Type} [BEq κ] [LawfulBEq κ] (d : List (κ × ν)) (k : κ) (v : ν) :
    (odictSet d k v).map (·.1) = if k ∈ d.map (·.1) then d.map (·.1) else d.map (·.1) ++ [k] :=
  Keyed.map_key_upsert (key := Prod.fst) (f := fun e => (e.1, v)) (fun _ h => h) rfl

theorem filter_notContains_of_mem {κ : Type} [BEq κ] [LawfulBEq κ] (K : List κ) (e : κ) (L : List κ) (h : K.contains e = true) :
    (L.filter (fun k => !(k == e))).filter (fun k => !K.contains k) = L.filter (fun k => !K.contains k) := by
  rw [List.filter_filter]
  refine List.filter_congr fun k _ => ?_
  by_cases hke : k = e
  · simp [hke, List.contains_iff_mem.1 h]
  · simp [hke]

theorem filter_notContains_snoc {κ : Type} [BEq κ] [LawfulBEq κ] (K : List κ) (e : κ) (L : List κ) :
    L.filter (fun k => !(K ++ [e]).contains k) = (L.filter (fun k => !(k == e))).filter (fun k => !K.contains k) := by
  rw [List.filter_filter]
  refine List.filter_congr fun k _ => ?_
  by_cases hke : k = e <;> simp [hke]

theorem foldl_odictSet_keys {κ ν : Type} [BEq κ] [LawfulBEq κ] (l : List (κ × ν)) :
    ∀ (d : List (κ × ν)),
      (l.foldl (fun d e => odictSet d e.1 e.2) d).map (·.1) =
        d.map (·.1) ++ (dedupKeys (l.map (·.1))).filter (fun k => !(d.map (·.1)).contains k) := by
  induction l with
  | nil => intro d; simp [dedupKeys]
  | cons e rest ih =>
    intro d
    simp only [List.foldl_cons, List.map_cons, dedupKeys]
    rw [ih, odictSet_keys]
    by_cases h : e.1 ∈ d.map (·.1)
    · have hc : (List.map (fun x => x.1) d).contains e.1 = true := List.contains_iff_mem.mpr h
      rw [if_pos h, List.filter_cons, hc]
      simp only [Bool.not_true, Bool.false_eq_true, if_false]
      rw [filter_notContains_of_mem _ _ _ hc]
    · have hc : (List.map (fun x => x.1) d).contains e.1 = false :=
        Bool.eq_false_iff.2 fun hh => h (List.contains_iff_mem.mp hh)
      rw [if_neg h, List.filter_cons, hc]
      simp only [Bool.not_false, if_true, List.append_assoc, List.singleton_append]
      rw [filter_notContains_snoc]

theorem odictOfList_keys {κ ν : Type} [BEq κ] [LawfulBEq κ] (l : List (κ × ν)) :
    (odictOfList l).map (·.1) = dedupKeys (l.map (·.1)) := by
  unfold odictOfList
  rw [foldl_odictSet_keys]
  simp

theorem exitOk_nil : ExitOk [] := Or.inl rfl

theorem exitOk_wrapper (x : String) : ExitOk (blockWrapper x) := Or.inr (Or.inl ⟨x, rfl⟩)

theorem exitOk_bare (x : String) : ExitOk [.s x] := Or.inr (Or.inr ⟨x, rfl⟩)

theorem exitOk_ite {c : Prop} [Decidable c] {a b : List Mark} (ha : ExitOk a) (hb : ExitOk b) :
    ExitOk (if c then a else b) := by
  split <;> assumption

theorem baseBlockExit_ok (f : Fmt) (cx : FCtx) : ExitOk (baseBlockExit f cx) := by
  unfold baseBlockExit
  split
  · exact exitOk_nil
  · exact exitOk_ite (exitOk_wrapper _) exitOk_nil

/-- `K` lists block paths below `pre`: each continues `pre` with a word of `W`, and no path stands twice unless a word of
`W` does.  Paths under different words differ, so this passes from the parts of a level to the level (`Keys.append`) and
from the paths below a block's row to the block (`Keys.block`). -/
def Keys (pre : List String) (W : List String) (K : List (List String)) : Prop :=
  (∀ k ∈ K, ∃ w tail, k = pre ++ w :: tail ∧ w ∈ W) ∧ (W.Nodup → K.Nodup)

theorem keys_map (pre : List String) (W : List String) : Keys pre W (W.map fun x => pre ++ [x]) :=
  ⟨fun _ hk => by obtain ⟨x, hx, rfl⟩ := List.mem_map.1 hk; exact ⟨x, [], rfl, hx⟩,
    fun h => h.map _ fun _ _ hab e => hab (List.cons.inj (List.append_cancel_left e)).1⟩

theorem Keys.append {pre W₁ W₂ K₁ K₂} (h₁ : Keys pre W₁ K₁) (h₂ : Keys pre W₂ K₂) : Keys pre (W₁ ++ W₂) (K₁ ++ K₂) := by
  refine ⟨fun k hk => ?_, fun hW => ?_⟩
  · rcases List.mem_append.1 hk with hk | hk
    · obtain ⟨w, tail, e, hw⟩ := h₁.1 k hk
      exact ⟨w, tail, e, List.mem_append_left _ hw⟩
    · obtain ⟨w, tail, e, hw⟩ := h₂.1 k hk
      exact ⟨w, tail, e, List.mem_append_right _ hw⟩
  · obtain ⟨n₁, n₂, hd⟩ := List.nodup_append.1 hW
    refine List.nodup_append.2 ⟨h₁.2 n₁, h₂.2 n₂, fun k hk k' hk' e => ?_⟩
    obtain ⟨a, _, rfl, ha⟩ := h₁.1 k hk
    obtain ⟨b, _, rfl, hb⟩ := h₂.1 k' hk'
    exact hd a ha b hb (List.cons.inj (List.append_cancel_left e)).1

theorem Keys.block {pre row W K} (hW : W.Nodup) (h : Keys (pre ++ [row]) W K) : Keys pre [row] ((pre ++ [row]) :: K) := by
  refine ⟨fun k hk => ?_, fun _ => List.nodup_cons.2 ⟨fun hk => ?_, h.2 hW⟩⟩
  · rcases List.mem_cons.1 hk with rfl | hk
    · exact ⟨row, [], rfl, List.mem_singleton_self _⟩
    · obtain ⟨w, tail, rfl, _⟩ := h.1 k hk
      exact ⟨row, w :: tail, by simp, List.mem_singleton_self _⟩
  · obtain ⟨w, tail, e, _⟩ := h.1 _ hk
    exact List.cons_ne_nil w tail (List.self_eq_append_right.1 e)

mutual
  theorem keys_flatTree (ex : FCtx → List Mark) :
      ∀ (t : PT) (parent : Option FCtx) (pre : List String) (extra : List String), NoDupTree ex parent extra t →
        ∃ W, W.Nodup ∧ Keys pre W ((flatTree ex parent pre t).map (·.1) ++ extra.map (fun x => pre ++ [x]))
    | .mk items, parent, pre, extra, h => by
      rw [NoDupTree] at h
      rw [flatTree]
      exact ⟨_, h.1, (keys_flatItems ex items parent none pre h.2).append (keys_map pre extra)⟩
  theorem keys_flatItems (ex : FCtx → List Mark) :
      ∀ (items : List Item) (parent : Option FCtx) (prev : Option (String × Ctx)) (pre : List String),
        NoDupItems ex parent prev items →
        Keys pre (levelWords ex parent prev items) ((flatItems ex parent prev pre items).map (·.1))
    | [], parent, prev, pre, _ => by
      rw [flatItems]
      exact ⟨nofun, fun _ => .nil⟩
    | (row, none, rc) :: rest, parent, prev, pre, h => by
      rw [NoDupItems] at h
      rw [flatItems, levelWords]
      exact (keys_map pre [row]).append (keys_flatItems ex rest parent (some (row, rc)) pre h)
    | (row, some c, rc) :: rest, parent, prev, pre, h => by
      rw [NoDupItems] at h
      -- the block's own path, the paths below it and its wrapped exit statement all continue `pre` with `row`
      obtain ⟨W, hW, below⟩ := keys_flatTree ex c _ (pre ++ [row]) _ h.1
      simpa [flatItems, levelWords, exitFlat, Function.comp_def] using
        (below.block hW).append ((keys_map pre _).append (keys_flatItems ex rest parent (some (row, rc)) pre h.2))
end

theorem nodup_flatItems (ex : FCtx → List Mark) :
    ∀ (items : List Item) (parent : Option FCtx) (prev : Option (String × Ctx)) (pre : List String),
      (levelWords ex parent prev items).Nodup → NoDupItems ex parent prev items →
      ((flatItems ex parent prev pre items).map (·.1)).Nodup :=
  fun items parent prev pre hlw hnd => (keys_flatItems ex items parent prev pre hnd).2 hlw

end Annet.Format.Lemmas
