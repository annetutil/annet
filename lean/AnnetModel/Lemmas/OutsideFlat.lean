/-
C02 clause (b), END TO END on the top level of the device (flat configurations): the case `p = []` of
`Lemmas/OutsideNested.lean`, in the forms the flat executors need.

`outside_cmds`: the rows of top-level items of `res.patch` (all of them, `topCmds`: what `Device.Abs.flatPaths` sends — the
row of a block item is sent as a leaf command; or those of the leaf items, `leafCmds`), executed in order with
`Device.execLeaf`, leave slot `s` alone.  A fold of `execLeaf` over command words is `applyItems` over leaf items
(`applyItems_leaves`), and the row of any item, sent as a leaf, stems from the diff as the item does (`ProvI.toLeaf`): so
this is `OutsideNested.applyItems_outside` at the empty path.  Its hypothesis on the shown diff follows from one on the
INPUT only (`AclSlotClosed`: no line of `old` / `new` that the ACL matches addresses `s`; `diff_outside_of_closed`).  On
levels without `%rewrite` rules the device executor of C01 (`Device.applyCmds ∘ flatPaths`) is that fold over `topCmds`.

Nothing is assumed about the device level `kids` (no well-formedness, no relation to `old`).

Non-vacuity: `Lemmas/OutsideFlatExample.lean`.
-/
import AnnetModel.Lemmas.OutsideNested

namespace Annet.AclDiff.OutsideFlat
open Annet Annet.Rules Annet.Diff Annet.Device Annet.Device.Abs Annet.ConvergeNested
open Annet.Device.Lemmas (classify_rule)

theorem leafCmds_subset (p : Patch.PTree) : ∀ c ∈ leafCmds p, c ∈ topCmds p := by
  intro c hc
  obtain ⟨it, hit, hcit⟩ := List.mem_filterMap.1 hc
  refine List.mem_map.2 ⟨it, hit, ?_⟩
  split at hcit
  · exact Option.some.inj hcit
  · cases hcit

theorem applyItems_leaves (env : Env) (rules : PRules) (k : Patch.SortKey) (cs : List String)
    (kids : List (String × Cfg)) :
    applyItems env rules (cs.map fun c => (c, none, k)) kids = cs.foldl (fun k c => execLeaf env rules c k) kids := by
  rw [ConvergeNested.Lemmas.applyItems_foldl, List.foldl_map]
  rfl

/-- **C02 (b), end to end, top level** (file head): `applyItems_outside` at the empty path, over leaf items. -/
theorem outside_cmds {pv : Vendor} {av : Acl.Vendor} {acl : Acl.Rules} {rules : PRules} {ordering : List ORule}
    {old new : Cfg} {res : Api.Result} {env : Env} {s : Slot}
    (h : deviceModeAcl Patch.runLogic pv av acl rules ordering old new = .ok res)
    (hrev : ReverseInSlot pv env rules) (hraw : RawDetRow rules)
    (hcommit : NoForceCommit rules ∨ addresses env rules "commit" s = false)
    (hs : ∀ e ∈ res.diff, addresses env rules e.row s = false)
    {cs : List String} (hcs : ∀ c ∈ cs, c ∈ topCmds res.patch) (kids : List (String × Cfg)) :
    (cs.foldl (fun k c => execLeaf env rules c k) kids).filter (fun e => slotOf rules e.1 == some s) =
      kids.filter (fun e => slotOf rules e.1 == some s) := by
  obtain ⟨d, hdiff, hp, -, hcn, -⟩ := OutsideNested.deviceModeAcl_inv h
  have hprov := Patch.Prov.provT_iff.1 (Patch.patch_provenance pv ordering true d _ hp)
  rw [hdiff] at hs
  have := OutsideNested.applyItems_outside pv env [] rules d s (cs.map fun c => (c, none, default)) kids _ hcn
    ⟨hrev, hraw, hcommit⟩ hs
    (fun it hit => by
      obtain ⟨c, hc, rfl⟩ := List.mem_map.1 hit
      obtain ⟨it', hit', rfl⟩ := List.mem_map.1 (hcs c hc)
      exact (hprov it' hit').toLeaf) rfl
  rw [applyItems_leaves] at this
  exact Option.some.inj this

/-- `addresses_false`, read as the hypothesis `hother` of `C02_outside_untouched_level` for a command the diff does not
place in `s` -/
theorem hother_of_diff {env : Env} {rules : PRules} {c : String} {s : Slot} (h : addresses env rules c s = false) :
    slotOf rules c ≠ some s ∧ ∀ r', stripReverse env c = some r' → slotOf rules r' ≠ some s :=
  addresses_false h

theorem diff_outside_of_closed {lg : Patch.LogicFn} {pv : Vendor} {av : Acl.Vendor} {acl : Acl.Rules} {rules : PRules}
    {ordering : List ORule} {old new : Cfg} {res : Api.Result} {env : Env} {s : Slot}
    (h : deviceModeAcl lg pv av acl rules ordering old new = .ok res)
    (hc : AclSlotClosed av acl env rules old new s) : ∀ e ∈ res.diff, addresses env rules e.row s = false := by
  obtain ⟨d, hdiff, -, hcov, -, hrows⟩ := OutsideNested.deviceModeAcl_inv h
  intro e he
  rw [hdiff] at he
  obtain ⟨j, hj, hrow⟩ := Diff.Lemmas.mem_of_stripUnchanged d e he
  have hany : (old.kids ++ new.kids).any (·.1 == e.row) = true := by
    rw [List.any_append, Bool.or_eq_true, ← hrow]
    exact hrows j hj
  obtain ⟨x, hx, hxe⟩ := List.any_eq_true.1 hany
  rw [← beq_iff_eq.1 hxe]
  exact hc x hx (by rw [beq_iff_eq.1 hxe, ← hrow]; exact covered_mem hcov j hj)

theorem applyCmds_flatPaths (env : Env) (rules : PRules) (h : NoRewrite rules) (p : Patch.PTree) (dev : Cfg) :
    (applyCmds env rules (flatPaths p) dev).kids = (topCmds p).foldl (fun k c => execLeaf env rules c k) dev.kids := by
  rw [Converge.Lemmas.flatPaths_eq, Device.Lemmas.applyCmds_words (Device.Lemmas.isRewriteCmd_eq_false fun hcl => by
    obtain ⟨f, hf, -, hf2⟩ := classify_rule hcl
    rw [hf2]
    exact h f (List.mem_append.2 hf))]
  rfl

end Annet.AclDiff.OutsideFlat
