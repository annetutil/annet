/-
RFC 6901 escaping: `JsonPointer(p.path).parts == p.parts`, i.e. the pointers
`_resolve_json_pointers` rebuilds from matched keys denote those keys.
-/
import AnnetModel.Model.Json

namespace Annet.Json.Lemmas
open Annet.Json

theorem replace2_cons_ne (a b r c : Char) (l : List Char) (h : c ≠ a) :
    replace2 a b r (c :: l) = c :: replace2 a b r l := by
  cases l <;> simp [replace2, h]

theorem unescapeL_escapeL (s : List Char) : unescapeL (escapeL s) = s := by
  unfold unescapeL
  fun_induction escapeL s <;> simp_all [replace2, replace2_cons_ne]

theorem invalidEscape_cons_ne (c : Char) (l : List Char) (h : c ≠ '~') :
    invalidEscape (c :: l) = invalidEscape l := by
  cases l <;> simp [invalidEscape, h]

theorem invalidEscape_escapeL_append (p rest : List Char) :
    invalidEscape (escapeL p ++ rest) = invalidEscape rest := by
  fun_induction escapeL p <;> simp_all [invalidEscape, invalidEscape_cons_ne]

theorem invalidEscape_pathL (parts : List (List Char)) : invalidEscape (pathL parts) = false := by
  induction parts with
  | nil => simp [pathL, invalidEscape]
  | cons p ps ih =>
    simp only [pathL]
    rw [invalidEscape_cons_ne _ _ (by decide), invalidEscape_escapeL_append, ih]

theorem splitSlash_ne_nil (s : List Char) : splitSlash s ≠ [] := by
  fun_induction splitSlash s <;> simp_all

theorem escapeL_no_slash (p : List Char) : ∀ c ∈ escapeL p, c ≠ '/' := by
  fun_induction escapeL p <;> simp_all

theorem splitSlash_append (l m : List Char) (h : ∀ c ∈ l, c ≠ '/') (hd : List Char) (tl : List (List Char))
    (hm : splitSlash m = hd :: tl) : splitSlash (l ++ m) = (l ++ hd) :: tl := by
  induction l with
  | nil => simpa using hm
  | cons c cs ih =>
    have hc : c ≠ '/' := h c (by simp)
    have := ih (fun x hx => h x (by simp [hx]))
    simp only [List.cons_append, splitSlash, this, hc, if_false]

theorem splitSlash_pathL (parts : List (List Char)) :
    splitSlash (pathL parts) = [] :: parts.map escapeL := by
  induction parts with
  | nil => simp [pathL, splitSlash]
  | cons p ps ih =>
    simp only [pathL, List.map_cons]
    rw [splitSlash]
    rw [splitSlash_append (escapeL p) (pathL ps) (escapeL_no_slash p) [] (ps.map escapeL) ih]
    simp

theorem parsePointerL_pathL (parts : List (List Char)) : parsePointerL (pathL parts) = .ok parts := by
  simp only [parsePointerL, invalidEscape_pathL, splitSlash_pathL]
  simp [Function.comp_def, unescapeL_escapeL]

theorem map_ofList_toList (p : Ptr) : (p.map String.toList).map String.ofList = p := by
  simp

theorem parsePointer_path (p : Ptr) : parsePointer (path p) = .ok p := by
  simp only [parsePointer, path, String.toList_ofList, parsePointerL_pathL]
  simp [Except.map]

/-- jsontools.py:183: the rebuilt pointer has exactly the matched parts -/
theorem rebuild_eq (mp : Ptr) (h : mp ≠ []) : rebuild mp = .ok mp := by
  cases mp with
  | nil => exact absurd rfl h
  | cons k ks =>
    simp only [rebuild, joinedL, List.map_cons]
    rw [← List.map_cons, parsePointerL_pathL]
    simp [Except.map]

/-- …and for an empty list of parts the text `"/"` is built, which denotes the key `""`. -/
theorem rebuild_nil : rebuild [] = .ok [""] := by
  simp [rebuild, joinedL, parsePointerL, invalidEscape, splitSlash, unescapeL, replace2, Except.map]

end Annet.Json.Lemmas
