/-
The diff (`Model/Diff.lean`).  The two loops of `base_diff` are maps of an item function over the indexed rows (`RemAt`,
`NewAt`: the op is `opAt` of `block_in_disorder` up to the row, the children are the recursive call), stated as iffs
(`removedItems_iff`, `newItems_iff`, `baseDiff_iff`); nothing else unfolds the loops.  `Item` is an item of one run read
against the two sides of its group; a property judged item by item holds of every run of `call_diff_logic` by
`callDiffLogic_induct`.  Self diff is the instance `old = new`: no row is in disorder, so every op is AFFECTED.

Why `C03_proj_new`, `C03_proj_old`, `C03_ops_exact` carry a hypothesis on `pops`: `base_diff` labels a common, in-place
row with the *parent's* op (`pops[-1]`).  Under a REMOVED parent that label is REMOVED, under an ADDED parent it is ADDED,
the projections/exactness read it as a removal/addition, and without the hypothesis the statements fail (counterexamples
below, `decide +kernel`).  In real runs `call_diff_logic` recurses below a removed row with
`new = {}` and below an added row with `old = {}` (`removedItems` passes `[]`, `newItems` passes
`kidsOf = []` for a row absent from `old`), so the hypotheses hold there.
-/
import AnnetModel.Spec.DiffWhole
import AnnetModel.Lemmas.Sort
import AnnetModel.Lemmas.Basic

namespace Annet.Diff.Lemmas
open Annet Annet.Rules Annet.Diff Annet.Diff.Spec Annet.Deploy.Lemmas

private def cxM : PMatch := { rawRule := "x *", key := [], attrs :=
  { row := "x *", logic := "common.default", diffLogic := "common.default_diff", parent := false, forceCommit := false } }
private def cxLvl : Level := [("x a", cxM, ACfg.mk [])]
private def cxRec : Rec := fun _ _ _ => .ok []

private def cxView (pops : List Pop) (o : Op) : Option (List (String × String) × List String) :=
  match baseDiff cxRec pops true cxLvl cxLvl with
  | .ok d => some (d.map (fun i => (i.op.name, i.row)), (d.filter (fun i => i.op != o)).map (·.row))
  | .error _ => none

/-- under a REMOVED parent the common row `x a` is labelled REMOVED: dropping removed lines loses it
(`C03_proj_new`), and "removed → absent from new" fails (`C03_ops_exact`) -/
example : cxView [.op .removed] .removed = some ([("removed", "x a")], []) ∧
    rowsOf cxLvl = ["x a"] ∧ hasRow cxLvl "x a" = true := by decide +kernel

/-- under an ADDED parent the common row `x a` is labelled ADDED: dropping added lines loses it
(`C03_proj_old`), and "added → absent from old" fails (`C03_ops_exact`) -/
example : cxView [.op .added] .added = some ([("added", "x a")], []) ∧
    rowsOf cxLvl = ["x a"] ∧ hasRow cxLvl "x a" = true := by decide +kernel

section
open Annet.Patch (insertBy stableSort)
open Annet.Patch.Spec (StrictWeak)
open Annet.Patch.Lemmas

/-- `diff_indexed.sort()` compares `(index, op string, row)` -/
def ltIdx (x y : Nat × DItem) : Bool :=
  lexLt (fun a b : Nat => decide (a < b)) (lexLt (fun a b : Nat => decide (a < b)) (fun a b : String => decide (a < b)))
    (x.1, x.2.op.rank, x.2.row) (y.1, y.2.op.rank, y.2.row)

theorem sortIdx_eq (l : List (Nat × DItem)) : sortIdx l = stableSort ltIdx l :=
  foldl_insert_eq_sort ltIdx insertIdx (fun _ => rfl) (fun _ _ _ => rfl) l

theorem nat_strictTotal : StrictTotal (fun a b : Nat => decide (a < b)) where
  irrefl := by simp
  trans := by simp only [decide_eq_true_eq]; omega
  tri := by simp only [decide_eq_false_iff_not]; omega

theorem ltIdx_strictWeak : StrictWeak ltIdx :=
  strictWeak_comap (fun x : Nat × DItem => (x.1, x.2.op.rank, x.2.row))
    (lexLt_strictWeak nat_strictTotal (lexLt_strictWeak nat_strictTotal string_strictTotal.strictWeak))

theorem sortIdx_perm (l : List (Nat × DItem)) : (sortIdx l).Perm l :=
  sortIdx_eq l ▸ sort_perm ltIdx l

theorem filter_sortIdx (p : Nat × DItem → Bool) (l : List (Nat × DItem))
    (hp : (l.filter p).Pairwise (fun a b => a.1 < b.1)) : (sortIdx l).filter p = l.filter p := by
  rw [sortIdx_eq, ← sort_filter_comm ltIdx ltIdx_strictWeak]
  refine sort_of_sorted ltIdx _ (hp.imp ?_)
  intro a b hab
  simp only [ltIdx, lexLt, Bool.or_eq_false_iff, Bool.and_eq_false_iff, decide_eq_false_iff_not,
    beq_eq_false_iff_ne]
  omega
end

theorem hasRow_iff {l : Level} {r : String} : hasRow l r = true ↔ r ∈ rowsOf l := by
  simp only [hasRow, rowsOf, List.any_eq_true, beq_iff_eq, List.mem_map]

theorem hasRow_false_iff {l : Level} {r : String} : hasRow l r = false ↔ r ∉ rowsOf l := by
  rw [← hasRow_iff]; simp

theorem hasRow_nil (r : String) : hasRow [] r = false := by simp [hasRow]

theorem annotate_ok {rules : PRules} {c : Cfg} {a : ACfg} (h : annotate rules c = .ok a) :
    annotateList rules c.kids = .ok a.kids := by
  obtain ⟨ks⟩ := c
  rw [annotate] at h
  cases hl : annotateList rules ks with
  | error e => rw [hl] at h; cases h
  | ok l => rw [hl] at h; cases h; exact hl

/-- one step of `annotateList`: a row no rule knows is dropped, a row a rule knows is kept with its match and its
children annotated under the child rules (a row outside the grammar makes it fail) -/
theorem annotateList_cons_ok {rules : PRules} {row : String} {ch : Cfg} {rest : List (String × Cfg)} {l : Level} :
    annotateList rules ((row, ch) :: rest) = .ok l ↔
      (matchRow row rules = .nomatch ∧ annotateList rules rest = .ok l) ∨
      ∃ m cr ch' rest', matchRow row rules = .found m cr ∧ annotate cr ch = .ok ch' ∧
        annotateList rules rest = .ok rest' ∧ l = (row, m, ch') :: rest' := by
  rw [annotateList]
  cases hm : matchRow row rules with
  | grammar => simp
  | «nomatch» => simp
  | found m cr =>
    dsimp only
    cases hc : annotate cr ch with
    | error e => simp [and_assoc, hc]
    | ok ch' =>
      cases hr : annotateList rules rest with
      | error e => simp
      | ok rest' => simp [and_assoc, hc, eq_comm]

theorem common_op_ne {pops : List Pop} {l : Level} {r : String} {op o : Op} (hp : l = [] ∨ lastOp pops ≠ o)
    (hr : hasRow l r = true) (hop : op = .moved ∨ op = lastOp pops) (ho : o ≠ .moved) : op ≠ o := by
  rcases hop with rfl | rfl
  · exact ho.symm
  · rcases hp with rfl | hp
    · rw [hasRow_nil] at hr; cases hr
    · exact hp

/-- `block_in_disorder` after that row -/
def disOf (old : Level) (idx : Nat) (dis : Bool) (row : String) : Bool :=
  dis || !hasRow old row || idx != indexOf old row

/-- `D`: whether the block is in disorder up to and including the row -/
def opAt (pops : List Pop) (m2a : Bool) (old : Level) (D : Bool) (row : String) : Op :=
  if !hasRow old row then .added else if D then (if m2a then lastOp pops else .moved) else lastOp pops

theorem newItems_cons (rec : Rec) (pops : List Pop) (m2a : Bool) (old : Level) (idx : Nat) (dis : Bool)
    (row : String) (m : PMatch) (ch : ACfg) (rest : Level) :
    newItems rec pops m2a old idx dis ((row, m, ch) :: rest) =
      match rec (pops ++ [.op (opAt pops m2a old (disOf old idx dis row) row)]) (kidsOf old row) ch.kids with
      | .error e => .error e
      | .ok cs =>
        match newItems rec pops m2a old (idx + 1) (disOf old idx dis row) rest with
        | .error e => .error e
        | .ok more => .ok ((idx, .mk (opAt pops m2a old (disOf old idx dis row) row) row cs m) :: more) := by
  rw [newItems]
  unfold opAt disOf kidsOf
  by_cases h1 : hasRow old row = true <;> by_cases h2 : (dis || idx != indexOf old row) = true
  · simp [h1, h2]; rfl
  · simp at h2; simp [h1, h2]; rfl
  · simp [h1]; rfl
  · simp [h1]; rfl

abbrev Ent := String × PMatch × ACfg

/-- closed form of `block_in_disorder` for a run of `newItems` started at `(idx, dis)` -/
def disClosed (old : Level) (idx : Nat) (dis : Bool) (l : Level) (k : Nat) : Bool :=
  dis || (List.range (k + 1)).any fun j =>
    match l[j]? with
    | none => false
    | some e => !hasRow old e.1 || indexOf old e.1 != idx + j

theorem disClosed_succ (old : Level) (idx : Nat) (dis : Bool) (e : String × PMatch × ACfg) (rest : Level)
    (k : Nat) :
    disClosed old idx dis (e :: rest) (k + 1) = disClosed old (idx + 1) (disOf old idx dis e.1) rest k := by
  unfold disClosed disOf
  rw [List.range_succ_eq_map (n := k + 1), List.any_cons, List.any_map]
  simp only [List.getElem?_cons_zero, Function.comp_def, Nat.succ_eq_add_one, List.getElem?_cons_succ,
    Nat.add_zero]
  simp only [← Nat.add_assoc, Nat.add_right_comm idx 1, Bool.or_assoc, bne_comm (a := idx)]

theorem disClosed_zero (old : Level) (idx : Nat) (dis : Bool) (e : Ent) (rest : Level) :
    disClosed old idx dis (e :: rest) 0 = disOf old idx dis e.1 := by
  simp [disClosed, disOf, bne_comm, Bool.or_assoc]

theorem disClosed_top (old new : Level) (k : Nat) : disClosed old 0 false new k = disorderUpTo old new k := by
  simp only [disClosed, disorderUpTo, Bool.false_or, Nat.zero_add]
  rfl

/-- the item `base_diff` makes of a row of `old` that `new` does not have -/
def RemAt (rec : Rec) (pops : List Pop) (x : Nat × DItem) (p : Ent × Nat) : Prop :=
  ∃ cs, rec (pops ++ [.op .removed]) p.1.2.2.kids [] = .ok cs ∧ x = (p.2, .mk .removed p.1.1 cs p.1.2.1)

theorem removedItems_iff (rec : Rec) (pops : List Pop) (new : Level) :
    ∀ (old : Level) (idx : Nat) (rs : List (Nat × DItem)),
      removedItems rec pops new idx old = .ok rs ↔
        Forall2 (RemAt rec pops) rs ((old.zipIdx idx).filter fun p => !hasRow new p.1.1)
  | [], idx, rs => by
    rw [removedItems, List.zipIdx_nil, List.filter_nil, Forall2.nil_iff, Except.ok.injEq, eq_comm]
  | (row, m, ch) :: rest, idx, rs => by
    have ih := removedItems_iff rec pops new rest (idx + 1)
    rw [removedItems, List.zipIdx_cons, List.filter_cons]
    cases hr : hasRow new row
    · simp only [Bool.false_eq_true, if_false, Bool.not_false, if_true, Forall2.cons_iff, RemAt]
      constructor
      · intro h
        split at h
        · cases h
        · rename_i cs hcs
          split at h
          · cases h
          · rename_i more hmore
            cases h
            exact ⟨_, more, ⟨cs, hcs, rfl⟩, (ih more).1 hmore, rfl⟩
      · rintro ⟨_, more, ⟨cs, hcs, rfl⟩, hmore, rfl⟩
        simp only [hcs, (ih more).2 hmore]
    · simp only [if_true, Bool.not_true, Bool.false_eq_true, if_false]
      exact ih rs

theorem opAt_cases (pops : List Pop) (m2a : Bool) (old : Level) (D : Bool) (row : String) :
    (opAt pops m2a old D row = .added ∧ hasRow old row = false) ∨
    (hasRow old row = true ∧ (opAt pops m2a old D row = .moved ∨ opAt pops m2a old D row = lastOp pops)) := by
  unfold opAt
  cases hasRow old row <;> cases D <;> cases m2a <;> simp

/-- the item `base_diff` makes of the row at (absolute) position `p.2` of a run started at `(idx, dis)` -/
def NewAt (rec : Rec) (pops : List Pop) (m2a : Bool) (old : Level) (idx : Nat) (dis : Bool) (new : Level)
    (x : Nat × DItem) (p : Ent × Nat) : Prop :=
  ∃ k cs, p.2 = idx + k ∧
    rec (pops ++ [.op (opAt pops m2a old (disClosed old idx dis new k) p.1.1)]) (kidsOf old p.1.1) p.1.2.2.kids
      = .ok cs ∧
    x = (p.2, .mk (opAt pops m2a old (disClosed old idx dis new k) p.1.1) p.1.1 cs p.1.2.1)

theorem newAt_shift {rec : Rec} {pops : List Pop} {m2a : Bool} {old : Level} {idx : Nat} {dis : Bool} {e : Ent}
    {rest : Level} {x : Nat × DItem} {p : Ent × Nat} (hp : idx + 1 ≤ p.2) :
    NewAt rec pops m2a old (idx + 1) (disOf old idx dis e.1) rest x p ↔
      NewAt rec pops m2a old idx dis (e :: rest) x p := by
  constructor
  · rintro ⟨k, cs, hk, hcs, rfl⟩
    exact ⟨k + 1, cs, by omega, by rw [disClosed_succ]; exact hcs, by rw [disClosed_succ]⟩
  · rintro ⟨k, cs, hk, hcs, rfl⟩
    obtain ⟨k, rfl⟩ : ∃ k', k = k' + 1 := ⟨k - 1, by omega⟩
    rw [disClosed_succ] at hcs
    exact ⟨k, cs, by omega, hcs, by rw [disClosed_succ]⟩

theorem newItems_iff (rec : Rec) (pops : List Pop) (m2a : Bool) (old : Level) :
    ∀ (new : Level) (idx : Nat) (dis : Bool) (ns : List (Nat × DItem)),
      newItems rec pops m2a old idx dis new = .ok ns ↔
        Forall2 (NewAt rec pops m2a old idx dis new) ns (new.zipIdx idx)
  | [], idx, dis, ns => by
    rw [newItems, List.zipIdx_nil, Forall2.nil_iff, Except.ok.injEq, eq_comm]
  | (row, m, ch) :: rest, idx, dis, ns => by
    have ih := newItems_iff rec pops m2a old rest (idx + 1) (disOf old idx dis row)
    have hsh : ∀ more, Forall2 (NewAt rec pops m2a old (idx + 1) (disOf old idx dis row) rest) more (rest.zipIdx (idx + 1)) ↔
        Forall2 (NewAt rec pops m2a old idx dis ((row, m, ch) :: rest)) more (rest.zipIdx (idx + 1)) :=
      fun more => Forall2.congr_mem fun a b hb => newAt_shift (e := (row, m, ch)) (List.mem_zipIdx (x := b.1) (i := b.2) hb).1
    have hz := disClosed_zero old idx dis (row, m, ch) rest
    rw [newItems_cons, List.zipIdx_cons, Forall2.cons_iff]
    constructor
    · intro h
      split at h
      · cases h
      · rename_i cs hcs
        split at h
        · cases h
        · rename_i more hmore
          cases h
          exact ⟨_, more, ⟨0, cs, rfl, by rw [hz]; exact hcs, by rw [hz]⟩, (hsh more).1 ((ih more).1 hmore), rfl⟩
    · rintro ⟨_, more, ⟨k, cs, hk, hcs, rfl⟩, hmore, rfl⟩
      obtain rfl : k = 0 := by simp only at hk; omega
      rw [hz] at hcs ⊢
      simp only [hcs, (ih more).2 ((hsh more).2 hmore)]

theorem removedItems_total {rec : Rec} {pops : List Pop} {new : Level} (old : Level) (idx : Nat)
    (hrec : ∀ e ∈ old, ∃ cs, rec (pops ++ [.op .removed]) e.2.2.kids [] = .ok cs) :
    ∃ rs, removedItems rec pops new idx old = .ok rs := by
  obtain ⟨rs, h⟩ := Forall2.exists_of_forall (R := RemAt rec pops)
    ((old.zipIdx idx).filter fun p => !hasRow new p.1.1) fun p hp => by
      obtain ⟨cs, hcs⟩ := hrec p.1 (List.fst_mem_of_mem_zipIdx (List.mem_filter.1 hp).1)
      exact ⟨_, cs, hcs, rfl⟩
  exact ⟨rs, (removedItems_iff ..).2 h⟩

theorem newItems_total {rec : Rec} {pops : List Pop} {m2a : Bool} {old : Level} (new : Level) (idx : Nat) (dis : Bool)
    (hrec : ∀ e ∈ new, ∀ op, ∃ cs, rec (pops ++ [.op op]) (kidsOf old e.1) e.2.2.kids = .ok cs) :
    ∃ ns, newItems rec pops m2a old idx dis new = .ok ns := by
  obtain ⟨ns, h⟩ := Forall2.exists_of_forall (R := NewAt rec pops m2a old idx dis new) (new.zipIdx idx) fun p hp => by
    obtain ⟨cs, hcs⟩ := hrec p.1 (List.fst_mem_of_mem_zipIdx hp)
      (opAt pops m2a old (disClosed old idx dis new (p.2 - idx)) p.1.1)
    exact ⟨_, p.2 - idx, cs, by have := List.le_snd_of_mem_zipIdx hp; omega, hcs, rfl⟩
  exact ⟨ns, (newItems_iff ..).2 h⟩

theorem newItems_spec (rec : Rec) (pops : List Pop) (m2a : Bool) (old : Level) :
    ∀ (new : Level) (idx : Nat) (dis : Bool) (ns : List (Nat × DItem)),
      newItems rec pops m2a old idx dis new = .ok ns →
      ns.map (·.1) = List.range' idx new.length ∧ ns.map (·.2.row) = rowsOf new ∧
      ∀ x ∈ ns, (x.2.op = .added ∧ hasRow old x.2.row = false) ∨
        (hasRow old x.2.row = true ∧ (x.2.op = .moved ∨ x.2.op = lastOp pops)) := by
  intro new idx dis ns h
  have hf := (newItems_iff rec pops m2a old new idx dis ns).1 h
  refine ⟨?_, ?_, fun x hx => ?_⟩
  · rw [hf.map_eq (g := Prod.snd) fun a b ⟨_, _, _, _, e⟩ => by rw [e], List.zipIdx_map_snd]
  · rw [hf.map_eq (g := fun p => p.1.1) fun a b ⟨_, _, _, _, e⟩ => by rw [e]; rfl]
    exact (List.map_map (f := Prod.fst) (g := fun e : Ent => e.1)).symm.trans (by rw [List.zipIdx_map_fst]; rfl)
  · obtain ⟨p, _, k, cs, -, -, rfl⟩ := hf.mem_left hx
    exact opAt_cases ..

theorem removedItems_spec (rec : Rec) (pops : List Pop) (new : Level) :
    ∀ (old : Level) (idx : Nat) (rs : List (Nat × DItem)),
      removedItems rec pops new idx old = .ok rs →
      rs.map (·.2.row) = (rowsOf old).filter (fun r => !hasRow new r) ∧
      ∀ x ∈ rs, x.2.op = .removed ∧ hasRow new x.2.row = false := by
  intro old idx rs h
  have hf := (removedItems_iff rec pops new old idx rs).1 h
  refine ⟨?_, fun x hx => ?_⟩
  · rw [hf.map_eq (g := fun p => p.1.1) fun a b ⟨_, _, e⟩ => by rw [e]; rfl, rowsOf, List.filter_map,
      ← List.zipIdx_map_fst idx old, List.filter_map, List.map_map, List.zipIdx_map_fst]
    rfl
  · obtain ⟨p, hp, cs, -, rfl⟩ := hf.mem_left hx
    exact ⟨rfl, show hasRow new p.1.1 = false by simpa using (List.mem_filter.1 hp).2⟩

theorem baseDiff_inv {rec : Rec} {pops : List Pop} {m2a : Bool} {old new : Level} {d : List DItem}
    (h : baseDiff rec pops m2a old new = .ok d) :
    ∃ rs ns, removedItems rec pops new 0 old = .ok rs ∧ newItems rec pops m2a old 0 false new = .ok ns ∧
      d = (sortIdx (rs ++ ns)).map (·.2) := by
  unfold baseDiff at h
  split at h
  · cases h
  · cases h
  · rename_i rs ns h1 h2
    cases h
    exact ⟨rs, ns, h1, h2, rfl⟩

theorem baseDiff_iff {rec : Rec} {pops : List Pop} {m2a : Bool} {old new : Level} {d : List DItem} :
    baseDiff rec pops m2a old new = .ok d ↔
      ∃ rs ns, Forall2 (RemAt rec pops) rs (old.zipIdx.filter fun p => !hasRow new p.1.1) ∧
        Forall2 (NewAt rec pops m2a old 0 false new) ns new.zipIdx ∧ d = (sortIdx (rs ++ ns)).map (·.2) := by
  simp only [← removedItems_iff, ← newItems_iff]
  constructor
  · intro h
    obtain ⟨rs, ns, h1, h2, h3⟩ := baseDiff_inv h
    exact ⟨rs, ns, h1, h2, h3⟩
  · rintro ⟨rs, ns, h1, h2, rfl⟩
    rw [baseDiff, h1, h2]

theorem baseDiff_total {rec : Rec} {pops : List Pop} {m2a : Bool} {o n : Level}
    (hr : ∀ e ∈ o, ∀ p, ∃ cs, rec p e.2.2.kids [] = .ok cs)
    (hn : ∀ e ∈ n, ∀ p, ∃ cs, rec p (kidsOf o e.1) e.2.2.kids = .ok cs) :
    ∃ d, baseDiff rec pops m2a o n = .ok d := by
  obtain ⟨rs, hrs⟩ := removedItems_total (pops := pops) (new := n) o 0 fun e he => hr e he _
  obtain ⟨ns, hns⟩ := newItems_total (pops := pops) (m2a := m2a) n 0 false fun e he op => hn e he _
  exact ⟨_, by rw [baseDiff, hrs, hns]⟩

theorem sortIdx_split (p : Nat × DItem → Bool) (rs ns : List (Nat × DItem)) (s n : Nat)
    (hrs : ∀ x ∈ rs, p x = false) (hns : ∀ x ∈ ns, p x = true)
    (hidx : ns.map (·.1) = List.range' s n) : (sortIdx (rs ++ ns)).filter p = ns := by
  have h1 : (rs ++ ns).filter p = ns := by
    rw [List.filter_append, List.filter_eq_nil_iff.2 (by simpa using hrs), List.filter_eq_self.2 hns]
    simp
  have h2 : ns.Pairwise (fun a b => a.1 < b.1) := by
    have := List.pairwise_lt_range' (s := s) (n := n) 1
    rw [← hidx, List.pairwise_map] at this
    exact this
  rw [filter_sortIdx p _ (by rw [h1]; exact h2), h1]

theorem rows_perm (old new : Level) (ho : (rowsOf old).Nodup) (hn : (rowsOf new).Nodup) :
    ((rowsOf old).filter (fun r => !hasRow new r) ++ (rowsOf new).filter (fun r => hasRow old r)).Perm
      (rowsOf old) := by
  have hA : ((rowsOf new).filter (fun r => hasRow old r)).Perm ((rowsOf old).filter (fun r => hasRow new r)) := by
    rw [List.perm_ext_iff_of_nodup (hn.filter _) (ho.filter _)]
    intro r
    simp only [List.mem_filter, hasRow_iff]
    exact And.comm
  refine (List.Perm.append_left _ hA).trans ?_
  have := List.filter_append_perm (fun r => !hasRow new r) (rowsOf old)
  simpa using this

theorem baseDiff_proj_new {rec : Rec} {pops : List Pop} {m2a : Bool} {old new : Level} {d : List DItem}
    (h : baseDiff rec pops m2a old new = .ok d) (hp : new = [] ∨ lastOp pops ≠ .removed) :
    (d.filter (fun i => i.op != .removed)).map (·.row) = rowsOf new := by
  obtain ⟨rs, ns, hr, hn, rfl⟩ := baseDiff_inv h
  obtain ⟨-, r2⟩ := removedItems_spec _ _ _ _ _ _ hr
  obtain ⟨n1, n2, n3⟩ := newItems_spec _ _ _ _ _ _ _ _ hn
  have hns : ∀ x ∈ ns, (fun x : Nat × DItem => x.2.op != .removed) x = true := by
    intro x hx
    rw [bne_iff_ne]
    rcases n3 x hx with ⟨ha, _⟩ | ⟨_, hc⟩
    · rw [ha]; decide
    · exact common_op_ne hp (hasRow_iff.2 (n2 ▸ List.mem_map_of_mem hx)) hc (by decide)
  have hrs : ∀ x ∈ rs, (fun x : Nat × DItem => x.2.op != .removed) x = false := by
    intro x hx; simp [(r2 x hx).1]
  have := sortIdx_split (fun x : Nat × DItem => x.2.op != .removed) rs ns _ _ hrs hns n1
  rw [List.filter_map]
  simp only [Function.comp_def, this, List.map_map]
  exact n2

/-- as a multiset only: removed rows carry old indices, common rows new ones, so the old order is not recoverable -/
theorem baseDiff_proj_old {rec : Rec} {pops : List Pop} {m2a : Bool} {old new : Level} {d : List DItem}
    (h : baseDiff rec pops m2a old new = .ok d) (hp : old = [] ∨ lastOp pops ≠ .added)
    (ho : (rowsOf old).Nodup) (hn : (rowsOf new).Nodup) :
    ((d.filter (fun i => i.op != .added)).map (·.row)).Perm (rowsOf old) := by
  obtain ⟨rs, ns, hr, hnw, rfl⟩ := baseDiff_inv h
  obtain ⟨r1, r2⟩ := removedItems_spec _ _ _ _ _ _ hr
  obtain ⟨n1, n2, n3⟩ := newItems_spec _ _ _ _ _ _ _ _ hnw
  have hperm := (((sortIdx_perm (rs ++ ns)).map (·.2)).filter (fun i => i.op != .added)).map (·.row)
  refine hperm.trans ?_
  have e1 : ((rs.map (·.2)).filter (fun i => i.op != .added)).map (·.row)
      = (rowsOf old).filter (fun r => !hasRow new r) := by
    rw [List.filter_eq_self.2, List.map_map]
    · exact r1
    · intro i hi
      obtain ⟨x, hx, rfl⟩ := List.mem_map.1 hi
      simp [(r2 x hx).1]
  have e2 : ((ns.map (·.2)).filter (fun i => i.op != .added)).map (·.row)
      = (rowsOf new).filter (fun r => hasRow old r) := by
    rw [← n2, List.filter_map, List.filter_map, List.map_map]
    congr 1
    apply List.filter_congr
    intro x hx
    simp only [Function.comp_def]
    rcases n3 x hx with ⟨ha, hb⟩ | ⟨hb, hc⟩
    · simp [ha, hb]
    · simp [common_op_ne hp hb hc (by decide), hb]
  rw [List.map_append, List.filter_append, List.map_append, e1, e2]
  exact rows_perm old new ho hn

@[simp] theorem DItem.op_mk (o : Op) (r : String) (ch : List DItem) (m : PMatch) :
    (DItem.mk o r ch m).op = o := rfl

@[simp] theorem DItem.children_mk (o : Op) (r : String) (ch : List DItem) (m : PMatch) :
    (DItem.mk o r ch m).children = ch := rfl

theorem row_mk (o : Op) (r : String) (c : List DItem) (m : PMatch) : (DItem.mk o r c m).row = r := rfl
theorem m_mk (o : Op) (r : String) (c : List DItem) (m : PMatch) : (DItem.mk o r c m).m = m := rfl

theorem adepthL_nil : adepthL [] = 0 := by rw [adepthL]

theorem adepthL_cons (r : String) (m : PMatch) (c : ACfg) (rest : List (String × PMatch × ACfg)) :
    adepthL ((r, m, c) :: rest) = max (1 + adepth c) (adepthL rest) := by rw [adepthL]

theorem adepth_kids (c : ACfg) : adepth c = adepthL c.kids := by
  obtain ⟨ks⟩ := c
  rw [adepth]; rfl

theorem stripUnchanged_nil : stripUnchanged [] = [] := by
  rw [stripUnchanged]

theorem stripUnchanged_cons (i : DItem) (rest : List DItem) :
    stripUnchanged (i :: rest) =
      if i.op == .unchanged then stripUnchanged rest else stripItem i :: stripUnchanged rest := by
  rw [stripUnchanged]

theorem stripItem_mk (o : Op) (r : String) (ch : List DItem) (m : PMatch) :
    stripItem (.mk o r ch m) = .mk o r (stripUnchanged ch) m := by
  rw [stripItem]

theorem stripItem_op (i : DItem) : (stripItem i).op = i.op := by
  obtain ⟨o, r, ch, m⟩ := i
  rw [stripItem_mk]; rfl

theorem stripItem_row (i : DItem) : (stripItem i).row = i.row := by
  obtain ⟨o, r, ch, m⟩ := i
  rw [stripItem]
  rfl

theorem markUnchanged_nil : markUnchanged [] = [] := by
  rw [markUnchanged]

theorem markUnchanged_cons (i : DItem) (rest : List DItem) :
    markUnchanged (i :: rest) = markItem i :: markUnchanged rest := by
  rw [markUnchanged]

theorem markItem_mk (o : Op) (r : String) (ch : List DItem) (m : PMatch) :
    markItem (.mk o r ch m) =
      if o == .affected then
        .mk (if (markUnchanged ch).all (·.op == .unchanged) then .unchanged else .affected) r
          (markUnchanged ch) m
      else .mk o r ch m := by
  rw [markItem]

theorem markItem_affected (r : String) (cs : List DItem) (m : PMatch) :
    markItem (.mk .affected r cs m) =
      .mk (if (markUnchanged cs).all (·.op == .unchanged) then .unchanged else .affected) r (markUnchanged cs) m := by
  rw [markItem_mk]; rfl

theorem markItem_of_ne (i : DItem) (h : i.op ≠ .affected) : markItem i = i := by
  obtain ⟨o, r, ch, m⟩ := i
  simp only [DItem.op] at h
  rw [markItem_mk]
  have : (o == Op.affected) = false := by simpa using h
  simp [this]

theorem markItem_row (i : DItem) : (markItem i).row = i.row := by
  obtain ⟨o, r, ch, m⟩ := i
  rw [markItem]
  split <;> rfl

theorem markItem_m (i : DItem) : (markItem i).m = i.m := by
  obtain ⟨o, r, ch, m⟩ := i
  rw [markItem_mk]
  split <;> rfl

theorem allAffected_nil : allAffected [] = true := by
  rw [allAffected]

theorem allAffected_cons (i : DItem) (rest : List DItem) :
    allAffected (i :: rest) = (allAffectedItem i && allAffected rest) := by
  rw [allAffected]

theorem allAffectedItem_mk (o : Op) (r : String) (ch : List DItem) (m : PMatch) :
    allAffectedItem (.mk o r ch m) = (o == .affected && allAffected ch) := by
  rw [allAffectedItem]

theorem affectedToMoved_nil : affectedToMoved [] = [] := by rw [affectedToMoved]

theorem affectedToMoved_cons (i : DItem) (rest : List DItem) :
    affectedToMoved (i :: rest) = affectedToMovedItem i :: affectedToMoved rest := by rw [affectedToMoved]

theorem affectedToMovedItem_mk (o : Op) (r : String) (ch : List DItem) (m : PMatch) :
    affectedToMovedItem (.mk o r ch m) = .mk (if o == .affected then .moved else o) r (affectedToMoved ch) m := by
  rw [affectedToMovedItem]

theorem affectedToMovedItem_row (i : DItem) : (affectedToMovedItem i).row = i.row := by
  obtain ⟨o, r, ch, m⟩ := i
  rw [affectedToMovedItem_mk]; rfl

/-! `mark_unchanged` and the relabelling of `rewrite_diff` are maps, `strip_unchanged` is a filter and a map -/

theorem markUnchanged_eq_map (d : List DItem) : markUnchanged d = d.map markItem := by
  induction d with
  | nil => rw [markUnchanged_nil]; rfl
  | cons i rest ih => rw [markUnchanged_cons, ih]; rfl

theorem affectedToMoved_eq_map (d : List DItem) : affectedToMoved d = d.map affectedToMovedItem := by
  induction d with
  | nil => rw [affectedToMoved_nil]; rfl
  | cons i rest ih => rw [affectedToMoved_cons, ih]; rfl

theorem stripUnchanged_eq (d : List DItem) :
    stripUnchanged d = (d.filter fun i => i.op != .unchanged).map stripItem := by
  induction d with
  | nil => rw [stripUnchanged_nil]; rfl
  | cons i rest ih =>
    rw [stripUnchanged_cons, List.filter_cons, ih]
    cases i.op <;> rfl

theorem affectedToMoved_rows (d : List DItem) : (affectedToMoved d).map (·.row) = d.map (·.row) := by
  rw [affectedToMoved_eq_map, List.map_map]
  exact List.map_congr_left fun i _ => affectedToMovedItem_row i

theorem markUnchanged_rows (d : List DItem) : (markUnchanged d).map (·.row) = d.map (·.row) := by
  rw [markUnchanged_eq_map, List.map_map]
  exact List.map_congr_left fun i _ => markItem_row i

theorem stripItem_mem (d : List DItem) (e : DItem) (h : e ∈ d) (hop : e.op ≠ .unchanged) :
    stripItem e ∈ stripUnchanged d := by
  rw [stripUnchanged_eq]
  exact List.mem_map_of_mem (List.mem_filter.2 ⟨h, by simpa using hop⟩)

theorem mem_of_stripUnchanged (d : List DItem) (e : DItem) (h : e ∈ stripUnchanged d) : ∃ j ∈ d, j.row = e.row := by
  rw [stripUnchanged_eq] at h
  obtain ⟨j, hj, rfl⟩ := List.mem_map.1 h
  exact ⟨j, (List.mem_filter.1 hj).1, (stripItem_row j).symm⟩

mutual
  theorem strip_idempotent_list : ∀ (d : List DItem), stripUnchanged (stripUnchanged d) = stripUnchanged d
    | [] => by rw [stripUnchanged_nil, stripUnchanged_nil]
    | i :: rest => by
      rw [stripUnchanged_cons]
      split
      · exact strip_idempotent_list rest
      · rename_i ho
        rw [stripUnchanged_cons, stripItem_op, if_neg ho, strip_idempotent_item i,
          strip_idempotent_list rest]
  theorem strip_idempotent_item : ∀ (i : DItem), stripItem (stripItem i) = stripItem i
    | .mk o r ch m => by
      rw [stripItem_mk, stripItem_mk, strip_idempotent_list ch]
end

theorem allAffected_iff (l : List DItem) :
    allAffected l = true ↔ ∀ i ∈ l, i.op = .affected ∧ allAffected i.children = true := by
  induction l with
  | nil => simp [allAffected_nil]
  | cons i rest ih =>
    obtain ⟨o, r, ch, m⟩ := i
    simp [allAffected_cons, allAffectedItem_mk, ih, and_assoc]

theorem allAffected_append (a b : List DItem) (ha : allAffected a = true) (hb : allAffected b = true) :
    allAffected (a ++ b) = true := by
  rw [allAffected_iff] at ha hb ⊢
  exact List.forall_mem_append.2 ⟨ha, hb⟩

mutual
  theorem markUnchanged_allAffected_list : ∀ (d : List DItem), allAffected d = true →
      (markUnchanged d).all (·.op == .unchanged) = true
    | [], _ => by simp [markUnchanged_nil]
    | i :: rest, h => by
      rw [allAffected_cons, Bool.and_eq_true] at h
      rw [markUnchanged_cons, List.all_cons, markUnchanged_allAffected_list rest h.2, Bool.and_true,
        beq_iff_eq]
      exact markUnchanged_allAffected_item i h.1
  theorem markUnchanged_allAffected_item : ∀ (i : DItem), allAffectedItem i = true →
      (markItem i).op = .unchanged
    | .mk o r ch m, h => by
      rw [allAffectedItem_mk, Bool.and_eq_true] at h
      rw [markItem_mk, if_pos h.1, markUnchanged_allAffected_list ch h.2]
      rfl
end

theorem strip_of_all_unchanged (l : List DItem) (h : l.all (·.op == .unchanged) = true) :
    stripUnchanged l = [] := by
  induction l with
  | nil => exact stripUnchanged_nil
  | cons i rest ih =>
    simp only [List.all_cons, Bool.and_eq_true] at h
    rw [stripUnchanged_cons, if_pos h.1]
    exact ih h.2

theorem noDupRowsL_iff (l : Level) :
    NoDupRowsL l ↔ (rowsOf l).Nodup ∧ ∀ x ∈ l, NoDupRows x.2.2 := by
  induction l with
  | nil => simp [NoDupRowsL, rowsOf]
  | cons e rest ih =>
    obtain ⟨r, m, c⟩ := e
    simp only [NoDupRowsL, ih, rowsOf, List.map_cons, List.nodup_cons, List.mem_map, List.mem_cons,
      forall_eq_or_imp]
    constructor
    · rintro ⟨h1, h2, h3, h4⟩
      exact ⟨⟨fun ⟨x, hx, hxr⟩ => h1 x hx hxr, h3⟩, h2, h4⟩
    · rintro ⟨⟨h1, h3⟩, h2, h4⟩
      exact ⟨fun x hx hxr => h1 ⟨x, hx, hxr⟩, h2, h3, h4⟩

theorem indexOf_append (pre : Level) (e : String × PMatch × ACfg) (rest : Level) (h : e.1 ∉ rowsOf pre) :
    indexOf (pre ++ e :: rest) e.1 = pre.length := by
  have hall : ∀ x ∈ pre, (x.1 != e.1) = true :=
    fun x hx => bne_iff_ne.2 fun hb => h (List.mem_map.2 ⟨x, hx, hb⟩)
  rw [indexOf, List.takeWhile_append_of_pos hall, List.takeWhile_cons_of_neg (by simp), List.append_nil]

theorem lookupA_append (pre : Level) (e : String × PMatch × ACfg) (rest : Level) (h : e.1 ∉ rowsOf pre) :
    lookupA (pre ++ e :: rest) e.1 = some e.2 := by
  have hn : pre.find? (·.1 == e.1) = none :=
    List.find?_eq_none.2 fun x hx hb => h (List.mem_map.2 ⟨x, hx, beq_iff_eq.1 hb⟩)
  rw [lookupA, List.find?_append, hn, Option.none_or, List.find?_cons_of_pos (by exact beq_self_eq_true e.1)]
  rfl

theorem lastOp_append_op (pops : List Pop) (o : Op) : lastOp (pops ++ [.op o]) = o := by
  simp [lastOp]

theorem lastOp_append_rewrite (pops : List Pop) (o : Op) : lastOp (pops ++ [.rewriteMarker, .op o]) = o := by
  simp [lastOp, List.getLast?_append]

/-- `default_diff` / `ordered_diff` are one run of `base_diff`; `rewrite_diff` runs
it below a marker that repeats the parent's op, and keeps, drops or relabels the result -/
theorem runLogic_ok {rec : Rec} {pops : List Pop} {lg : String} {o n : Level} {d : List DItem}
    (h : runLogic rec pops lg o n = .ok d) :
    (lg ≠ "common.rewrite_diff" ∧ ∃ m2a, baseDiff rec pops m2a o n = .ok d) ∨
    (lg = "common.rewrite_diff" ∧
      ∃ d', baseDiff rec (pops ++ [.rewriteMarker, .op (lastOp pops)]) false o n = .ok d' ∧
        (d = d' ∨ (allAffected d' = true ∧ d = []) ∨ (allAffected d' = false ∧ d = affectedToMoved d'))) := by
  unfold runLogic at h
  by_cases h1 : lg = "common.default_diff"
  · subst h1
    exact .inl ⟨by decide, true, h⟩
  by_cases h2 : lg = "common.ordered_diff"
  · subst h2
    exact .inl ⟨by decide, false, h⟩
  by_cases h3 : lg = "common.rewrite_diff"
  · subst h3
    refine .inr ⟨rfl, ?_⟩
    simp only [beq_iff_eq, h1, h2, if_false, if_true] at h
    cases hb : baseDiff rec (pops ++ [.rewriteMarker, .op (lastOp pops)]) false o n with
    | error e => rw [hb] at h; cases h
    | ok d' =>
      simp only [hb] at h
      refine ⟨d', rfl, ?_⟩
      by_cases hm : pops.contains .rewriteMarker = true
      · rw [if_pos hm] at h; cases h; exact .inl rfl
      · rw [if_neg hm] at h
        cases ha : allAffected d' with
        | true => rw [ha, if_pos rfl] at h; cases h; exact .inr (.inl ⟨rfl, rfl⟩)
        | false => rw [ha] at h; cases h; exact .inr (.inr ⟨rfl, rfl⟩)
  · simp only [beq_iff_eq, h1, h2, h3, if_false] at h
    cases h

theorem runLogics_induction {rec : Rec} {pops : List Pop} {old new : Level}
    {P : List String → List DItem → Prop} (nil : P [] [])
    (cons : ∀ l ls d ds,
      runLogic rec pops l (old.filter (·.2.1.attrs.diffLogic == l)) (new.filter (·.2.1.attrs.diffLogic == l)) = .ok d →
      P ls ds → P (l :: ls) (d ++ ds)) :
    ∀ (ls : List String) (d : List DItem), runLogics rec pops old new ls = .ok d → P ls d
  | [], d, h => by
    rw [runLogics] at h
    cases h
    exact nil
  | l :: ls, d, h => by
    rw [runLogics] at h
    split at h
    · cases h
    · rename_i d1 hd1
      split at h
      · cases h
      · rename_i ds hds
        cases h
        exact cons l ls d1 ds hd1 (runLogics_induction nil cons ls ds hds)

theorem hasRow_of_mem {l : Level} {e : String × PMatch × ACfg} (he : e ∈ l) : hasRow l e.1 = true :=
  hasRow_iff.2 (List.mem_map.2 ⟨e, he, rfl⟩)

theorem lookupA_of_mem {l : Level} (hn : (rowsOf l).Nodup) {e : String × PMatch × ACfg} (he : e ∈ l) :
    lookupA l e.1 = some e.2 := by
  obtain ⟨pre, rest, rfl⟩ := List.append_of_mem he
  refine lookupA_append pre e rest ?_
  simp only [rowsOf, List.map_append, List.map_cons] at hn
  intro hmem
  exact (List.nodup_append.1 hn).2.2 e.1 hmem e.1 List.mem_cons_self rfl

theorem oldKids_of_mem {l : Level} (hn : (rowsOf l).Nodup) {e : String × PMatch × ACfg} (he : e ∈ l) :
    kidsOf l e.1 = e.2.2.kids := by
  simp [kidsOf, lookupA_of_mem hn he]

theorem noDupRows_iff_kids (c : ACfg) : NoDupRows c ↔ NoDupRowsL c.kids := by
  obtain ⟨ks⟩ := c
  rw [NoDupRows]; rfl

theorem noDupRowsL_rows {l : Level} (h : NoDupRowsL l) : (rowsOf l).Nodup := ((noDupRowsL_iff l).1 h).1

theorem noDupRowsL_kids {l : Level} (h : NoDupRowsL l) {e : String × PMatch × ACfg} (he : e ∈ l) :
    NoDupRowsL e.2.2.kids := (noDupRows_iff_kids _).1 (((noDupRowsL_iff l).1 h).2 e he)

theorem mem_of_hasRow {l : Level} {r : String} (h : hasRow l r = true) : ∃ e ∈ l, e.1 = r :=
  List.mem_map.1 (hasRow_iff.1 h)

theorem oldKids_of_not_hasRow {l : Level} {r : String} (h : hasRow l r = false) : kidsOf l r = [] := by
  have : lookupA l r = none := by
    simp only [lookupA, Option.map_eq_none_iff, List.find?_eq_none]
    intro e he hb
    have := hasRow_of_mem he
    rw [beq_iff_eq.1 hb, h] at this
    cases this
  simp [kidsOf, this]

theorem oldKids_cases (l : Level) (r : String) :
    kidsOf l r = [] ∨ ∃ e ∈ l, e.1 = r ∧ kidsOf l r = e.2.2.kids := by
  unfold kidsOf lookupA
  cases hf : l.find? (·.1 == r) with
  | none => left; rfl
  | some e =>
    right
    refine ⟨e, List.mem_of_find?_eq_some hf, ?_, rfl⟩
    have := List.find?_some hf
    exact beq_iff_eq.1 this

/-- the diff logic of the entry's rule: the key `call_diff_logic` groups by -/
def keyOf (e : String × PMatch × ACfg) : String := e.2.1.attrs.diffLogic

theorem mem_logicsOf {old new : Level} {k : String} :
    k ∈ logicsOf old new ↔ ∃ e, (e ∈ old ∨ e ∈ new) ∧ keyOf e = k := by
  unfold logicsOf
  rw [List.mem_eraseDups, List.mem_map]
  simp only [List.mem_append, keyOf]

def KnownKey (k : String) : Prop :=
  k = "common.default_diff" ∨ k = "common.ordered_diff" ∨ k = "common.rewrite_diff"

theorem runLogic_total {rec : Rec} {pops : List Pop} {lg : String} {o n : Level} (hlg : KnownKey lg)
    (hb : ∀ pops' m2a, ∃ d, baseDiff rec pops' m2a o n = .ok d) : ∃ d, runLogic rec pops lg o n = .ok d := by
  unfold runLogic
  rcases hlg with rfl | rfl | rfl
  · rw [if_pos (by decide)]; exact hb pops true
  · rw [if_neg (by decide), if_pos (by decide)]; exact hb pops false
  · obtain ⟨d, hd⟩ := hb (pops ++ [.rewriteMarker, .op (lastOp pops)]) false
    rw [if_neg (by decide), if_neg (by decide), if_pos (by decide)]
    simp only [hd]
    split
    · exact ⟨_, rfl⟩
    · split <;> exact ⟨_, rfl⟩

theorem runLogics_total {rec : Rec} {pops : List Pop} {old new : Level} : ∀ (ls : List String),
    (∀ l ∈ ls, ∃ d, runLogic rec pops l (old.filter (·.2.1.attrs.diffLogic == l))
      (new.filter (·.2.1.attrs.diffLogic == l)) = .ok d) → ∃ d, runLogics rec pops old new ls = .ok d
  | [], _ => ⟨[], by rw [runLogics]⟩
  | l :: ls, h => by
    obtain ⟨d, hd⟩ := h l List.mem_cons_self
    obtain ⟨ds, hds⟩ := runLogics_total ls fun l' hl' => h l' (List.mem_cons_of_mem _ hl')
    exact ⟨d ++ ds, by rw [runLogics, hd, hds]⟩

/-- `K`: a family of levels whose rows carry one of the three diff logics and whose blocks are in the family again -/
theorem callDiffLogic_total {K : Level → Prop} (hnil : K [])
    (hK : ∀ l, K l → ∀ e ∈ l, KnownKey (keyOf e) ∧ K e.2.2.kids) :
    ∀ (fuel : Nat) (pops : List Pop) (old new : Level), K old → K new →
      ∃ d, callDiffLogic fuel pops old new = .ok d
  | 0, _, _, _, _, _ => ⟨[], by rw [callDiffLogic]⟩
  | fuel + 1, pops, old, new, ho, hn => by
    rw [callDiffLogic]
    refine runLogics_total _ fun lg hlg => ?_
    obtain ⟨e, he, rfl⟩ := mem_logicsOf.1 hlg
    have hkey : KnownKey (keyOf e) := he.elim (fun h => (hK old ho e h).1) (fun h => (hK new hn e h).1)
    refine runLogic_total hkey fun pops' m2a => baseDiff_total ?_ ?_
    · intro x hx p
      exact callDiffLogic_total hnil hK fuel p _ _ (hK old ho x (List.mem_filter.1 hx).1).2 hnil
    · intro x hx p
      refine callDiffLogic_total hnil hK fuel p _ _ ?_ (hK new hn x (List.mem_filter.1 hx).1).2
      rcases oldKids_cases (old.filter (·.2.1.attrs.diffLogic == keyOf e)) x.1 with h | ⟨e', he', -, h⟩
      · rw [h]; exact hnil
      · rw [h]; exact (hK old ho e' (List.mem_filter.1 he').1).2

/-- an item of one run of `base_diff` on `(o, n)`; `Q` is what is known of the recursive calls, which see of the op stack
only its last entry, the op of the item -/
inductive Item (Q : Op → Level → Level → List DItem → Prop) (pops : List Pop) (m2a : Bool) (o n : Level) :
    DItem → Prop
  | removed {e : Ent} {cs : List DItem} : e ∈ o → hasRow n e.1 = false →
      Q .removed e.2.2.kids [] cs → Item Q pops m2a o n (.mk .removed e.1 cs e.2.1)
  | kept {e : Ent} {cs : List DItem} (k : Nat) : n[k]? = some e →
      Q (opAt pops m2a o (disorderUpTo o n k) e.1) (kidsOf o e.1) e.2.2.kids cs →
      Item Q pops m2a o n (.mk (opAt pops m2a o (disorderUpTo o n k) e.1) e.1 cs e.2.1)

theorem baseDiff_items {Q : Op → Level → Level → List DItem → Prop} {rec : Rec}
    (hrec : ∀ p a b cs, rec p a b = .ok cs → Q (lastOp p) a b cs) {pops : List Pop} {m2a : Bool} {o n : Level}
    {d : List DItem} (h : baseDiff rec pops m2a o n = .ok d) : ∀ i ∈ d, Item Q pops m2a o n i := by
  obtain ⟨rs, ns, hr, hn, rfl⟩ := baseDiff_iff.1 h
  intro i hi
  obtain ⟨x, hx, rfl⟩ := List.mem_map.1 hi
  rcases List.mem_append.1 ((sortIdx_perm _).mem_iff.1 hx) with hx | hx
  · obtain ⟨p, hp, cs, hcs, rfl⟩ := hr.mem_left hx
    obtain ⟨hp, hnew⟩ := List.mem_filter.1 hp
    have he : p.1 ∈ o := List.mem_of_getElem? (List.mem_zipIdx_iff_getElem?.1 hp)
    exact .removed he (by simpa using hnew) (by simpa only [lastOp_append_op] using hrec _ _ _ _ hcs)
  · obtain ⟨p, hp, k, cs, hk, hcs, rfl⟩ := hn.mem_left hx
    have hget : n[k]? = some p.1 := by
      have := List.mem_zipIdx_iff_getElem?.1 hp
      rwa [hk, Nat.zero_add] at this
    rw [disClosed_top] at hcs ⊢
    exact .kept k hget (by simpa only [lastOp_append_op] using hrec _ _ _ _ hcs)

/-- Induction over a run of `call_diff_logic`, for properties that are judged item by item and see of the op stack only
its last entry, the parent's op (`rewrite_diff` runs `base_diff` below a marker that repeats it).  `items`: one run of
`base_diff` on the group of a diff logic, its items read against the two sides of the group, their children satisfying
`P` and being the run one level down (one unit of fuel less); `relabel`: what `rewrite_diff` may do to that run, so the
level has a row compared with `rewrite_diff`. -/
theorem callDiffLogic_induct {P : Nat → Op → Level → Level → List DItem → Prop}
    (nil : ∀ f op old new, P f op old new [])
    (append : ∀ {f op old new a b}, P f op old new a → P f op old new b → P f op old new (a ++ b))
    (relabel : ∀ {f op old new d}, "common.rewrite_diff" ∈ logicsOf old new → allAffected d = false →
      P f op old new d → P f op old new (affectedToMoved d))
    (items : ∀ {f pops m2a old new} (lg : String) {d},
      (∀ i ∈ d, Item (fun op a b cs => P f op a b cs ∧ ∃ p, lastOp p = op ∧ callDiffLogic f p a b = .ok cs) pops m2a
        (old.filter (·.2.1.attrs.diffLogic == lg)) (new.filter (·.2.1.attrs.diffLogic == lg)) i) →
      P (f + 1) (lastOp pops) old new d) :
    ∀ (fuel : Nat) (pops : List Pop) (old new : Level) (d : List DItem),
      callDiffLogic fuel pops old new = .ok d → P fuel (lastOp pops) old new d := by
  intro fuel
  induction fuel with
  | zero => intro pops old new d h; rw [callDiffLogic] at h; cases h; exact nil _ _ _ _
  | succ fuel ih =>
    intro pops old new d h
    rw [callDiffLogic] at h
    refine runLogics_induction
      (P := fun ls d => (∀ l ∈ ls, l ∈ logicsOf old new) → P (fuel + 1) (lastOp pops) old new d)
      (fun _ => nil _ _ _ _) ?_ _ d h fun _ h => h
    intro lg _ d1 ds hd1 hds hmem
    refine append ?_ (hds fun l hl => hmem l (List.mem_cons_of_mem _ hl))
    have hrec : ∀ p a b cs, callDiffLogic fuel p a b = .ok cs →
        P fuel (lastOp p) a b cs ∧ ∃ p', lastOp p' = lastOp p ∧ callDiffLogic fuel p' a b = .ok cs :=
      fun p a b cs h => ⟨ih p a b cs h, p, rfl, h⟩
    rcases runLogic_ok hd1 with ⟨-, m2a, hb⟩ | ⟨rfl, d', hb, hd⟩
    · exact items lg (baseDiff_items hrec hb)
    · have hd' := items _ (baseDiff_items hrec hb)
      rw [lastOp_append_rewrite] at hd'
      rcases hd with rfl | ⟨-, rfl⟩ | ⟨hf, rfl⟩
      · exact hd'
      · exact nil _ _ _ _
      · exact relabel (hmem _ List.mem_cons_self) hf hd'

theorem indexOf_getElem? {f : Level} (hnd : (rowsOf f).Nodup) {j : Nat} {e : Ent} (h : f[j]? = some e) :
    indexOf f e.1 = j := by
  obtain ⟨hj, rfl⟩ := List.getElem?_eq_some_iff.1 h
  have hsplit : f = f.take j ++ f[j] :: f.drop (j + 1) := by
    rw [← List.drop_eq_getElem_cons, List.take_append_drop]
  have hlen : (f.take j).length = j := by rw [List.length_take]; omega
  rw [hsplit] at hnd
  simp only [rowsOf, List.map_append, List.map_cons] at hnd
  have := indexOf_append (f.take j) f[j] (f.drop (j + 1))
    (fun hmem => (List.nodup_append.1 hnd).2.2 _ hmem _ List.mem_cons_self rfl)
  rw [← hsplit, hlen] at this
  exact this

theorem disorderUpTo_self {f : Level} (hnd : (rowsOf f).Nodup) (k : Nat) : disorderUpTo f f k = false := by
  unfold disorderUpTo
  rw [List.any_eq_false]
  intro j _
  split
  · simp
  · rename_i e he
    simp [hasRow_of_mem (List.mem_of_getElem? he), indexOf_getElem? hnd he]

/-- whatever the fuel: when it runs out the callee answers `[]` -/
theorem callDiffLogic_self (fuel : Nat) (pops : List Pop) (a : ACfg) (d : List DItem) (hp : lastOp pops = .affected)
    (hnd : NoDupRows a) (h : callDiffLogic fuel pops a.kids a.kids = .ok d) : allAffected d = true := by
  refine callDiffLogic_induct
    (P := fun _ op old new d => old = new → op = .affected → NoDupRowsL old → allAffected d = true)
    (fun _ _ _ _ _ _ _ => allAffected_nil) (fun ha hb e p n => allAffected_append _ _ (ha e p n) (hb e p n))
    (fun _ hf hd e p n => by rw [hd e p n] at hf; cases hf) ?_ fuel pops _ _ d h rfl hp
    ((noDupRows_iff_kids a).1 hnd)
  rintro _ pops m2a old _ lg d hit rfl hp hnd
  have hnd' : (rowsOf (old.filter (·.2.1.attrs.diffLogic == lg))).Nodup :=
    (noDupRowsL_rows hnd).sublist (List.filter_sublist.map _)
  rw [allAffected_iff]
  intro i hi
  cases hit i hi with
  | removed he hnew _ => rw [hasRow_of_mem he] at hnew; cases hnew
  | @kept e cs k hget hq =>
    have he := List.mem_of_getElem? hget
    -- no row of a level is in disorder against the level itself, so the op is the parent's
    have hop : opAt pops m2a (old.filter (·.2.1.attrs.diffLogic == lg))
        (disorderUpTo (old.filter (·.2.1.attrs.diffLogic == lg)) (old.filter (·.2.1.attrs.diffLogic == lg)) k) e.1
        = .affected := by
      simp [opAt, hasRow_of_mem he, disorderUpTo_self hnd', hp]
    rw [hop, oldKids_of_mem hnd' he] at hq
    rw [hop]
    exact ⟨rfl, hq.1 rfl rfl (noDupRowsL_kids hnd (List.mem_filter.1 he).1)⟩

end Annet.Diff.Lemmas

namespace Annet.Converge.Lemmas
open Annet Annet.Rules Annet.Diff Annet.Diff.Spec Annet.Diff.Lemmas

theorem eraseDups_const {α} [BEq α] [LawfulBEq α] (a : α) : ∀ (l : List α), (∀ x ∈ l, x = a) →
    l.eraseDups = if l.isEmpty then [] else [a]
  | [], _ => by simp
  | x :: rest, h => by
    obtain rfl : x = a := h x List.mem_cons_self
    have : rest.filter (fun b => !b == x) = [] :=
      List.filter_eq_nil_iff.2 fun b hb => by simp [h b (List.mem_cons_of_mem _ hb)]
    simp [List.eraseDups_cons, this]

/-- with the default diff logic on every row `call_diff_logic` is one call of `base_diff` -/
theorem callDiffLogic_default (fuel : Nat) (pops : List Pop) (old new : Level)
    (h : ∀ x ∈ old ++ new, x.2.1.attrs.diffLogic = "common.default_diff") :
    callDiffLogic (fuel + 1) pops old new = baseDiff (callDiffLogic fuel) pops true old new := by
  have hall : ∀ l ∈ (old ++ new).map (·.2.1.attrs.diffLogic), l = "common.default_diff" :=
    List.forall_mem_map.2 h
  rw [callDiffLogic, logicsOf, eraseDups_const _ _ hall]
  by_cases hemp : ((old ++ new).map (·.2.1.attrs.diffLogic)).isEmpty = true
  · rw [if_pos hemp, runLogics]
    simp only [List.isEmpty_iff, List.map_eq_nil_iff, List.append_eq_nil_iff] at hemp
    obtain ⟨rfl, rfl⟩ := hemp
    rfl
  · have fo : old.filter (·.2.1.attrs.diffLogic == "common.default_diff") = old :=
      List.filter_eq_self.2 fun e he => beq_iff_eq.2 (h e (List.mem_append_left _ he))
    have fn : new.filter (·.2.1.attrs.diffLogic == "common.default_diff") = new :=
      List.filter_eq_self.2 fun e he => beq_iff_eq.2 (h e (List.mem_append_right _ he))
    rw [if_neg hemp, runLogics, runLogics, fo, fn]
    simp only [Diff.runLogic, beq_self_eq_true, if_true]
    cases baseDiff (callDiffLogic fuel) pops true old new <;> simp

end Annet.Converge.Lemmas
