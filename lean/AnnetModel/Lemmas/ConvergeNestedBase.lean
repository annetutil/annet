/-
Nested convergence (C01 stage 2): the descent through a nested rulebook and the configurations over it.

A row matched by exactly one local rule of a level without `%global` rules gets that rule's children as child rules
(`classify_unique`), so `NestedRules` and `CmdsOKAll` descend (`child_rules`); `LevelRules` is what one level of the patch
computation uses of its rulebook, and any level without `%global` rules whose rules have the two logics and agree where
their texts do gives it (`levelRules_of_loc`: the nested and the flat rulebook).  `GoodC` and `SameC` unpacked level by
level (`goodL_mem`, `sameL_of`, `sameL_mem`).
-/
import AnnetModel.Spec.ConvergeNested
import AnnetModel.Lemmas.Device

namespace Annet.ConvergeNested.Lemmas

open Annet Annet.Rules Annet.Device Annet.Device.Abs Annet.Converge Annet.ConvergeNested
open Annet.Converge.Lemmas Annet.Device.Lemmas Annet.Patch

variable {rules : PRules} {v : Vendor} {env : Env}

theorem prulesBeq_nil_left (b : List PRule) (h : prulesBeq [] b = true) : b = [] := by
  cases b with
  | nil => rfl
  | cons y ys => simp [prulesBeq] at h

theorem mergePDicts_nil_left (n : Nat) (b : List PRule) : mergePDicts (n + 1) [] b = b := by
  rw [mergePDicts]
  split
  · rename_i h; exact (prulesBeq_nil_left b h).symm
  · simp [findP]

theorem mergeP_nil_left (b : List PRule) : mergeP [] b = b := mergePDicts_nil_left _ b

theorem classify_unique {row : String} {m : PMatch} {cr : PRules}
    (hg : rules.glob = []) (hu : uniqueMatch rules row) (h : classify rules row = some (m, cr)) :
    ∃ f ∈ rules.loc, m.rawRule = f.rawRule ∧ m.attrs = f.attrs ∧
      ∀ cl, f.children = some (cl, []) → cr = ⟨cl, []⟩ := by
  replace hu : (rules.loc.filter (ruleMatches row)).length = 1 := hu
  unfold classify at h
  split at h
  · rename_i m' cr' hm
    cases h
    unfold matchRow at hm
    simp only at hm
    split at hm
    · cases hm
    · cases hm
    · cases hm
    · rename_i f fcr fkey more hgo
      have hs := congrArg (List.map fun x => (x.1, x.2.1)) (go_some row _ _ _ hgo)
      rw [hg, List.reverse_nil, List.nil_append, hits_map] at hs
      simp only [List.map_nil, List.append_nil, List.filter_map, List.map_map] at hs
      have hf : (rules.loc.filter ((fun p : PRule × Bool => ruleMatches row p.1) ∘ fun x => (x, false))) =
          rules.loc.filter (ruleMatches row) := rfl
      obtain ⟨g, hgl⟩ := List.length_eq_one_iff.1 hu
      rw [hf, hgl] at hs
      simp only [List.map_cons, List.map_nil, Function.comp_def, Bool.not_false, List.cons.injEq,
        Prod.mk.injEq, List.map_eq_nil_iff] at hs
      obtain ⟨⟨rfl, rfl⟩, rfl⟩ := hs
      have hfm : f ∈ rules.loc := by
        have : f ∈ rules.loc.filter (ruleMatches row) := by rw [hgl]; exact List.mem_cons_self
        exact (List.mem_filter.1 this).1
      refine ⟨f, hfm, ?_, ?_, ?_⟩
      · cases hm; rfl
      · cases hm; rfl
      · intro cl hcl
        simp only [if_true, List.foldl_cons, List.foldl_nil, hcl, mergeP_nil_left, hg] at hm
        cases hm
        rfl
  · cases h


/-- a predicate on lists that says `Q` of the head and itself of the tail says `Q` of every member: the shape of
`NestedRulesL`, `DistinctRawL`, `CmdsOKL` -/
theorem forall_mem_of_cons {α : Type} {P : List α → Prop} {Q : α → Prop} (h : ∀ a l, P (a :: l) → Q a ∧ P l) :
    ∀ {l : List α}, P l → ∀ a ∈ l, Q a
  | [], _, a, ha => by cases ha
  | a0 :: l, hl, a, ha => by
    rcases List.mem_cons.1 ha with rfl | ha
    · exact (h _ _ hl).1
    · exact forall_mem_of_cons h (h _ _ hl).2 a ha

theorem nestedRulesL_mem {l : List PRule} : NestedRulesL l → ∀ r ∈ l, NestedRule r :=
  forall_mem_of_cons fun _ _ h => by rwa [NestedRulesL] at h

theorem nestedRule_unpack {r : PRule} (h : NestedRule r) :
    r.ignore = false ∧ r.attrs.diffLogic = "common.default_diff" ∧
    (r.attrs.logic = "common.default" ∨ r.attrs.logic = "common.undo_redo") ∧ r.attrs.forceCommit = false ∧
    ∃ cl, r.children = some (cl, []) ∧ NestedRulesL cl := by
  obtain ⟨raw, ign, attrs, ch⟩ := r
  cases ch with
  | none =>
    rw [NestedRule] at h
    exact h.2.2.2.2.elim
  | some p =>
    obtain ⟨cl, cg⟩ := p
    rw [NestedRule] at h
    obtain ⟨h1, h2, h3, h4, rfl, h6⟩ := h
    exact ⟨h1, h2, h3, h4, cl, rfl, h6⟩

theorem distinctRawL_mem {l : List PRule} : DistinctRawL l → ∀ r ∈ l, DistinctRawR r :=
  forall_mem_of_cons fun _ _ h => by rw [DistinctRawL] at h; exact h.2

theorem distinctRawL_inj : ∀ {l : List PRule}, DistinctRawL l → ∀ r ∈ l, ∀ r' ∈ l, r.rawRule = r'.rawRule → r = r'
  | [], _, r, hr, _, _, _ => by cases hr
  | r0 :: rest, h, r, hr, r', hr', he => by
    rw [DistinctRawL] at h
    rcases List.mem_cons.1 hr with h1 | h1 <;> rcases List.mem_cons.1 hr' with h2 | h2
    · rw [h1, h2]
    · subst h1; exact (h.1 r' h2 he.symm).elim
    · subst h2; exact (h.1 r h1 he).elim
    · exact distinctRawL_inj h.2.2 r h1 r' h2 he

theorem distinctRawR_children {r : PRule} {cl cg : List PRule} (h : DistinctRawR r) (hc : r.children = some (cl, cg)) :
    DistinctRawL cl := by
  obtain ⟨raw, ign, attrs, ch⟩ := r
  simp only [PRule.children] at hc
  subst hc
  rw [DistinctRawR] at h
  exact h

theorem cmdsOKL_mem {v : Vendor} {env : Env} {l : List PRule} : CmdsOKL v env l → ∀ r ∈ l, CmdsOKR v env r :=
  forall_mem_of_cons fun _ _ h => by rwa [CmdsOKL] at h

theorem cmdsOKR_children {r : PRule} {cl cg : List PRule} (h : CmdsOKR v env r)
    (hc : r.children = some (cl, cg)) : CmdsOKAll v env ⟨cl, cg⟩ := by
  obtain ⟨raw, ign, attrs, ch⟩ := r
  simp only [PRule.children] at hc
  subst hc
  rw [CmdsOKR] at h
  exact h

/-- what one level of the patch computation uses of its rulebook; nested and flat rulebooks both give it -/
structure LevelRules (rules : PRules) : Prop where
  logic : ∀ {row : String} {m : PMatch} {cr : PRules}, classify rules row = some (m, cr) →
    m.attrs.diffLogic = "common.default_diff" ∧
    (m.attrs.logic = "common.default" ∨ m.attrs.logic = "common.undo_redo") ∧ m.attrs.forceCommit = false
  sameRaw : ∀ {row row' : String} {m m' : PMatch} {cr cr' : PRules}, classify rules row = some (m, cr) →
    classify rules row' = some (m', cr') → m.rawRule = m'.rawRule → m.attrs = m'.attrs

theorem classify_loc {row : String} {m : PMatch} {cr : PRules} (hg : rules.glob = [])
    (h : classify rules row = some (m, cr)) : ∃ f ∈ rules.loc, m.rawRule = f.rawRule ∧ m.attrs = f.attrs := by
  obtain ⟨f, hf, hraw, ha⟩ := classify_rule h
  rw [hg] at hf
  exact ⟨f, hf.resolve_right nofun, hraw, ha⟩

/-- a level without `%global` rules whose rules have the two logics and agree where their texts do -/
theorem levelRules_of_loc (hg : rules.glob = [])
    (hl : ∀ r ∈ rules.loc, r.attrs.diffLogic = "common.default_diff" ∧
      (r.attrs.logic = "common.default" ∨ r.attrs.logic = "common.undo_redo") ∧ r.attrs.forceCommit = false)
    (hraw : ∀ r ∈ rules.loc, ∀ r' ∈ rules.loc, r.rawRule = r'.rawRule → r.attrs = r'.attrs) : LevelRules rules where
  logic h := by
    obtain ⟨f, hf, -, ha⟩ := classify_loc hg h
    rw [ha]; exact hl f hf
  sameRaw h h' he := by
    obtain ⟨f, hf, hr, ha⟩ := classify_loc hg h
    obtain ⟨f', hf', hr', ha'⟩ := classify_loc hg h'
    rw [ha, ha']; exact hraw f hf f' hf' (by rw [← hr, ← hr', he])

theorem levelRules_of_nested (hr : NestedRules rules) : LevelRules rules :=
  levelRules_of_loc hr.1
    (fun r h => by
      obtain ⟨-, h1, h2, h3, -⟩ := nestedRule_unpack (nestedRulesL_mem hr.2.1 r h)
      exact ⟨h1, h2, h3⟩)
    fun r h r' h' he => by rw [distinctRawL_inj hr.2.2 r h r' h' he]

theorem LevelRules.not_rewrite (hlr : LevelRules rules) (c : String) : isRewriteCmd rules c = false :=
  isRewriteCmd_eq_false (fun hcl => by rcases (hlr.logic hcl).2.1 with h | h <;> simp [h]) c

theorem child_rules {rules : PRules} (hr : NestedRules rules) {row : String} {m : PMatch} {cr : PRules}
    (hu : uniqueMatch rules row) (h : classify rules row = some (m, cr)) :
    NestedRules cr ∧ ∀ v env, CmdsOKAll v env rules → CmdsOKAll v env cr := by
  obtain ⟨f, hf, -, -, hcr⟩ := classify_unique hr.1 hu h
  obtain ⟨-, -, -, -, cl, hcl, hnl⟩ := nestedRule_unpack (nestedRulesL_mem hr.2.1 f hf)
  have := hcr cl hcl
  subst this
  refine ⟨⟨rfl, hnl, distinctRawR_children (distinctRawL_mem hr.2.2 f hf) hcl⟩, ?_⟩
  intro v env hc
  exact cmdsOKR_children (cmdsOKL_mem hc.2 f hf) hcl

theorem goodL_mem {rules : PRules} : ∀ {l : List (String × Cfg)}, GoodL rules l → ∀ row c, (row, c) ∈ l →
    ∃ m cr, classify rules row = some (m, cr) ∧ uniqueMatch rules row ∧ GoodC cr c
  | [], _, row, c, h => by cases h
  | (row0, c0) :: rest, hg, row, c, h => by
    rw [GoodL] at hg
    rcases List.mem_cons.1 h with h1 | h1
    · cases h1
      have := hg.1
      split at this
      · rename_i m cr hcl; exact ⟨m, cr, hcl, this⟩
      · exact this.elim
    · exact goodL_mem hg.2 row c h1

theorem goodL_nil (rules : PRules) : GoodL rules [] := by rw [GoodL]; trivial

theorem goodC_mk {ks : List (String × Cfg)} : GoodC rules (.mk ks) ↔ WF rules ks ∧ GoodL rules ks := by
  rw [GoodC]

theorem goodC_nil (rules : PRules) : GoodC rules (.mk []) := goodC_mk.2 ⟨wf_nil rules, goodL_nil rules⟩

theorem sameL_of {rules : PRules} {b : List (String × Cfg)} : ∀ {a : List (String × Cfg)},
    (∀ row ca, (row, ca) ∈ a → ∀ cb, (row, cb) ∈ b → ∀ m cr, classify rules row = some (m, cr) → SameC cr ca cb) →
    SameL rules a b
  | [], _ => by rw [SameL]; trivial
  | (row, ca) :: rest, h => by
    rw [SameL]
    refine ⟨?_, sameL_of fun row' ca' hm => h row' ca' (List.mem_cons_of_mem _ hm)⟩
    intro cb hcb
    split
    · rename_i m cr hcl
      exact h row ca List.mem_cons_self cb hcb m cr hcl
    · trivial

theorem sameL_mem {rules : PRules} {b : List (String × Cfg)} : ∀ {a : List (String × Cfg)}, SameL rules a b →
    ∀ {row : String} {ca cb : Cfg} {m : PMatch} {cr : PRules}, (row, ca) ∈ a → (row, cb) ∈ b →
    classify rules row = some (m, cr) → SameC cr ca cb
  | [], _, _, _, _, _, _, h, _, _ => by cases h
  | (row0, c0) :: rest, hs, row, ca, cb, m, cr, ha, hb, hcl => by
    rw [SameL] at hs
    rcases List.mem_cons.1 ha with h1 | h1
    · cases h1
      have := hs.1 cb hb
      rw [hcl] at this
      exact this
    · exact sameL_mem hs.2 h1 hb hcl

theorem sameC_mk {a b : List (String × Cfg)} :
    SameC rules (.mk a) (.mk b) ↔ (∀ s, holder rules a s = holder rules b s) ∧ SameL rules a b := by
  rw [SameC]

theorem sameC_nil (rules : PRules) : SameC rules (.mk []) (.mk []) := sameC_mk.2 ⟨fun _ => rfl, sameL_of nofun⟩

end Annet.ConvergeNested.Lemmas
