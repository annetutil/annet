/-
`annotate` / `annotateList` (`apply_diff_rb` for one side): a run as a relation.  `AnnL rules l` says that every row of `l`
carries the match `matchRow` gives it under the rules of its level, and its children likewise under the child rules;
`annotate` produces such levels (`annotate_annC`).  Two levels annotated under the same rules agree on the match of a
common row, at every depth (`Coh`).  Which rows are kept depends only on the row and the rules (`annotate_hasRow`).
-/
import AnnetModel.Lemmas.Diff

namespace Annet.Diff.Lemmas
open Annet Annet.Rules Annet.Diff Annet.Diff.Spec

mutual
  /-- every row carries the match `matchRow` gives it under the rules of its level, children under the child rules -/
  def AnnC : PRules → ACfg → Prop
    | rules, .mk ks => AnnL rules ks
  def AnnL : PRules → List (String × PMatch × ACfg) → Prop
    | _, [] => True
    | rules, (r, m, c) :: rest => (∃ cr, matchRow r rules = .found m cr ∧ AnnC cr c) ∧ AnnL rules rest
end

theorem annC_iff (rules : PRules) (c : ACfg) : AnnC rules c ↔ AnnL rules c.kids := by
  obtain ⟨ks⟩ := c
  rw [AnnC]; rfl

theorem annL_iff (rules : PRules) (l : Level) :
    AnnL rules l ↔ ∀ e ∈ l, ∃ cr, matchRow e.1 rules = .found e.2.1 cr ∧ AnnL cr e.2.2.kids := by
  induction l with
  | nil => simp [AnnL]
  | cons e rest ih =>
    obtain ⟨r, m, c⟩ := e
    simp only [AnnL, ih, List.mem_cons, forall_eq_or_imp, annC_iff]

mutual
  theorem annotate_annC : ∀ (rules : PRules) (c : Cfg) (a : ACfg), annotate rules c = .ok a → AnnC rules a
    | rules, .mk ks, a, h => (annC_iff rules a).2 (annotateList_annL rules ks a.kids (annotate_ok h))
  theorem annotateList_annL : ∀ (rules : PRules) (ks : List (String × Cfg)) (l : Level),
      annotateList rules ks = .ok l → AnnL rules l
    | rules, [], l, h => by
      rw [annotateList] at h
      cases h
      rw [AnnL]; trivial
    | rules, (row, ch) :: rest, l, h => by
      rcases annotateList_cons_ok.1 h with ⟨-, h⟩ | ⟨m, cr, ch', rest', hm, hch, hrest, rfl⟩
      · exact annotateList_annL rules rest l h
      · rw [AnnL]
        exact ⟨⟨cr, hm, annotate_annC cr ch ch' hch⟩, annotateList_annL rules rest rest' hrest⟩
end

def Coh (old new : Level) : Prop := ∃ rules, AnnL rules old ∧ AnnL rules new

theorem coh_of_annotate {rules : PRules} {old new : Cfg} {ao an : ACfg}
    (ha : annotate rules old = .ok ao) (hn : annotate rules new = .ok an) : Coh ao.kids an.kids :=
  ⟨rules, (annC_iff _ _).1 (annotate_annC _ _ _ ha), (annC_iff _ _).1 (annotate_annC _ _ _ hn)⟩

theorem annL_nil (rules : PRules) : AnnL rules [] := by rw [AnnL]; trivial

theorem Coh.match_eq {old new : Level} (h : Coh old new) {e e' : String × PMatch × ACfg}
    (he : e ∈ old) (he' : e' ∈ new) (hr : e.1 = e'.1) : e.2.1 = e'.2.1 ∧ Coh e.2.2.kids e'.2.2.kids := by
  obtain ⟨rules, ho, hn⟩ := h
  obtain ⟨cr, h1, h2⟩ := (annL_iff _ _).1 ho e he
  obtain ⟨cr', h1', h2'⟩ := (annL_iff _ _).1 hn e' he'
  rw [hr, h1'] at h1
  injection h1 with hm hc
  subst hc
  exact ⟨hm.symm, cr', h2, h2'⟩

theorem Coh.kids_left {old new : Level} (h : Coh old new) {e : String × PMatch × ACfg} (he : e ∈ old) :
    Coh e.2.2.kids [] := by
  obtain ⟨rules, ho, _⟩ := h
  obtain ⟨cr, _, h2⟩ := (annL_iff _ _).1 ho e he
  exact ⟨cr, h2, annL_nil _⟩

theorem Coh.kids_right {old new : Level} (h : Coh old new) {e : String × PMatch × ACfg} (he : e ∈ new) :
    Coh [] e.2.2.kids := by
  obtain ⟨rules, _, hn⟩ := h
  obtain ⟨cr, _, h2⟩ := (annL_iff _ _).1 hn e he
  exact ⟨cr, annL_nil _, h2⟩

/-- the sub-block `base_diff` hands down for a row of the other side was annotated under that row's child rules -/
theorem annL_oldKids {rules cr : PRules} {old : Level} {row : String} {m : PMatch} (ha : AnnL rules old)
    (hm : matchRow row rules = .found m cr) : AnnL cr (kidsOf old row) := by
  rcases oldKids_cases old row with h | ⟨e, he, hr, h⟩
  · rw [h]; exact annL_nil cr
  · rw [h]
    obtain ⟨cr', hm', hk⟩ := (annL_iff _ _).1 ha e he
    rw [hr, hm] at hm'
    injection hm' with _ hc
    subst hc
    exact hk

theorem annL_filter {rules : PRules} {l : Level} (h : AnnL rules l) (p : String × PMatch × ACfg → Bool) :
    AnnL rules (l.filter p) :=
  (annL_iff _ _).2 fun x hx => (annL_iff _ _).1 h x (List.mem_filter.1 hx).1

def isFound : MatchRes → Bool
  | .found _ _ => true
  | _ => false

theorem annotateList_hasRow (rules : PRules) (row : String) :
    ∀ (ks : List (String × Cfg)) (l : Level), annotateList rules ks = .ok l →
      hasRow l row = (ks.any (·.1 == row) && isFound (matchRow row rules))
  | [], l, h => by
    rw [annotateList] at h
    cases h
    simp [hasRow]
  | (r, ch) :: rest, l, h => by
    rw [List.any_cons]
    rcases annotateList_cons_ok.1 h with ⟨hm, h⟩ | ⟨m, cr, ch', rest', hm, -, hr, rfl⟩
    · rw [annotateList_hasRow rules row rest l h]
      by_cases e : r = row
      · subst e; simp [hm, isFound]
      · simp [beq_eq_false_iff_ne.2 e]
    · have ih := annotateList_hasRow rules row rest rest' hr
      simp only [hasRow] at ih ⊢
      rw [List.any_cons, ih]
      by_cases e : r = row
      · subst e; simp [hm, isFound]
      · simp [beq_eq_false_iff_ne.2 e]

theorem annotate_hasRow {rules : PRules} {c : Cfg} {a : ACfg} (h : annotate rules c = .ok a) (row : String) :
    hasRow a.kids row = (c.kids.any (·.1 == row) && isFound (matchRow row rules)) :=
  annotateList_hasRow rules row c.kids a.kids (annotate_ok h)

end Annet.Diff.Lemmas
