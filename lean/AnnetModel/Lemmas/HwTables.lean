/-
C18, evaluators for the regenerated tables of `Gen/DevDb.lean`, each with its soundness lemma over any database.
-/
import AnnetModel.Lemmas.HwView
import AnnetModel.Lemmas.HwRegistry
import AnnetModel.Lemmas.Basic
import AnnetModel.Spec.HwChecks

namespace Annet.Hw.Lemmas
open Annet.Hw

variable {α : Type} [DecidableEq α] {ρ : Type}

theorem distinctB_iff_nodup {β : Type} [DecidableEq β] : ∀ {l : List β}, distinctB l = true ↔ l.Nodup
  | [] => by simp [distinctB]
  | x :: xs => by simp [distinctB, distinctB_iff_nodup (l := xs)]

variable [DecidableEq ρ] in
theorem injPaths_of_sibDistinct {P : List (List α × ρ)} (hd : sibDistinctB P = true) : InjPaths P := by
  intro A s₁
  induction s₁ using snoc_induction with
  | nil =>
    intro s₂ c₁ c₂ h₁ h₂ hm
    rcases eq_nil_or_snoc s₂ with rfl | ⟨s₂', b, rfl⟩
    · rfl
    · obtain ⟨_, _, _, _, rfl⟩ := chainOf_some_concat h₂
      cases Option.some.inj ((chainOf_nil P A).symm.trans h₁)
      simp at hm
  | snoc s₁ a ih =>
    intro s₂ c₁ c₂ h₁ h₂ hm
    obtain ⟨c₁', r₁, hc₁', hl₁, rfl⟩ := chainOf_some_concat h₁
    rcases eq_nil_or_snoc s₂ with rfl | ⟨s₂', b, rfl⟩
    · cases Option.some.inj ((chainOf_nil P A).symm.trans h₂)
      simp at hm
    · obtain ⟨c₂', r₂, hc₂', hl₂, rfl⟩ := chainOf_some_concat h₂
      simp only [List.map_append, List.map_cons, List.map_nil] at hm
      obtain ⟨hm₁, hm₂⟩ := List.append_inj' hm rfl
      obtain rfl := ih s₂' c₁' c₂' hc₁' hc₂' hm₁
      obtain rfl : r₁ = r₂ := by simpa using hm₂
      simpa using List.inj_of_nodup_map (fun e : List α × ρ => (e.1.dropLast, e.2)) P (distinctB_iff_nodup.1 hd)
        _ (lookup_some hl₁) _ (lookup_some hl₂) (by simp)

/-- Every sequence's parent (the sequence without its last component) is a sequence of the database or empty.
`good` holds the sequence of the entry before, its parent and `[]`: in the order of `devdb.json` an entry mostly
follows its parent or a sibling, and the search through the whole database is then not needed. -/
def parentsKnownB (P : List (List α × ρ)) : List (List α) → List (List α × ρ) → Bool
  | _, [] => true
  | good, e :: rest =>
    (good.contains e.1.dropLast || P.any (·.1 == e.1.dropLast)) && parentsKnownB P [e.1.dropLast, e.1, []] rest

theorem parentsKnownB_sound {P : List (List α × ρ)} :
    ∀ {good : List (List α)} {Q : List (List α × ρ)}, parentsKnownB P good Q = true →
      (∀ g ∈ good, g = [] ∨ ∃ e ∈ P, e.1 = g) → (∀ e ∈ Q, e ∈ P) →
      ∀ e ∈ Q, e.1.dropLast = [] ∨ ∃ e' ∈ P, e'.1 = e.1.dropLast
  | _, [], _, _, _ => by simp
  | good, e :: rest, h, hg, hQ => by
    simp only [parentsKnownB, Bool.and_eq_true, Bool.or_eq_true, List.contains_eq_mem, decide_eq_true_eq,
      List.any_eq_true, beq_iff_eq] at h
    have he : e.1.dropLast = [] ∨ ∃ e' ∈ P, e'.1 = e.1.dropLast := h.1.elim (hg _) Or.inr
    have := parentsKnownB_sound h.2
      (by simp only [List.mem_cons, List.not_mem_nil, or_false]
          rintro g (rfl | rfl | rfl)
          · exact he
          · exact Or.inr ⟨e, hQ e List.mem_cons_self, rfl⟩
          · exact Or.inl rfl)
      (fun e' he' => hQ e' (List.mem_cons_of_mem _ he'))
    simpa only [List.mem_cons, forall_eq_or_imp] using ⟨he, this⟩

variable [DecidableEq ρ] in
theorem buildTree_isSome {P : List (List α × ρ)} (A : List α → List (List α))
    (h : parentsKnownB P [[]] P = true) : (buildTree P A).isSome = true := by
  have hpar := parentsKnownB_sound h (by simp) (fun _ he => he)
  refine buildFrom_isSome A _ fun e he s hs => ?_
  obtain ⟨hne, hpre⟩ := mem_seqSubs.mp hs
  suffices ∀ (s : List α) e, e ∈ P → e.1 = s → ∀ q, q ≠ [] → q <+: s → ∃ e' ∈ P, e'.1 = q by
    obtain ⟨e', he', rfl⟩ := this e.1 e he rfl s hne hpre
    exact lookup_isSome he'
  intro s
  induction s using snoc_induction with
  | nil => intro _ _ _ q hq hp; exact absurd (List.prefix_nil.mp hp) hq
  | snoc s a ih =>
    intro e he hes q hq hp
    rcases List.prefix_concat_iff.mp hp with rfl | hp'
    · exact ⟨e, he, hes⟩
    · rcases hpar e he with h0 | ⟨e', he', hd⟩
      · rw [hes, List.dropLast_concat] at h0
        subst h0
        exact absurd (List.prefix_nil.mp hp') hq
      · rw [hes, List.dropLast_concat] at hd
        exact ih e' he' hd q hq hp'

/-- `sibDistinctB` for regexps numbered in the order of their first appearance, as the translator numbers them: an
entry whose number is above all earlier ones repeats no earlier regexp and needs no comparison.  `bound` is above
the regexps of `seen`, the entries gone through. -/
def sibDistinctNatB : Nat → List (List α × Nat) → List (List α × Nat) → Bool
  | _, _, [] => true
  | bound, seen, e :: rest =>
    (decide (bound ≤ e.2) || seen.all fun e' => if e'.2 = e.2 then e'.1.dropLast != e.1.dropLast else true)
      && sibDistinctNatB (max bound (e.2 + 1)) (e :: seen) rest

theorem sibDistinctNatB_sound : ∀ {bound : Nat} {seen rest : List (List α × Nat)},
    (∀ e ∈ seen, e.2 < bound) → sibDistinctNatB bound seen rest = true →
    rest.Pairwise (fun a b => (a.1.dropLast, a.2) ≠ (b.1.dropLast, b.2)) ∧
      ∀ a ∈ seen, ∀ b ∈ rest, (a.1.dropLast, a.2) ≠ (b.1.dropLast, b.2)
  | _, _, [], _, _ => by simp
  | bound, seen, e :: rest, hb, h => by
    simp only [sibDistinctNatB, Bool.and_eq_true, Bool.or_eq_true, decide_eq_true_eq, List.all_eq_true] at h
    obtain ⟨ih1, ih2⟩ := sibDistinctNatB_sound (bound := max bound (e.2 + 1)) (seen := e :: seen)
      (by intro x hx
          rcases List.mem_cons.mp hx with rfl | hx
          · omega
          · have := hb x hx; omega) h.2
    refine ⟨List.pairwise_cons.mpr ⟨ih2 e List.mem_cons_self, ih1⟩, fun a ha b hb' => ?_⟩
    rcases List.mem_cons.mp hb' with rfl | hb'
    · intro heq
      obtain ⟨hd, hr⟩ := Prod.mk.inj heq
      rcases h.1 with hle | hall
      · have := hb a ha; omega
      · have := hall a ha
        rw [if_pos hr] at this
        exact bne_iff_ne.mp this hd
    · exact ih2 a (List.mem_cons_of_mem _ ha) b hb'

theorem sibDistinctB_of_nat {P : List (List α × Nat)} (h : sibDistinctNatB 0 [] P = true) : sibDistinctB P = true :=
  distinctB_iff_nodup.2 (List.pairwise_map.2 (sibDistinctNatB_sound (by simp) h).1)

theorem memVariantsFast_eq (v s : List α) : memVariantsFast v s = decide (v ∈ variants s) := by
  unfold memVariantsFast
  by_cases hv : v ∈ variants s
  · obtain ⟨pre, mid, post, z, rfl, rfl⟩ := mem_variants.mp hv
    simp
  · simp [hv]

theorem variantCountFast_eq (P : List (List α × ρ)) (v : List α) :
    variantCountFast P v = variantCount P v := by
  simp only [variantCount_eq, variantCountFast, memVariantsFast_eq, List.countP_eq_length_filter]

theorem knownPathFastB_iff {P : List (List α × ρ)} {e : List α} :
    knownPathFastB P e = true ↔ e ≠ [] ∧ ∀ q ∈ seqSubs e, variantCount P q = 1 := by
  simp only [knownPathFastB, variantCountFast_eq, Bool.and_eq_true, Bool.not_eq_true', List.isEmpty_eq_false_iff,
    List.all_eq_true, beq_iff_eq]

variable [DecidableEq ρ] in
theorem evaluable_of_known {P : List (List α × ρ)} {m : ρ → Bool} {h : HwSets α}
    (hp : parseHw P m = .ok h) {e : List α} (hk : knownPathFastB P e = true) : hwMatchPath h e ≠ none :=
  (no_attribute_error hp e).mpr (knownPathFastB_iff.mp hk).2

theorem hwMatchPath_chain {P : List (List α × ρ)} {s : List α} {h : HwSets α} (hc : ChainTrue P s h)
    {e : List α} (hk : knownPathFastB P e = true) : hwMatchPath h e = some (trueOnChain s e) := by
  obtain ⟨hne, hcount⟩ := knownPathFastB_iff.mp hk
  have hfalse : ∀ q ∈ seqSubs e, q ∈ h.falseS ↔ q ∉ h.trueS := fun q hq => by
    simp [hc.2 q, mem_allSequences.mpr (hcount q hq)]
  have htrue : e ∈ h.trueS ↔ trueOnChain s e = true := by
    simp [hc.1 e, trueOnChain, mem_allowed, hcount e (self_mem_seqSubs hne)]
  have hall : AllKnown h e := fun q hq => (Classical.em (q ∈ h.trueS)).imp_right (hfalse q hq).mpr
  rw [hwMatchPath_eq, if_pos hall]
  simp only [hne, false_or, htrue, Bool.decide_eq_true]

section chainRegistry
variable {ν : Type}

/-- `trueOnChain`, after a look for the last component of `e` in `s`: most vendors' expressions end in a
component the sequence does not have, and their variants need not be computed. -/
def trueOnChainFast (s e : List α) : Bool :=
  (match e.getLast? with
   | some z => s.contains z
   | none => false) && trueOnChain s e

theorem trueOnChainFast_eq (s e : List α) : trueOnChainFast s e = trueOnChain s e := by
  unfold trueOnChainFast
  cases h : trueOnChain s e with
  | false => exact Bool.and_false _
  | true =>
    simp only [trueOnChain, List.any_eq_true, decide_eq_true_eq] at h
    obtain ⟨s₁, hs₁, hv⟩ := h
    obtain ⟨pre, mid, post, z, rfl, rfl⟩ := mem_variants.mp hv
    have hz : z ∈ s := (mem_seqSubs.mp hs₁).2.subset (by simp)
    simp [hz]

def chainMatchedFast (vs : List (ν × List (List α × Nat))) (s : List α) : List (ν × Nat) :=
  (vendorItems vs).filterMap fun it => if trueOnChainFast s it.2.1 then some (it.1, it.2.2) else none

theorem chainMatchedFast_eq (vs : List (ν × List (List α × Nat))) (s : List α) :
    chainMatchedFast vs s = chainMatched vs s := by
  simp only [chainMatchedFast, chainMatched, trueOnChainFast_eq]

theorem matchedList_chain {P : List (List α × ρ)} {s : List α} {h : HwSets α} (hc : ChainTrue P s h)
    {vs : List (ν × List (List α × Nat))} (hk : vendorsKnownFastB P vs = true) :
    matchedList h vs = some (chainMatched vs s) := by
  have hm := fun it hi => hwMatchPath_chain hc (List.all_eq_true.mp hk it hi)
  rw [matchedList_of_ne_none fun it hi => by simp [hm it hi]]
  refine congrArg some (List.filterMap_congr' fun it hi => ?_)
  rw [hm it hi]
  cases trueOnChain s it.2.1 <;> simp

theorem foldl_max_le {l : List (ν × Nat)} {init x : Nat} :
    l.foldl (fun acc a => max acc a.2) init ≤ x ↔ init ≤ x ∧ ∀ c ∈ l, c.2 ≤ x := by
  induction l generalizing init with
  | nil => simp
  | cons a l ih => simp only [List.foldl_cons, ih, Nat.max_le, List.forall_mem_cons, and_assoc]

variable [DecidableEq ν]

theorem uniqueBest_of_B {ms : List (ν × Nat)} (h : uniqueBestB ms = true) : UniqueBest ms := by
  intro a b ha hb hamax hbmax
  simp only [uniqueBestB, List.all_eq_true, Bool.or_eq_true, bne_iff_ne, ne_eq, beq_iff_eq] at h
  have hreach : ∀ x ∈ ms, (∀ c ∈ ms, c.2 ≤ x.2) → x.2 = maxDots ms := fun x hx hmax =>
    Nat.le_antisymm ((foldl_max_le.mp (Nat.le_refl _)).2 x hx) (foldl_max_le.mpr ⟨Nat.zero_le _, hmax⟩)
  rcases h a ha b hb with (h1 | h1) | h1
  · exact absurd (hreach a ha hamax) h1
  · exact absurd (hreach b hb hbmax) h1
  · exact h1

end chainRegistry

end Annet.Hw.Lemmas
