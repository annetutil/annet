/-
C03 for the whole `make_diff` at every depth (`makeDiff_ops_exact`, `makeDiff_projections`).  `annotate` makes the match of
a row a function of the row and of the rules reached along its path, so a row present on both sides carries the same
match, hence the same diff logic (`Coh`), and the group of a diff logic sees the same rows and children as the whole level
(`lookupA_filter_of_coh`).  `Hyp` is what holds of every call of `call_diff_logic` in a real run; under it an item of a
group reads against the whole level and `Hyp` holds of the call that made its children (`Hyp.item`).  Exactness of the ops
and "the children of every item project onto the children of its row" are judged item by item (`callDiffLogic_induct`);
the rows of one level project by the group-level projections of `Lemmas/Diff.lean` over the partition by diff logic
(`level_rows`).

Why `makeDiff_ops_exact` needs `hdo : NoDupRows ao`, `hdn : NoDupRows an`: `Cfg` is a
list of rows, so a level can repeat a row; `ExactL` judges the children of an item against `kidsOf new row`, the
children of the *first* line `row` of the level, while `base_diff` reports each line with its own children.
Counterexample (`dupRb`, `dupNew` below, checked by `decide +kernel`): old empty, new = `a 1 {x 1}`, `a 1 {x 2}`: the diff is
`+a 1 {+x 1}`, `+a 1 {+x 2}` and the entry `+x 2` is not a row of `kidsOf new "a 1" = {x 1}`.  A Python dict cannot
repeat a key, so the hypothesis holds of every real run.
-/
import AnnetModel.Spec.DiffWhole
import AnnetModel.Lemmas.Annotate
import AnnetModel.Lemmas.Basic

namespace Annet.Diff.Lemmas
open Annet Annet.Rules Annet.Diff Annet.Diff.Spec

theorem hasRow_eq_lookupA (l : Level) (r : String) : hasRow l r = (lookupA l r).isSome := by
  rw [Bool.eq_iff_iff, hasRow, lookupA, Option.isSome_map, List.any_eq_true, List.find?_isSome]

/-- Rows of the two sides that agree on the match of a common row (`Coh`): the group of a diff logic sees of a row of
that logic what the whole level sees. -/
theorem lookupA_filter_of_coh {a b : Level} (hsame : ∀ e ∈ a, ∀ e' ∈ b, e.1 = e'.1 → e.2.1 = e'.2.1)
    (l : String) {e : String × PMatch × ACfg} (he : e ∈ a.filter (fun x => x.2.1.attrs.diffLogic == l)) :
    lookupA (b.filter (fun x => x.2.1.attrs.diffLogic == l)) e.1 = lookupA b e.1 := by
  have hm := List.mem_filter.1 he
  unfold lookupA
  rw [List.find?_filter]
  congr 1
  apply List.find?_congr'
  intro x hx
  by_cases hr : x.1 = e.1
  · have hk : x.2.1.attrs.diffLogic = l := by rw [← hsame e hm.1 x hx hr.symm]; simpa using hm.2
    simp [hr, hk]
  · simp [hr]

theorem adepthL_mem {l : Level} {e : String × PMatch × ACfg} (he : e ∈ l) :
    adepthL e.2.2.kids + 1 ≤ adepthL l := by
  induction l with
  | nil => cases he
  | cons x rest ih =>
    obtain ⟨r, m, c⟩ := x
    rw [adepthL]
    rcases List.mem_cons.1 he with rfl | he
    · rw [adepth_kids]
      simp only
      omega
    · have := ih he
      omega

theorem adepthL_oldKids (l : Level) (r : String) : adepthL (kidsOf l r) ≤ adepthL l := by
  rcases oldKids_cases l r with h | ⟨e, he, _, h⟩
  · rw [h, adepthL_nil]; omega
  · rw [h]
    have := adepthL_mem he
    omega

theorem adepthL_oldKids_lt {l : Level} {r : String} (h : hasRow l r = true) : adepthL (kidsOf l r) < adepthL l := by
  obtain ⟨e, he, rfl⟩ := mem_of_hasRow h
  rcases oldKids_cases l e.1 with h1 | ⟨e', he', _, h1⟩
  · have := adepthL_mem he
    rw [h1, adepthL_nil]; omega
  · rw [h1]
    exact adepthL_mem he'

theorem nodup_eraseDups (l : List String) : l.eraseDups.Nodup := by
  generalize hn : l.length = n
  induction n using Nat.strongRecOn generalizing l with
  | _ n ih =>
    cases l with
    | nil => simp
    | cons a as =>
      rw [List.eraseDups_cons, List.nodup_cons]
      constructor
      · rw [List.mem_eraseDups, List.mem_filter]
        simp
      · have hlen : (as.filter fun b => !b == a).length < n := by
          have := List.length_filter_le (fun b => !b == a) as
          simp only [List.length_cons] at hn
          omega
        exact ih _ hlen _ rfl

theorem groups_perm_left (old new : Level) :
    ((logicsOf old new).flatMap fun k => old.filter (fun x => x.2.1.attrs.diffLogic == k)).Perm old :=
  Keyed.flatMap_filter_perm (fun x : String × PMatch × ACfg => x.2.1.attrs.diffLogic) _ (nodup_eraseDups _) old
    (fun x hx => mem_logicsOf.2 ⟨x, Or.inl hx, rfl⟩)

theorem groups_perm_right (old new : Level) :
    ((logicsOf old new).flatMap fun k => new.filter (fun x => x.2.1.attrs.diffLogic == k)).Perm new :=
  Keyed.flatMap_filter_perm (fun x : String × PMatch × ACfg => x.2.1.attrs.diffLogic) _ (nodup_eraseDups _) new
    (fun x hx => mem_logicsOf.2 ⟨x, Or.inr hx, rfl⟩)

theorem exactL_nil (old new : Level) : ExactL old new [] := by rw [ExactL]; trivial

theorem exactL_cons (old new : Level) (i : DItem) (rest : List DItem) :
    ExactL old new (i :: rest) ↔ ExactI old new i ∧ ExactL old new rest := by rw [ExactL]

theorem exactI_mk (old new : Level) (op : Op) (row : String) (ch : List DItem) (m : PMatch) :
    ExactI old new (.mk op row ch m) ↔
      (op = .added → hasRow old row = false ∧ hasRow new row = true) ∧
      (op = .removed → hasRow old row = true ∧ hasRow new row = false) ∧
      (op ≠ .added → op ≠ .removed → hasRow old row = true ∧ hasRow new row = true) ∧
      ExactL (kidsOf old row) (kidsOf new row) ch := by rw [ExactI]

theorem exactI_iff (old new : Level) (i : DItem) :
    ExactI old new i ↔
      (i.op = .added → hasRow old i.row = false ∧ hasRow new i.row = true) ∧
      (i.op = .removed → hasRow old i.row = true ∧ hasRow new i.row = false) ∧
      (i.op ≠ .added → i.op ≠ .removed → hasRow old i.row = true ∧ hasRow new i.row = true) ∧
      ExactL (kidsOf old i.row) (kidsOf new i.row) i.children := by
  obtain ⟨op, row, ch, m⟩ := i
  exact exactI_mk ..

theorem exactL_iff (old new : Level) (d : List DItem) : ExactL old new d ↔ ∀ i ∈ d, ExactI old new i := by
  induction d with
  | nil => simp [exactL_nil]
  | cons i rest ih => simp [exactL_cons, ih]

theorem exactL_append (old new : Level) (a b : List DItem) (ha : ExactL old new a) (hb : ExactL old new b) :
    ExactL old new (a ++ b) := by
  rw [exactL_iff] at ha hb ⊢
  exact List.forall_mem_append.2 ⟨ha, hb⟩

mutual
  theorem affectedToMoved_exactL : ∀ (d : List DItem) (old new : Level), ExactL old new d →
      ExactL old new (affectedToMoved d)
    | [], old, new, _ => by rw [affectedToMoved_nil]; exact exactL_nil _ _
    | i :: rest, old, new, h => by
      rw [exactL_cons] at h
      rw [affectedToMoved_cons, exactL_cons]
      exact ⟨affectedToMoved_exactI i old new h.1, affectedToMoved_exactL rest old new h.2⟩
  theorem affectedToMoved_exactI : ∀ (i : DItem) (old new : Level), ExactI old new i →
      ExactI old new (affectedToMovedItem i)
    | .mk o r ch m, old, new, h => by
      rw [exactI_mk] at h
      rw [affectedToMovedItem_mk, exactI_mk]
      obtain ⟨h1, h2, h3, h4⟩ := h
      have h4' := affectedToMoved_exactL ch _ _ h4
      by_cases ho : o = .affected
      · subst ho
        have := h3 (by simp) (by simp)
        simp [this, h4']
      · have : (o == Op.affected) = false := by simpa using ho
        rw [this]
        exact ⟨h1, h2, h3, h4'⟩
end

mutual
  theorem markUnchanged_exactL : ∀ (d : List DItem) (old new : Level), ExactL old new d →
      ExactL old new (markUnchanged d)
    | [], old, new, _ => by rw [markUnchanged_nil]; exact exactL_nil _ _
    | i :: rest, old, new, h => by
      rw [exactL_cons] at h
      rw [markUnchanged_cons, exactL_cons]
      exact ⟨markItem_exactI i old new h.1, markUnchanged_exactL rest old new h.2⟩
  theorem markItem_exactI : ∀ (i : DItem) (old new : Level), ExactI old new i → ExactI old new (markItem i)
    | .mk o r ch m, old, new, h => by
      rw [markItem_mk]
      by_cases ho : o = .affected
      · subst ho
        rw [exactI_mk] at h
        obtain ⟨h1, h2, h3, h4⟩ := h
        have h4' := markUnchanged_exactL ch _ _ h4
        have := h3 (by simp) (by simp)
        simp only [beq_self_eq_true, if_true]
        rw [exactI_mk]
        split <;> simp [this, h4']
      · have : (o == Op.affected) = false := by simpa using ho
        rw [this]
        exact h
end

theorem noDupRowsL_nil : NoDupRowsL [] := by rw [NoDupRowsL]; trivial

/-- `par`: the parent's op, the last entry of the op stack -/
structure Hyp (par : Op) (old new : Level) : Prop where
  coh : Coh old new
  ndo : NoDupRowsL old
  ndn : NoDupRowsL new
  pa : old = [] ∨ par ≠ .added
  pr : new = [] ∨ par ≠ .removed

theorem Hyp.removed_child {par : Op} {old new : Level} (H : Hyp par old new)
    {e : String × PMatch × ACfg} (he : e ∈ old) : Hyp .removed e.2.2.kids [] :=
  ⟨H.coh.kids_left he, noDupRowsL_kids H.ndo he, noDupRowsL_nil, Or.inr (by simp), Or.inl rfl⟩

theorem Hyp.op_ok {pops : List Pop} {old new : Level} (H : Hyp (lastOp pops) old new)
    {e : String × PMatch × ACfg} (he : e ∈ new) (hold : hasRow old e.1 = true) {op : Op}
    (hop : op = .moved ∨ op = lastOp pops) : op ≠ .added ∧ op ≠ .removed :=
  ⟨common_op_ne H.pa hold hop (by decide), common_op_ne H.pr (hasRow_of_mem he) hop (by decide)⟩

theorem Hyp.new_child {pops : List Pop} {old new : Level} (H : Hyp (lastOp pops) old new)
    {e : String × PMatch × ACfg} (he : e ∈ new) {op : Op}
    (hop : (op = .added ∧ hasRow old e.1 = false) ∨ (hasRow old e.1 = true ∧ (op = .moved ∨ op = lastOp pops))) :
    Hyp op (kidsOf old e.1) e.2.2.kids := by
  rcases hop with ⟨h1, h2⟩ | ⟨h1, h2⟩
  · rw [oldKids_of_not_hasRow h2]
    exact ⟨H.coh.kids_right he, noDupRowsL_nil, noDupRowsL_kids H.ndn he, Or.inl rfl,
      Or.inr (by rw [h1]; simp)⟩
  · obtain ⟨e', he', hr⟩ := mem_of_hasRow h1
    have hk : kidsOf old e.1 = e'.2.2.kids := by
      rw [← hr]; exact oldKids_of_mem (noDupRowsL_rows H.ndo) he'
    rw [hk]
    have hok := H.op_ok he h1 h2
    exact ⟨(H.coh.match_eq he' he hr).2, noDupRowsL_kids H.ndo he', noDupRowsL_kids H.ndn he,
      Or.inr hok.1, Or.inr hok.2⟩

/-- An item of the run on the group of a diff logic, read against the whole level: its op is exact, and its children are
a call on the children of its row on the two sides, of which `Hyp` holds again. -/
theorem Hyp.item {Q : Op → Level → Level → List DItem → Prop} {pops : List Pop} {m2a : Bool} {old new : Level}
    {lg : String} {i : DItem} (H : Hyp (lastOp pops) old new)
    (hit : Item Q pops m2a (old.filter (·.2.1.attrs.diffLogic == lg)) (new.filter (·.2.1.attrs.diffLogic == lg)) i) :
    ((i.op = .added → hasRow old i.row = false ∧ hasRow new i.row = true) ∧
     (i.op = .removed → hasRow old i.row = true ∧ hasRow new i.row = false) ∧
     (i.op ≠ .added → i.op ≠ .removed → hasRow old i.row = true ∧ hasRow new i.row = true)) ∧
    ∃ op, Hyp op (kidsOf old i.row) (kidsOf new i.row) ∧ Q op (kidsOf old i.row) (kidsOf new i.row) i.children := by
  have hon : ∀ e ∈ old, ∀ e' ∈ new, e.1 = e'.1 → e.2.1 = e'.2.1 := fun e he e' he' hr => (H.coh.match_eq he he' hr).1
  cases hit with
  | @removed e cs he hnew hq =>
    have heold := (List.mem_filter.1 he).1
    rw [hasRow_eq_lookupA, lookupA_filter_of_coh hon lg he, ← hasRow_eq_lookupA] at hnew
    refine ⟨by simp [row_mk, hasRow_of_mem heold, hnew], ?_⟩
    simp only [row_mk, DItem.children_mk]
    rw [oldKids_of_mem (noDupRowsL_rows H.ndo) heold, oldKids_of_not_hasRow hnew]
    exact ⟨_, H.removed_child heold, hq⟩
  | @kept e cs k hget hq =>
    have he := List.mem_of_getElem? hget
    have henew := (List.mem_filter.1 he).1
    have hl := lookupA_filter_of_coh (fun a ha b hb hr => (hon b hb a ha hr.symm).symm) lg he
    have h3 := opAt_cases pops m2a (old.filter (·.2.1.attrs.diffLogic == lg))
      (disorderUpTo (old.filter (·.2.1.attrs.diffLogic == lg)) (new.filter (·.2.1.attrs.diffLogic == lg)) k) e.1
    rw [hasRow_eq_lookupA, hl, ← hasRow_eq_lookupA] at h3
    rw [kidsOf, hl, ← kidsOf] at hq
    refine ⟨?_, ?_⟩
    · simp only [row_mk, DItem.op_mk]
      rcases h3 with ⟨ha, hb⟩ | ⟨hb, hc⟩
      · simp [ha, hb, hasRow_of_mem henew]
      · simp [(H.op_ok henew hb hc).1, (H.op_ok henew hb hc).2, hb, hasRow_of_mem henew]
    · simp only [row_mk, DItem.children_mk]
      rw [oldKids_of_mem (noDupRowsL_rows H.ndn) henew]
      exact ⟨_, H.new_child henew h3, hq⟩

theorem callDiffLogic_exact (fuel : Nat) (pops : List Pop) (old new : Level) (d : List DItem)
    (H : Hyp (lastOp pops) old new) (h : callDiffLogic fuel pops old new = .ok d) : ExactL old new d := by
  refine callDiffLogic_induct (P := fun _ op old new d => Hyp op old new → ExactL old new d)
    (fun _ _ _ _ _ => exactL_nil _ _) (fun ha hb H => exactL_append _ _ _ _ (ha H) (hb H))
    (fun _ _ hd H => affectedToMoved_exactL _ _ _ (hd H)) ?_ fuel pops old new d h H
  intro _ pops m2a old new lg d hit H
  rw [exactL_iff]
  intro i hi
  obtain ⟨hop, op, Hc, hq, -⟩ := H.item (hit i hi)
  exact (exactI_iff _ _ i).2 ⟨hop.1, hop.2.1, hop.2.2, hq Hc⟩

mutual
  theorem rEqv_refl : ∀ (t : RTree) (r : String), REqv (r, t) (r, t)
    | .mk c, _ => REqv.mk (rPerm_refl c)
  theorem rPerm_refl : ∀ (l : List (String × RTree)), RPerm l l
    | [] => .nil
    | (r, t) :: rest => .cons (rEqv_refl t r) (rPerm_refl rest)
end

theorem rPerm_of_perm {l1 l2 : List (String × RTree)} (h : l1.Perm l2) : RPerm l1 l2 := by
  induction h with
  | nil => exact .nil
  | cons x _ ih => exact .cons (rEqv_refl x.2 x.1) ih
  | swap x y l => exact .swap
  | trans _ _ ih1 ih2 => exact .trans ih1 ih2

theorem rPerm_of_eq {l1 l2 : List (String × RTree)} (h : l1 = l2) : RPerm l1 l2 := h ▸ rPerm_refl l1

theorem rtreeOf_eq (c : ACfg) : rtreeOf c = .mk (rtreeOfL c.kids) := by
  obtain ⟨ks⟩ := c
  rw [rtreeOf]; rfl

theorem rtreeOfL_eq_map (l : Level) :
    rtreeOfL l = l.map (fun e => (e.1, RTree.mk (rtreeOfL e.2.2.kids))) := by
  induction l with
  | nil => rw [rtreeOfL]; rfl
  | cons e rest ih =>
    obtain ⟨r, m, c⟩ := e
    rw [rtreeOfL, ih, rtreeOf_eq]; rfl

/-- `default_diff` or `ordered_diff`: the diff logics that report every row -/
def PlainKey (k : String) : Prop := k = "common.default_diff" ∨ k = "common.ordered_diff"

theorem plainLogics_iff_kids (c : ACfg) : PlainLogics c ↔ PlainLogicsL c.kids := by
  obtain ⟨ks⟩ := c
  rw [PlainLogics]; rfl

theorem plainLogicsL_iff (l : Level) :
    PlainLogicsL l ↔ ∀ e ∈ l, PlainKey (keyOf e) ∧ PlainLogicsL e.2.2.kids := by
  induction l with
  | nil => simp [PlainLogicsL]
  | cons e rest ih =>
    obtain ⟨r, m, c⟩ := e
    simp only [PlainLogicsL, ih, List.mem_cons, forall_eq_or_imp, plainLogics_iff_kids, PlainKey, keyOf, and_assoc]

theorem plainLogicsL_nil : PlainLogicsL [] := by rw [PlainLogicsL]; trivial

theorem plainLogicsL_oldKids {l : Level} (h : PlainLogicsL l) (r : String) : PlainLogicsL (kidsOf l r) := by
  rcases oldKids_cases l r with h1 | ⟨e, he, _, h1⟩
  · rw [h1]; exact plainLogicsL_nil
  · rw [h1]; exact ((plainLogicsL_iff l).1 h e he).2

/-- `projOld = projBy .added`, `projNew = projBy .removed` -/
def projBy (o : Op) : List DItem → List (String × RTree)
  | [] => []
  | .mk op row ch _ :: rest =>
    if op == o then projBy o rest else (row, .mk (projBy o ch)) :: projBy o rest

theorem projBy_nil (o : Op) : projBy o [] = [] := by rw [projBy]

theorem projBy_cons (o : Op) (i : DItem) (rest : List DItem) :
    projBy o (i :: rest) =
      if i.op == o then projBy o rest else (i.row, .mk (projBy o i.children)) :: projBy o rest := by
  obtain ⟨op, row, ch, m⟩ := i
  rw [projBy]; rfl

-- the children are reached through the item (mutual pairs): recursion on `ch` from inside the list pattern is not
-- structural (it goes by well-founded recursion, which is slow to compile)
mutual
  theorem projOld_eq : ∀ (d : List DItem), projOld d = projBy .added d
    | [] => by rw [projOld, projBy]
    | .mk op row ch m :: rest => by
      rw [projOld, projBy, show projOld ch = projBy .added ch from projOld_eq_kids (.mk op row ch m), projOld_eq rest]
  theorem projOld_eq_kids : ∀ (i : DItem), projOld i.children = projBy .added i.children
    | .mk _ _ ch _ => projOld_eq ch
end

mutual
  theorem projNew_eq : ∀ (d : List DItem), projNew d = projBy .removed d
    | [] => by rw [projNew, projBy]
    | .mk op row ch m :: rest => by
      rw [projNew, projBy, show projNew ch = projBy .removed ch from projNew_eq_kids (.mk op row ch m), projNew_eq rest]
  theorem projNew_eq_kids : ∀ (i : DItem), projNew i.children = projBy .removed i.children
    | .mk _ _ ch _ => projNew_eq ch
end

mutual
  theorem projBy_markUnchanged (o : Op) (h1 : o ≠ .affected) (h2 : o ≠ .unchanged) :
      ∀ (d : List DItem), projBy o (markUnchanged d) = projBy o d
    | [] => by rw [markUnchanged_nil]
    | i :: rest => by
      rw [markUnchanged_cons, projBy_cons, projBy_cons, projBy_markUnchanged o h1 h2 rest]
      obtain ⟨h3, h4, h5⟩ := projBy_markItem o h1 h2 i
      rw [h3, h4, h5]
  theorem projBy_markItem (o : Op) (h1 : o ≠ .affected) (h2 : o ≠ .unchanged) :
      ∀ (i : DItem), ((markItem i).op == o) = (i.op == o) ∧ (markItem i).row = i.row ∧
        projBy o (markItem i).children = projBy o i.children
    | .mk op r ch m => by
      rw [markItem_mk]
      by_cases ho : op = .affected
      · subst ho
        simp only [beq_self_eq_true, if_true]
        refine ⟨?_, rfl, projBy_markUnchanged o h1 h2 ch⟩
        have e1 : (Op.affected == o) = false := by simpa using fun h => h1 h.symm
        have e2 : (Op.unchanged == o) = false := by simpa using fun h => h2 h.symm
        simp only [DItem.op_mk]
        split <;> simp [e1, e2]
      · have : (op == Op.affected) = false := by simpa using ho
        rw [this]
        simp
end

def LRows (old new : Level) (d : List DItem) : Prop :=
  ((d.filter (fun i => i.op != .added)).map (·.row)).Perm (rowsOf old) ∧
  ((d.filter (fun i => i.op != .removed)).map (·.row)).Perm (rowsOf new)

theorem rowsOf_append (a b : Level) : rowsOf (a ++ b) = rowsOf a ++ rowsOf b := List.map_append

/-- the per-group projections, over the partition of the two levels by diff logic -/
theorem level_rows (fuel : Nat) (pops : List Pop) (old new : Level) (d : List DItem) (H : Hyp (lastOp pops) old new)
    (hpo : PlainLogicsL old) (hpn : PlainLogicsL new) (hk : adepthL old + adepthL new < fuel)
    (h : callDiffLogic fuel pops old new = .ok d) : LRows old new d := by
  obtain ⟨fuel, rfl⟩ : ∃ f, fuel = f + 1 := ⟨fuel - 1, by omega⟩
  rw [callDiffLogic] at h
  have hpl : ∀ l ∈ logicsOf old new, PlainKey l := by
    intro l hl
    obtain ⟨e, he, rfl⟩ := mem_logicsOf.1 hl
    rcases he with he | he
    · exact ((plainLogicsL_iff old).1 hpo e he).1
    · exact ((plainLogicsL_iff new).1 hpn e he).1
  have key := runLogics_induction (rec := callDiffLogic fuel) (pops := pops) (old := old) (new := new)
    (P := fun ls d => (∀ l ∈ ls, PlainKey l) →
      ((d.filter (fun i => i.op != .added)).map (·.row)).Perm
        (rowsOf (ls.flatMap fun l => old.filter (fun x => x.2.1.attrs.diffLogic == l))) ∧
      ((d.filter (fun i => i.op != .removed)).map (·.row)).Perm
        (rowsOf (ls.flatMap fun l => new.filter (fun x => x.2.1.attrs.diffLogic == l))))
    (fun _ => ⟨.refl _, .refl _⟩) ?_ _ d h hpl
  · exact ⟨key.1.trans ((groups_perm_left old new).map _), key.2.trans ((groups_perm_right old new).map _)⟩
  · intro lg ls d1 ds hd1 ih hpl
    obtain ⟨i1, i2⟩ := ih fun l hl => hpl l (List.mem_cons_of_mem _ hl)
    rw [List.flatMap_cons, List.flatMap_cons, rowsOf_append, rowsOf_append, List.filter_append, List.filter_append,
      List.map_append, List.map_append]
    rcases runLogic_ok hd1 with ⟨-, m2a, hb⟩ | ⟨hr, -⟩
    · refine ⟨(baseDiff_proj_old hb ?_ ((noDupRowsL_rows H.ndo).sublist (List.filter_sublist.map _))
        ((noDupRowsL_rows H.ndn).sublist (List.filter_sublist.map _))).append i1,
        (List.Perm.of_eq (baseDiff_proj_new hb ?_)).append i2⟩
      · exact H.pa.imp (fun e => by rw [e]; rfl) id
      · exact H.pr.imp (fun e => by rw [e]; rfl) id
    · rcases hpl lg List.mem_cons_self with rfl | rfl <;> exact absurd hr (by decide)

theorem projBy_eq_map (o : Op) (d : List DItem) :
    projBy o d = (d.filter (fun i => i.op != o)).map fun i => (i.row, RTree.mk (projBy o i.children)) := by
  induction d with
  | nil => rw [projBy_nil]; rfl
  | cons i rest ih =>
    rw [projBy_cons, List.filter_cons, ih]
    by_cases h : i.op = o <;> simp [h]

theorem rPerm_map {α : Type} (row : α → String) (A : α → List (String × RTree)) (B : String → List (String × RTree))
    (K : List α) (rs : List String) (hp : (K.map row).Perm rs) (hA : ∀ i ∈ K, RPerm (A i) (B (row i))) :
    RPerm (K.map fun i => (row i, RTree.mk (A i))) (rs.map fun r => (r, RTree.mk (B r))) := by
  have h1 : RPerm (K.map fun i => (row i, RTree.mk (A i))) ((K.map row).map fun r => (r, RTree.mk (B r))) := by
    clear hp
    induction K with
    | nil => exact .nil
    | cons i rest ih =>
      exact .cons (.mk (hA i List.mem_cons_self)) (ih fun j hj => hA j (List.mem_cons_of_mem _ hj))
  exact .trans h1 (rPerm_of_perm (hp.map _))

theorem rtreeOfL_rows {l : Level} (hnd : (rowsOf l).Nodup) :
    rtreeOfL l = (rowsOf l).map fun r => (r, RTree.mk (rtreeOfL (kidsOf l r))) := by
  rw [rtreeOfL_eq_map, rowsOf, List.map_map]
  exact List.map_congr_left fun e he => by simp only [Function.comp, oldKids_of_mem hnd he]

theorem noDupRowsL_oldKids {l : Level} (h : NoDupRowsL l) (r : String) : NoDupRowsL (kidsOf l r) := by
  rcases oldKids_cases l r with h1 | ⟨e, he, _, h1⟩
  · rw [h1]; exact noDupRowsL_nil
  · rw [h1]; exact noDupRowsL_kids h he

/-- both projections of a diff onto the two levels -/
def Proj (old new : Level) (d : List DItem) : Prop :=
  RPerm (projBy .added d) (rtreeOfL old) ∧ RPerm (projBy .removed d) (rtreeOfL new)

/-- the rows of a level project, and the children of every item project onto the children of its row -/
theorem Proj.of_rows {old new : Level} {d : List DItem} (hdo : NoDupRowsL old) (hdn : NoDupRowsL new)
    (hl : LRows old new d) (hc : ∀ i ∈ d, Proj (kidsOf old i.row) (kidsOf new i.row) i.children) : Proj old new d := by
  unfold Proj
  rw [projBy_eq_map, projBy_eq_map, rtreeOfL_rows (noDupRowsL_rows hdo), rtreeOfL_rows (noDupRowsL_rows hdn)]
  exact ⟨rPerm_map _ _ _ _ _ hl.1 fun i hi => (hc i (List.mem_filter.1 hi).1).1,
    rPerm_map _ _ _ _ _ hl.2 fun i hi => (hc i (List.mem_filter.1 hi).1).2⟩

theorem callDiffLogic_proj (fuel : Nat) (pops : List Pop) (old new : Level) (d : List DItem)
    (H : Hyp (lastOp pops) old new)
    (hpo : PlainLogicsL old) (hpn : PlainLogicsL new) (hk : adepthL old + adepthL new < fuel)
    (h : callDiffLogic fuel pops old new = .ok d) : Proj old new d := by
  refine .of_rows H.ndo H.ndn (level_rows _ _ _ _ _ H hpo hpn hk h) ?_
  refine callDiffLogic_induct
    (P := fun f op old new d => Hyp op old new → PlainLogicsL old → PlainLogicsL new →
      adepthL old + adepthL new < f → ∀ i ∈ d, Proj (kidsOf old i.row) (kidsOf new i.row) i.children)
    (fun _ _ _ _ _ _ _ _ => nofun)
    (fun ha hb H ho hn hf i hi => (List.mem_append.1 hi).elim (ha H ho hn hf i) (hb H ho hn hf i))
    (fun hlg _ _ _ ho hn => by
      -- no rule of a plain level compares with `rewrite_diff`
      obtain ⟨e, he, hk⟩ := mem_logicsOf.1 hlg
      have := he.elim (fun he => ((plainLogicsL_iff _).1 ho e he).1) (fun he => ((plainLogicsL_iff _).1 hn e he).1)
      rw [hk] at this
      rcases this with h | h <;> exact absurd h (by decide))
    ?_ fuel pops old new d h H hpo hpn hk
  intro f pops m2a old new lg d hit H ho hn hf i hi
  obtain ⟨hop, _, Hc, hq, p, rfl, hrun⟩ := H.item (hit i hi)
  have hoc := plainLogicsL_oldKids ho i.row
  have hnc := plainLogicsL_oldKids hn i.row
  have hfc : adepthL (kidsOf old i.row) + adepthL (kidsOf new i.row) < f := by
    have h1 := adepthL_oldKids old i.row
    have h2 := adepthL_oldKids new i.row
    by_cases ha : i.op = .added
    · have := adepthL_oldKids_lt (hop.1 ha).2; omega
    · by_cases hr : i.op = .removed
      · have := adepthL_oldKids_lt (hop.2.1 hr).1; omega
      · have := adepthL_oldKids_lt (hop.2.2 ha hr).1; omega
  exact .of_rows Hc.ndo Hc.ndn (level_rows _ _ _ _ _ Hc hoc hnc hfc hrun) (hq Hc hoc hnc hfc)

theorem makeDiff_inv {rules : PRules} {old new : Cfg} {ao an : ACfg} {d : List DItem}
    (ha : annotate rules old = .ok ao) (hn : annotate rules new = .ok an)
    (h : makeDiff rules old new = .ok d) :
    ∃ d0, callDiffLogic (adepth ao + adepth an + 2) [.op .affected] ao.kids an.kids = .ok d0 ∧
      d = markUnchanged d0 := by
  unfold makeDiff at h
  rw [ha, hn] at h
  simp only at h
  split at h
  · cases h
  · rename_i d0 hd0
    cases h
    exact ⟨d0, hd0, rfl⟩

theorem hyp_top {rules : PRules} {old new : Cfg} {ao an : ACfg}
    (ha : annotate rules old = .ok ao) (hn : annotate rules new = .ok an)
    (hdo : NoDupRows ao) (hdn : NoDupRows an) : Hyp .affected ao.kids an.kids :=
  ⟨coh_of_annotate ha hn, (noDupRows_iff_kids _).1 hdo, (noDupRows_iff_kids _).1 hdn, Or.inr (by simp), Or.inr (by simp)⟩

/-- `hdo`, `hdn` (no level repeats a row) are needed: see the header. -/
theorem makeDiff_ops_exact (rules : PRules) (old new : Cfg) (ao an : ACfg) (d : List DItem)
    (ha : annotate rules old = .ok ao) (hn : annotate rules new = .ok an)
    (hdo : NoDupRows ao) (hdn : NoDupRows an)
    (h : makeDiff rules old new = .ok d) :
    ExactL ao.kids an.kids d := by
  obtain ⟨d0, hd0, rfl⟩ := makeDiff_inv ha hn h
  exact markUnchanged_exactL _ _ _ (callDiffLogic_exact _ [.op .affected] _ _ _ (hyp_top ha hn hdo hdn) hd0)

theorem makeDiff_projections (rules : PRules) (old new : Cfg) (ao an : ACfg) (d : List DItem)
    (ha : annotate rules old = .ok ao) (hn : annotate rules new = .ok an)
    (hdo : NoDupRows ao) (hdn : NoDupRows an) (hpo : PlainLogics ao) (hpn : PlainLogics an)
    (h : makeDiff rules old new = .ok d) :
    RPerm (projOld d) (rtreeOfL ao.kids) ∧ RPerm (projNew d) (rtreeOfL an.kids) := by
  obtain ⟨d0, hd0, rfl⟩ := makeDiff_inv ha hn h
  rw [projOld_eq, projNew_eq, projBy_markUnchanged _ (by simp) (by simp),
    projBy_markUnchanged _ (by simp) (by simp)]
  refine callDiffLogic_proj _ [.op .affected] _ _ _ (hyp_top ha hn hdo hdn) ((plainLogics_iff_kids _).1 hpo)
    ((plainLogics_iff_kids _).1 hpn) ?_ hd0
  rw [adepth_kids, adepth_kids]
  omega

/-- a row present at the top level of both configurations is never reported ADDED or REMOVED -/
theorem makeDiff_common_row (rules : PRules) (old new : Cfg) (ao an : ACfg) (d : List DItem)
    (ha : annotate rules old = .ok ao) (hn : annotate rules new = .ok an)
    (hdo : NoDupRows ao) (hdn : NoDupRows an)
    (h : makeDiff rules old new = .ok d) (row : String)
    (ho : old.kids.any (·.1 == row) = true) (hnw : new.kids.any (·.1 == row) = true) :
    ∀ i ∈ d, i.row = row → i.op ≠ .added ∧ i.op ≠ .removed := by
  have hex := makeDiff_ops_exact rules old new ao an d ha hn hdo hdn h
  have hso := annotate_hasRow ha row
  have hsn := annotate_hasRow hn row
  rw [ho, Bool.true_and] at hso
  rw [hnw, Bool.true_and] at hsn
  have heq : hasRow ao.kids row = hasRow an.kids row := by rw [hso, hsn]
  intro i hi hrow
  obtain ⟨hadd, hrem, -⟩ := (exactI_iff _ _ i).1 ((exactL_iff _ _ d).1 hex i hi)
  rw [hrow] at hadd hrem
  constructor
  · intro hop
    have := hadd hop
    rw [heq, this.2] at this
    cases this.1
  · intro hop
    have := hrem hop
    rw [heq, this.2] at this
    cases this.1

mutual
  def noDupB : ACfg → Bool
    | .mk ks => noDupBL ks
  def noDupBL : List (String × PMatch × ACfg) → Bool
    | [] => true
    | (r, _, c) :: rest => rest.all (fun x => x.1 != r) && noDupB c && noDupBL rest
end

mutual
  theorem noDupB_sound : ∀ (c : ACfg), noDupB c = true → NoDupRows c
    | .mk ks, h => by
      rw [noDupB] at h
      rw [NoDupRows]
      exact noDupBL_sound ks h
  theorem noDupBL_sound : ∀ (l : List (String × PMatch × ACfg)), noDupBL l = true → NoDupRowsL l
    | [], _ => by rw [NoDupRowsL]; trivial
    | (r, m, c) :: rest, h => by
      rw [noDupBL, Bool.and_eq_true, Bool.and_eq_true] at h
      rw [NoDupRowsL]
      refine ⟨?_, noDupB_sound c h.1.2, noDupBL_sound rest h.2⟩
      intro x hx
      have := List.all_eq_true.1 h.1.1 x hx
      simpa using this
end

mutual
  def plainB : ACfg → Bool
    | .mk ks => plainBL ks
  def plainBL : List (String × PMatch × ACfg) → Bool
    | [] => true
    | (_, m, c) :: rest =>
      (m.attrs.diffLogic == "common.default_diff" || m.attrs.diffLogic == "common.ordered_diff") &&
        plainB c && plainBL rest
end

mutual
  theorem plainB_sound : ∀ (c : ACfg), plainB c = true → PlainLogics c
    | .mk ks, h => by
      rw [plainB] at h
      rw [PlainLogics]
      exact plainBL_sound ks h
  theorem plainBL_sound : ∀ (l : List (String × PMatch × ACfg)), plainBL l = true → PlainLogicsL l
    | [], _ => by rw [PlainLogicsL]; trivial
    | (r, m, c) :: rest, h => by
      rw [plainBL, Bool.and_eq_true, Bool.and_eq_true] at h
      rw [PlainLogicsL]
      refine ⟨?_, plainB_sound c h.1.2, plainBL_sound rest h.2⟩
      simpa using h.1.1
end

private def exOk {α : Type} : Except Err α → Bool
  | .ok _ => true
  | .error _ => false

def exGet {α : Type} [Inhabited α] : Except Err α → α
  | .ok a => a
  | .error _ => default

private theorem exGet_spec {α : Type} [Inhabited α] {x : Except Err α} (h : exOk x = true) : x = .ok (exGet x) := by
  cases x with
  | ok a => rfl
  | error e => cases h

mutual
  def flatL : List DItem → Nat → List (Nat × String × String)
    | [], _ => []
    | i :: rest, depth => flatI i depth ++ flatL rest depth
  def flatI : DItem → Nat → List (Nat × String × String)
    | .mk o r ch _, depth => (depth, o.name, r) :: flatL ch (depth + 1)
end

def flat (depth : Nat) (d : List DItem) : List (Nat × String × String) := flatL d depth

private def exVendor : Vendor := { reverse := "no", exit := "exit" }

private def dupRb : PRules := compileP exVendor [
  .mk "a *" "a *" false false "common.default" "common.default_diff" false false false false [
    .mk "x *" "x *" false false "common.default" "common.default_diff" false false false false [] ] ]
private def dupOld : Cfg := .mk []
private def dupNew : Cfg := .mk [("a 1", .mk [("x 1", .mk [])]), ("a 1", .mk [("x 2", .mk [])])]

/-- the second `a 1` is reported with its own child `x 2`, which the first line `a 1` of `new` does not have: the
conclusion of `makeDiff_ops_exact` fails at depth 2 -/
example :
    flat 0 (exGet (makeDiff dupRb dupOld dupNew)) =
      [(0, "added", "a 1"), (1, "added", "x 1"), (0, "added", "a 1"), (1, "added", "x 2")] ∧
    rowsOf (kidsOf (exGet (annotate dupRb dupNew)).kids "a 1") = ["x 1"] ∧
    hasRow (kidsOf (exGet (annotate dupRb dupNew)).kids "a 1") "x 2" = false := by decide +kernel

/-! a three-level pair with added, removed and affected entries at the first two levels, two diff logics at the top level
(`a *`: default_diff, `b *  %ordered`: ordered_diff) and a row no rule knows (`zzz`) -/

private def exRb : PRules := compileP exVendor [
  .mk "a *" "a *" false false "common.default" "common.default_diff" false false false false [
    .mk "x *" "x *" false false "common.default" "common.default_diff" false false false false [
      .mk "y *" "y *" false false "common.default" "common.default_diff" false false false false [] ] ],
  .mk "b *  %ordered" "b *" false false "common.default" "common.default_diff" true false false false [] ]

private def exOld : Cfg := .mk [
  ("a 1", .mk [("x 1", .mk []), ("x 2", .mk [("y 1", .mk [])]), ("x 4", .mk [])]),
  ("b 1", .mk []), ("a 2", .mk []), ("b 2", .mk []), ("zzz", .mk [])]
private def exNew : Cfg := .mk [
  ("a 1", .mk [("x 2", .mk [("y 2", .mk [])]), ("x 3", .mk []), ("x 4", .mk [])]),
  ("b 2", .mk []), ("a 3", .mk []), ("b 1", .mk [])]

private def exAo : ACfg := exGet (annotate exRb exOld)
private def exAn : ACfg := exGet (annotate exRb exNew)
private def exD : List DItem := exGet (makeDiff exRb exOld exNew)

/-- in one evaluation: each conjunct needs both sides annotated -/
private theorem ex_checks :
    (exOk (annotate exRb exOld) = true ∧ exOk (annotate exRb exNew) = true ∧
      exOk (makeDiff exRb exOld exNew) = true) ∧
    (noDupB exAo = true ∧ noDupB exAn = true) ∧ plainB exAo = true ∧ plainB exAn = true := by
  decide +kernel

private theorem ex_ao : annotate exRb exOld = .ok exAo := exGet_spec ex_checks.1.1
private theorem ex_an : annotate exRb exNew = .ok exAn := exGet_spec ex_checks.1.2.1
private theorem ex_d : makeDiff exRb exOld exNew = .ok exD := exGet_spec ex_checks.1.2.2

-- `NoDupRows`, `PlainLogics`, `ExactL` recurse on their argument: met as an expected type, the elaborator would run
-- `annotate` / `makeDiff` to unfold them
seal exAo exAn exD

private theorem ex_ndo : NoDupRows exAo := noDupB_sound _ ex_checks.2.1.1
private theorem ex_ndn : NoDupRows exAn := noDupB_sound _ ex_checks.2.1.2
private theorem ex_po : PlainLogics exAo := plainB_sound _ ex_checks.2.2.1
private theorem ex_pn : PlainLogics exAn := plainB_sound _ ex_checks.2.2.2

example : flat 0 exD =
    [(0, "affected", "a 1"),
       (1, "affected", "x 2"), (2, "added", "y 2"), (2, "removed", "y 1"),
       (1, "removed", "x 1"), (1, "added", "x 3"), (1, "unchanged", "x 4"),
     (0, "added", "a 3"), (0, "removed", "a 2"), (0, "moved", "b 2"), (0, "moved", "b 1")] := by decide +kernel

example : ExactL exAo.kids exAn.kids exD :=
  makeDiff_ops_exact exRb exOld exNew exAo exAn exD ex_ao ex_an ex_ndo ex_ndn ex_d

example : RPerm (projOld exD) (rtreeOfL exAo.kids) ∧ RPerm (projNew exD) (rtreeOfL exAn.kids) :=
  makeDiff_projections exRb exOld exNew exAo exAn exD ex_ao ex_an ex_ndo ex_ndn ex_po ex_pn ex_d

end Annet.Diff.Lemmas
