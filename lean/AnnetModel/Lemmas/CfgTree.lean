/-
Config trees (`Cfg`) as ordered dictionaries.  An entry list is an association list (`Cfg.lookup` is `Assoc.lookup`);
`NoDupKeys` and `paths` are read level by level through `lookup`.  `merge` (= `merge_dicts`) has one closed form
(`kids_merge`), from which its keys (`keys_merge`), its lookups (`lookup_merge`) and associativity (`merge_assoc`, of any
trees) follow; on trees with unique sibling keys it unites the lines (`paths_merge`, `nodup_merge`).  `insertPath` is
`merge` with the tree of one path (`insertPath_eq_merge`), so the parser's tree is a fold of `merge`: its lines are read
off `foldl_merge_paths`, the tree of a text in two parts is the `merge` of the parts' trees (`treeOfStacks_append`, how C04
rebuilds a tree from its lines), and a line inserted after a line above it adds nothing more (`insertPath_append`).  Last,
the sub-tree order `Sub`.
-/
import AnnetModel.Spec.Implicit
import AnnetModel.Lemmas.Assoc

/-- Induction over a forest: the children of the first entry, then its later siblings.  With it a statement about
trees is one induction over their entry lists, with no mutual twin. -/
theorem Annet.Cfg.forest_induction {motive : List (String × Annet.Cfg) → Prop} (nil : motive [])
    (cons : ∀ k ks rest, motive ks → motive rest → motive ((k, .mk ks) :: rest)) : ∀ ks, motive ks
  | [] => nil
  | (k, .mk ks) :: rest => cons k ks rest (forest_induction nil cons ks) (forest_induction nil cons rest)

/-- Induction over a tree through its entries, however they are found (`∈`, `Cfg.lookup`). -/
theorem Annet.Cfg.kids_induction {motive : Annet.Cfg → Prop} (h : ∀ t, (∀ e ∈ t.kids, motive e.2) → motive t)
    (t : Annet.Cfg) : motive t :=
  h t <| by
    obtain ⟨ks⟩ := t
    induction ks using forest_induction with
    | nil => nofun
    | cons k ks rest ih1 ih2 => exact List.forall_mem_cons.2 ⟨h _ ih1, ih2⟩

namespace Annet.Gen.Lemmas
open Annet Annet.Offside Annet.Implicit Annet.Implicit.Spec
open Annet.Acl.Spec (Sub SubL)

export Annet.Assoc (keys)

theorem any_key (l : List (String × Cfg)) (k : String) : l.any (·.1 == k) = true ↔ k ∈ keys l :=
  Keyed.any_key_iff Prod.fst k l

theorem keys_of_mem {l : List (String × Cfg)} {e : String × Cfg} (h : e ∈ l) : e.1 ∈ keys l :=
  List.mem_map_of_mem h

theorem cfg_eta (c : Cfg) : Cfg.mk c.kids = c := by
  cases c; rfl

theorem keys_append (x y : List (String × Cfg)) : keys (x ++ y) = keys x ++ keys y := List.map_append

theorem entry_unique (l : List (String × Cfg)) (hn : (keys l).Nodup) {k : String} {c c' : Cfg}
    (h1 : (k, c) ∈ l) (h2 : (k, c') ∈ l) : c = c' :=
  (Prod.mk.inj (List.inj_of_nodup_map Prod.fst l hn _ h1 _ h2 rfl)).2

theorem find_self (l : List (String × Cfg)) (hn : (keys l).Nodup) (e : String × Cfg) (he : e ∈ l) :
    l.find? (·.1 == e.1) = some e := by
  have : e ∈ (l.find? (·.1 == e.1)).toList := by
    rw [← Keyed.filter_unique Prod.fst e.1 l hn]
    exact List.mem_filter.2 ⟨he, beq_self_eq_true _⟩
  exact Option.mem_toList.1 this

/-- `Cfg.lookup` is the lookup of association lists (`Lemmas/Assoc.lean`) -/
theorem lookup_eq (l : List (String × Cfg)) (k : String) : Cfg.lookup l k = Assoc.lookup k l := by
  induction l with
  | nil => rfl
  | cons e l ih => by_cases h : e.1 = k <;> simp [Cfg.lookup, Assoc.lookup, h, ← ih]

theorem lookup_cons (k0 : String) (c0 : Cfg) (rest : List (String × Cfg)) (k : String) :
    Cfg.lookup ((k0, c0) :: rest) k = if k0 = k then some c0 else Cfg.lookup rest k := by
  rw [lookup_eq, lookup_eq]; rfl

theorem mem_of_lookup {l : List (String × Cfg)} {k : String} {c : Cfg} (h : Cfg.lookup l k = some c) : (k, c) ∈ l :=
  Assoc.mem_of_lookup (lookup_eq l k ▸ h)

theorem lookup_some_iff {l : List (String × Cfg)} (hn : (keys l).Nodup) {k : String} {c : Cfg} :
    Cfg.lookup l k = some c ↔ (k, c) ∈ l :=
  ⟨mem_of_lookup, fun h => lookup_eq l k ▸ Assoc.lookup_of_mem hn h⟩

theorem lookup_none_iff {l : List (String × Cfg)} {k : String} : Cfg.lookup l k = none ↔ k ∉ keys l :=
  lookup_eq l k ▸ Assoc.lookup_eq_none_iff

theorem lookup_append (x y : List (String × Cfg)) (k : String) :
    Cfg.lookup (x ++ y) k = (Cfg.lookup x k).or (Cfg.lookup y k) := by
  simp only [Cfg.lookup, List.find?_append]
  cases x.find? (·.1 == k) <;> rfl

theorem lookup_map_snd (f : String → Cfg → Cfg) (l : List (String × Cfg)) (k : String) :
    Cfg.lookup (l.map fun e => (e.1, f e.1 e.2)) k = (Cfg.lookup l k).map (f k) := by
  induction l with
  | nil => rfl
  | cons e rest ih =>
    rw [List.map_cons, lookup_cons, lookup_cons, ih]
    split
    · next h => rw [h]; rfl
    · rfl

theorem nodupKeys_iff (ks : List (String × Cfg)) :
    NoDupKeysL ks ↔ (keys ks).Nodup ∧ ∀ k c, (k, c) ∈ ks → NoDupKeys c := by
  induction ks with
  | nil => simp [NoDupKeysL, keys]
  | cons e rest ih =>
    simp only [NoDupKeysL, ih, keys, List.map_cons, List.nodup_cons, List.mem_map, List.mem_cons, Prod.forall,
      not_exists, not_and]
    grind

theorem nodupKeys_lookup : (t : Cfg) →
    (NoDupKeys t ↔ (keys t.kids).Nodup ∧ ∀ k c, Cfg.lookup t.kids k = some c → NoDupKeys c)
  | .mk ks => by
    rw [NoDupKeys, nodupKeys_iff]
    exact and_congr_right fun hn => forall₂_congr fun k c => by rw [Cfg.kids, lookup_some_iff hn]

theorem keys_kids_nodup {t : Cfg} (h : NoDupKeys t) : (keys t.kids).Nodup := ((nodupKeys_lookup t).1 h).1

theorem nodup_kid {t : Cfg} (h : NoDupKeys t) {k : String} {c : Cfg} (hl : Cfg.lookup t.kids k = some c) : NoDupKeys c :=
  ((nodupKeys_lookup t).1 h).2 k c hl

theorem nodupKeys_keys (ks : List (String × Cfg)) (h : NoDupKeysL ks) : (keys ks).Nodup :=
  ((nodupKeys_iff ks).1 h).1

theorem nodupKeys_child (a : List (String × Cfg)) (h : NoDupKeysL a) :
    ∀ k c, (k, c) ∈ a → NoDupKeys c :=
  ((nodupKeys_iff a).1 h).2

theorem empty_nodup : NoDupKeys Cfg.empty := by rw [Cfg.empty, NoDupKeys, NoDupKeysL]; trivial

theorem nil_not_mem_pathsList : (ks : List (String × Cfg)) → [] ∉ Cfg.pathsList ks
  | [] => nofun
  | (k, c) :: rest => by
    simp only [Cfg.pathsList, List.mem_append, List.mem_cons, List.mem_map, List.nil_eq, reduceCtorEq, and_false,
      exists_false, or_self, false_or]
    exact nil_not_mem_pathsList rest

theorem cons_mem_pathsList {k : String} {q : List String} : (ks : List (String × Cfg)) →
    (k :: q ∈ Cfg.pathsList ks ↔ ∃ c, (k, c) ∈ ks ∧ (q = [] ∨ q ∈ c.paths))
  | [] => by simp [Cfg.pathsList]
  | (k0, c0) :: rest => by
    simp only [Cfg.pathsList, List.mem_append, List.mem_cons, List.mem_map, List.cons.injEq, cons_mem_pathsList rest,
      Prod.mk.injEq, or_and_right, exists_or]
    apply or_congr_left
    constructor
    · rintro (⟨rfl, rfl⟩ | ⟨q', hq', rfl, rfl⟩)
      · exact ⟨c0, ⟨rfl, rfl⟩, .inl rfl⟩
      · exact ⟨c0, ⟨rfl, rfl⟩, .inr hq'⟩
    · rintro ⟨c, ⟨rfl, rfl⟩, rfl | hq⟩
      · exact .inl ⟨rfl, rfl⟩
      · exact .inr ⟨q, hq, rfl, rfl⟩

theorem mem_paths_cons {t : Cfg} (hn : (keys t.kids).Nodup) {k : String} {q : List String} :
    k :: q ∈ t.paths ↔ ∃ c, Cfg.lookup t.kids k = some c ∧ (q = [] ∨ q ∈ c.paths) := by
  cases t with
  | mk ks => simp only [Cfg.paths, Cfg.kids, cons_mem_pathsList, lookup_some_iff (show (keys ks).Nodup from hn)]

theorem nil_not_mem_paths : (t : Cfg) → [] ∉ t.paths
  | .mk ks => nil_not_mem_pathsList ks

theorem mergeL_eq_map : (a b : List (String × Cfg)) →
    mergeL a b = a.map fun e => (e.1, (Cfg.lookup b e.1).elim e.2 (merge e.2))
  | [], _ => rfl
  | (k, c) :: rest, b => by
    rw [mergeL, List.map_cons, mergeL_eq_map rest b]
    unfold Cfg.lookup
    cases b.find? (·.1 == k) <;> rfl

/-- `merge` as one expression: the entries of `s`, each merged with what `t` has under its key, then the new entries of `t` -/
theorem kids_merge (s t : Cfg) : (merge s t).kids =
    s.kids.map (fun e => (e.1, (Cfg.lookup t.kids e.1).elim e.2 (merge e.2))) ++
      t.kids.filter fun e => !Cfg.hasKey s.kids e.1 := by
  obtain ⟨a⟩ := s; obtain ⟨b⟩ := t
  rw [merge, mergeL_eq_map]; rfl

theorem merge_nil_left (b : List (String × Cfg)) : merge (.mk []) (.mk b) = .mk b := by
  rw [merge, mergeL]; simp

theorem keys_merge : (s t : Cfg) →
    keys (merge s t).kids = keys s.kids ++ (keys t.kids).filter (fun k => !(keys s.kids).contains k)
  | .mk a, .mk b => by
    rw [merge, Cfg.kids, keys_append, mergeL_eq_map]
    simp only [Cfg.kids, keys, List.map_map, List.filter_map, List.contains_eq_any_beq, List.any_map, Function.comp_def, BEq.comm]

theorem mem_keys_merge {a b : List (String × Cfg)} {k : String} :
    k ∈ keys (merge (.mk a) (.mk b)).kids ↔ k ∈ keys a ∨ k ∈ keys b := by
  rw [keys_merge, List.mem_append, List.mem_filter]
  by_cases h : k ∈ keys a <;> simp [Cfg.kids, h]

theorem hasKey_merge (s t : Cfg) (k : String) :
    Cfg.hasKey (merge s t).kids k = (Cfg.hasKey s.kids k || Cfg.hasKey t.kids k) := by
  obtain ⟨a⟩ := s; obtain ⟨b⟩ := t
  rw [Bool.eq_iff_iff, Bool.or_eq_true]
  exact (any_key _ _).trans (mem_keys_merge.trans (or_congr (any_key _ _).symm (any_key _ _).symm))

theorem nodup_keys_merge {a b : List (String × Cfg)} (ha : (keys a).Nodup) (hb : (keys b).Nodup) :
    (keys (merge (.mk a) (.mk b)).kids).Nodup := by
  rw [keys_merge, List.nodup_append]
  exact ⟨ha, hb.sublist List.filter_sublist, fun x hx y hy hxy => by
    simpa [← hxy, Cfg.kids, show x ∈ keys a from hx] using (List.mem_filter.1 hy).2⟩

theorem mem_new {a b : List (String × Cfg)} {e : String × Cfg} :
    e ∈ b.filter (fun e => !(a.any (·.1 == e.1))) ↔ e ∈ b ∧ e.1 ∉ keys a := by
  rw [List.mem_filter, Bool.not_eq_true', ← Bool.not_eq_true, any_key]

theorem new_eq_nil {a b : List (String × Cfg)} (h : ∀ e ∈ b, e.1 ∈ keys a) :
    b.filter (fun e => !(a.any (·.1 == e.1))) = [] :=
  List.eq_nil_iff_forall_not_mem.2 fun e he => (mem_new.1 he).2 (h e (mem_new.1 he).1)

theorem lookup_filter_new (a : List (String × Cfg)) (k : String) : (b : List (String × Cfg)) →
    Cfg.lookup (b.filter fun e => !(a.any (·.1 == e.1))) k = if k ∈ keys a then none else Cfg.lookup b k
  | [] => by simp [Cfg.lookup]
  | (k0, c0) :: rest => by
    -- an entry whose key is in `a` is dropped and is not looked for; any other entry is kept on both sides
    have ih := lookup_filter_new a k rest
    have hk0 := any_key a k0
    rw [List.filter_cons]
    split <;> grind [lookup_cons]

theorem lookup_merge : (s t : Cfg) → ∀ k,
    Cfg.lookup (merge s t).kids k = Option.merge merge (Cfg.lookup s.kids k) (Cfg.lookup t.kids k)
  | .mk a, .mk b, k => by
    rw [merge]
    simp only [Cfg.kids]
    rw [lookup_append, mergeL_eq_map, lookup_map_snd fun k c => (Cfg.lookup b k).elim c (merge c), lookup_filter_new]
    cases ha : Cfg.lookup a k with
    | some x => cases Cfg.lookup b k <;> rfl
    | none => rw [if_neg (lookup_none_iff.1 ha)]; cases Cfg.lookup b k <;> rfl

/-- of any three trees, with or without repeated keys -/
theorem merge_assoc (a b c : Cfg) : merge (merge a b) c = merge a (merge b c) := by
  induction a using Cfg.kids_induction generalizing b c with
  | h a ih =>
    rw [← cfg_eta (merge (merge a b) c), ← cfg_eta (merge a (merge b c)), kids_merge (merge a b), kids_merge a (merge b c),
      kids_merge a b, kids_merge b c, List.map_append, List.filter_append, List.map_map, List.filter_map, List.filter_filter,
      List.append_assoc]
    congr 2
    · refine List.map_congr_left fun e he => Prod.ext rfl ?_
      rw [← kids_merge b c, lookup_merge]
      simp only [Function.comp_apply]
      -- only when all three have a child under the key is there anything to merge twice
      cases Cfg.lookup b.kids e.1 <;> cases Cfg.lookup c.kids e.1 <;> try rfl
      exact ih e he _ _
    · congr 1
      refine List.filter_congr fun e _ => ?_
      rw [← kids_merge a b, hasKey_merge, Bool.not_or, Bool.and_comm]

theorem nodup_merge (a b : Cfg) (ha : NoDupKeys a) (hb : NoDupKeys b) : NoDupKeys (merge a b) := by
  induction a using Cfg.kids_induction generalizing b with
  | h a ih =>
    rw [nodupKeys_lookup]
    refine ⟨?_, fun k c h => ?_⟩
    · cases a; cases b; exact nodup_keys_merge (keys_kids_nodup ha) (keys_kids_nodup hb)
    · rw [lookup_merge] at h
      cases hla : Cfg.lookup a.kids k <;> cases hlb : Cfg.lookup b.kids k <;> rw [hla, hlb] at h <;> cases h
      · exact nodup_kid hb hlb
      · exact nodup_kid ha hla
      · exact ih _ (mem_of_lookup hla) _ (nodup_kid ha hla) (nodup_kid hb hlb)

theorem paths_merge (a b : Cfg) (ha : NoDupKeys a) (hb : NoDupKeys b) (p : List String) :
    p ∈ (merge a b).paths ↔ p ∈ a.paths ∨ p ∈ b.paths := by
  induction a using Cfg.kids_induction generalizing b p with
  | h a ih =>
    cases p with
    | nil => simp only [nil_not_mem_paths, or_self]
    | cons k q =>
      rw [mem_paths_cons (keys_kids_nodup (nodup_merge a b ha hb)), mem_paths_cons (keys_kids_nodup ha),
        mem_paths_cons (keys_kids_nodup hb), lookup_merge]
      cases hla : Cfg.lookup a.kids k with
      | none => cases Cfg.lookup b.kids k <;> simp
      | some x =>
        cases hlb : Cfg.lookup b.kids k with
        | none => simp
        | some y =>
          simp only [Option.merge, Option.some.injEq, exists_eq_left',
            ih _ (mem_of_lookup hla) y (nodup_kid ha hla) (nodup_kid hb hlb) q]
          by_cases hq : q = [] <;> simp [hq]

theorem foldl_merge_paths (cs : List Cfg) :
    ∀ (t : Cfg), NoDupKeys t → (∀ c ∈ cs, NoDupKeys c) →
      NoDupKeys (cs.foldl merge t) ∧ ∀ p, p ∈ (cs.foldl merge t).paths ↔ p ∈ t.paths ∨ ∃ c ∈ cs, p ∈ c.paths := by
  induction cs with
  | nil => intro t ht _; exact ⟨ht, fun p => by simp⟩
  | cons c rest ih =>
    intro t ht hc
    rw [List.forall_mem_cons] at hc
    obtain ⟨h1, h2⟩ := ih (merge t c) (nodup_merge t c ht hc.1) hc.2
    refine ⟨h1, fun p => ?_⟩
    rw [List.foldl_cons, h2 p, paths_merge t c ht hc.1 p]
    simp only [List.mem_cons, or_and_right, exists_or, exists_eq_left, or_assoc]

theorem merge_new (k : String) (c : Cfg) (rest : List (String × Cfg)) (h : (rest.any fun e => e.1 == k) = false) :
    merge (.mk [(k, c)]) (.mk rest) = .mk ((k, c) :: rest) := by
  have hf : rest.find? (·.1 == k) = none := by simpa using h
  have : rest.filter (fun e => !([(k, c)].any (·.1 == e.1))) = rest :=
    List.filter_eq_self.2 fun e he => by
      have := List.any_eq_false.1 h e he
      simp only [List.any_cons, List.any_nil, Bool.or_false, Bool.not_eq_true', beq_eq_false_iff_ne, ne_eq]
      exact fun hh => this (by simp [hh])
  rw [merge, mergeL, mergeL, hf, this]
  rfl

theorem mergeL_nil_right : (a : List (String × Cfg)) → mergeL a [] = a
  | [] => by rw [mergeL]
  | (k, c) :: rest => by rw [mergeL, mergeL_nil_right rest]; rfl

theorem _root_.Annet.Implicit.Lemmas.merge_empty_right (t : Cfg) : merge t (.mk []) = t := by
  cases t with
  | mk a => rw [merge, mergeL_nil_right]; simp

/-- merging `cs` into `t` one by one is merging their merge into `t` -/
theorem foldl_merge_start (cs : List Cfg) : ∀ t, cs.foldl merge t = merge t (cs.foldl merge Cfg.empty) := by
  induction cs with
  | nil => exact fun t => (Implicit.Lemmas.merge_empty_right t).symm
  | cons c cs ih =>
    intro t
    have he : merge Cfg.empty c = c := by rw [Cfg.empty, ← cfg_eta c, merge_nil_left]
    rw [List.foldl_cons, List.foldl_cons, he, ih, ih c, merge_assoc]

theorem insertPath_cons (k : String) (rest : List String) (ks : List (String × Cfg)) :
    Cfg.insertPath (k :: rest) (.mk ks) =
      .mk (Keyed.upsert Prod.fst k (fun p => (p.1, Cfg.insertPath rest p.2)) (k, Cfg.insertPath rest Cfg.empty) ks) := by
  rw [Cfg.insertPath, Keyed.upsert, apply_ite Cfg.mk]
  rfl

/-- the tree with the one line `p` and the lines above it -/
def pathTree : List String → Cfg
  | [] => .mk []
  | k :: rest => .mk [(k, pathTree rest)]

theorem nodup_pathTree : (p : List String) → NoDupKeys (pathTree p)
  | [] => empty_nodup
  | k :: rest => by
    rw [pathTree, NoDupKeys, NoDupKeysL, NoDupKeysL]
    exact ⟨nofun, nodup_pathTree rest, trivial⟩

theorem mem_paths_pathTree : (p q : List String) → (q ∈ (pathTree p).paths ↔ q ≠ [] ∧ q <+: p)
  | [], q => by simp [pathTree, Cfg.paths, Cfg.pathsList]
  | k :: rest, [] => by simp [nil_not_mem_paths]
  | k :: rest, k' :: q => by
    have ih := mem_paths_pathTree rest q
    simp only [pathTree, Cfg.paths, cons_mem_pathsList, List.mem_singleton, Prod.mk.injEq, List.cons_prefix_cons] at ih ⊢
    by_cases hq : q = [] <;> grind

theorem merge_pathTree_append : (q r : List String) → merge (pathTree q) (pathTree (q ++ r)) = pathTree (q ++ r)
  | [], r => by rw [pathTree, List.nil_append, ← cfg_eta (pathTree r), merge_nil_left]
  | k :: q, r => by
    have := merge_pathTree_append q r
    simp_all [pathTree, merge, mergeL]

/-- `insertPath` adds a line the way `merge` adds a tree -/
theorem insertPath_eq_merge : (p : List String) → (t : Cfg) → Cfg.insertPath p t = merge t (pathTree p)
  | [], t => by rw [Cfg.insertPath, pathTree, Implicit.Lemmas.merge_empty_right]
  | k :: rest, .mk ks => by
    have hmap : ∀ e ∈ ks, (e.1, (Cfg.lookup [(k, pathTree rest)] e.1).elim e.2 (merge e.2)) =
        if e.1 == k then (e.1, Cfg.insertPath rest e.2) else e := fun e _ => by
      rw [lookup_cons, insertPath_eq_merge rest e.2]
      by_cases h : k = e.1
      · simp [h]
      · simp [h, Ne.symm h, Cfg.lookup]
    rw [insertPath_cons, pathTree, merge, mergeL_eq_map, Keyed.upsert, List.map_congr_left hmap, List.filter_cons, List.filter_nil]
    cases hk : ks.any fun x => x.1 == k with
    | true => simp
    | false =>
      have hid : ∀ e ∈ ks, (if e.1 == k then (e.1, Cfg.insertPath rest e.2) else e) = e := fun e he => by
        rw [if_neg]
        exact fun h => Bool.false_ne_true (hk ▸ List.any_eq_true.2 ⟨e, he, h⟩)
      have he : Cfg.insertPath rest Cfg.empty = pathTree rest := by
        rw [insertPath_eq_merge, Cfg.empty, ← cfg_eta (pathTree rest), merge_nil_left]
      rw [List.map_congr_left hid, he]
      simp

/-- a line inserted after a line above it leaves the same tree as the line alone; with `r = []`: a line inserted twice -/
theorem insertPath_append (q r : List String) (T : Cfg) :
    Cfg.insertPath (q ++ r) (Cfg.insertPath q T) = Cfg.insertPath (q ++ r) T := by
  rw [insertPath_eq_merge, insertPath_eq_merge, merge_assoc, merge_pathTree_append, ← insertPath_eq_merge]

/-- the tree the parser builds is the `merge` of its paths' trees -/
theorem treeOfStacks_eq_merge (ss : List (List String)) : treeOfStacks ss = (ss.map pathTree).foldl merge Cfg.empty := by
  rw [treeOfStacks, List.foldl_map]
  simp only [insertPath_eq_merge]

theorem treeOfStacks_spec (ss : List (List String)) :
    NoDupKeys (treeOfStacks ss) ∧ ∀ q, q ∈ (treeOfStacks ss).paths ↔ q ≠ [] ∧ ∃ s ∈ ss, q <+: s := by
  rw [treeOfStacks_eq_merge]
  have := foldl_merge_paths (ss.map pathTree) Cfg.empty empty_nodup fun c hc => by
    obtain ⟨p, _, rfl⟩ := List.mem_map.1 hc
    exact nodup_pathTree p
  refine ⟨this.1, fun q => (this.2 q).trans ?_⟩
  simp only [Cfg.empty, Cfg.paths, Cfg.pathsList, List.not_mem_nil, false_or]
  constructor
  · rintro ⟨c, hc, hq⟩
    obtain ⟨s, hs, rfl⟩ := List.mem_map.1 hc
    exact ⟨((mem_paths_pathTree s q).1 hq).1, s, hs, ((mem_paths_pathTree s q).1 hq).2⟩
  · exact fun ⟨hq, s, hs, hp⟩ => ⟨pathTree s, List.mem_map_of_mem hs, (mem_paths_pathTree s q).2 ⟨hq, hp⟩⟩

theorem nodup_treeOfStacks (ss : List (List String)) : NoDupKeys (treeOfStacks ss) := (treeOfStacks_spec ss).1

theorem parseToTree_nodup (cm : List String) (lines : List String) (cfg : Cfg)
    (h : parseToTree cm lines = .ok cfg) : NoDupKeys cfg := by
  rw [parseToTree, parseItems] at h
  split at h
  · cases h
  · cases h
    exact nodup_treeOfStacks _

theorem treeOfStacks_append (a b : List (List String)) :
    treeOfStacks (a ++ b) = merge (treeOfStacks a) (treeOfStacks b) := by
  rw [treeOfStacks_eq_merge, treeOfStacks_eq_merge b, List.map_append, List.foldl_append, ← treeOfStacks_eq_merge,
    foldl_merge_start]

theorem treeOfStacks_under (k : String) (qs : List (List String)) :
    treeOfStacks ([k] :: qs.map (k :: ·)) = .mk [(k, treeOfStacks qs)] := by
  have : ∀ s, ((qs.map (k :: ·)).map pathTree).foldl merge (.mk [(k, s)]) = .mk [(k, (qs.map pathTree).foldl merge s)] := by
    induction qs with
    | nil => exact fun _ => rfl
    | cons q qs ih =>
      intro s
      rw [List.map_cons, List.map_cons, List.foldl_cons, List.map_cons, List.foldl_cons, ← ih]
      simp [pathTree, merge, mergeL]
  rw [treeOfStacks_eq_merge, treeOfStacks_eq_merge, List.map_cons, List.foldl_cons, ← this]
  rfl

end Annet.Gen.Lemmas

namespace Annet.Implicit.Lemmas
open Annet Annet.Implicit
open Annet.Acl.Spec (SubL)

mutual
  theorem sub_refl : (c : Cfg) → Acl.Spec.Sub c c
    | .mk ks => Acl.Spec.Sub.mk (subL_refl ks)
  theorem subL_refl : (ks : List (String × Cfg)) → SubL ks ks
    | [] => SubL.nil _
    | (k, c) :: rest => SubL.keep k (sub_refl c) (subL_refl rest)
end

mutual
  theorem merge_keeps_left : (a b : Cfg) → Acl.Spec.Sub a (merge a b)
    | .mk a, .mk b => by rw [merge]; exact Acl.Spec.Sub.mk (mergeL_sub a b _)
  theorem mergeL_sub : (a b x : List (String × Cfg)) → SubL a (mergeL a b ++ x)
    | [], _, _ => SubL.nil _
    | (k, c) :: rest, b, x => by
      rw [mergeL]
      cases hf : b.find? (·.1 == k) with
      | none => exact SubL.keep k (sub_refl c) (mergeL_sub rest b x)
      | some e =>
        obtain ⟨k', c'⟩ := e
        exact SubL.keep k (merge_keeps_left c c') (mergeL_sub rest b x)
end

end Annet.Implicit.Lemmas

namespace Annet.Gen
open Annet Annet.Acl.Spec

theorem subL_nil_right {a : List (String × Cfg)} (h : SubL a []) : a = [] := by
  cases h; rfl

mutual
  theorem sub_trans : (c : Cfg) → (a b : Cfg) → Sub a b → Sub b c → Sub a c
    | .mk kc, a, b, h1, h2 => by
      cases h2 with
      | mk h2 =>
        cases h1 with
        | mk h1 => exact Acl.Spec.Sub.mk (subL_trans kc _ _ h1 h2)
  theorem subL_trans : (c : List (String × Cfg)) → (a b : List (String × Cfg)) → SubL a b → SubL b c → SubL a c
    | [], a, b, h1, h2 => by
      have := subL_nil_right h2; subst this
      have := subL_nil_right h1; subst this
      exact SubL.nil _
    | (k, cc) :: l, a, b, h1, h2 => by
      cases h2 with
      | nil => have := subL_nil_right h1; subst this; exact SubL.nil _
      | skip _ h2 => exact SubL.skip _ (subL_trans l a b h1 h2)
      | keep _ hc h2 =>
        cases h1 with
        | nil => exact SubL.nil _
        | skip _ h1 => exact SubL.skip _ (subL_trans l a _ h1 h2)
        | keep _ hc1 h1 => exact SubL.keep k (sub_trans cc _ _ hc1 hc) (subL_trans l _ _ h1 h2)
end

end Annet.Gen

namespace Annet.Gen.Lemmas
open Annet Annet.Implicit.Spec
open Annet.Acl.Spec (Sub SubL)

theorem subL_keys : (a l : List (String × Cfg)) → SubL a l → (keys a).Sublist (keys l)
  | _, _, .nil l => by simp [keys]
  | _, _, .skip x h => by
    simp only [keys, List.map_cons]
    exact List.Sublist.cons _ (subL_keys _ _ h)
  | _, _, .keep k _ h => by
    simp only [keys, List.map_cons]
    exact List.Sublist.cons_cons _ (subL_keys _ _ h)

mutual
  theorem nodup_sub : (t' t : Cfg) → Sub t' t → NoDupKeys t → NoDupKeys t'
    | .mk a, .mk b, .mk h, hn => by
      rw [NoDupKeys] at hn ⊢
      exact nodup_subL a b h hn
  theorem nodup_subL : (a l : List (String × Cfg)) → SubL a l → NoDupKeysL l → NoDupKeysL a
    | _, _, .nil l, _ => by rw [NoDupKeysL]; trivial
    | _, _, .skip (a := a) (l := l) x h, hn => by
      obtain ⟨k, c⟩ := x
      rw [NoDupKeysL] at hn
      exact nodup_subL a l h hn.2.2
    | _, _, .keep (a := a) (l := l) (c := c) (c' := c') k hc h, hn => by
      rw [NoDupKeysL] at hn ⊢
      refine ⟨?_, nodup_sub c c' hc hn.2.1, nodup_subL a l h hn.2.2⟩
      intro e he hk
      have := (subL_keys a l h).subset (keys_of_mem he)
      obtain ⟨e', he', hk'⟩ := List.mem_map.1 this
      exact hn.1 e' he' (hk'.trans hk)
end

end Annet.Gen.Lemmas
