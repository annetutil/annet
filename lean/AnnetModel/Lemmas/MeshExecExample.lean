/-
Closed instances, evaluated by the kernel.  `a_two_pairs`/`b_raises`: without `KeyCompatI`, `a` holds two pairs while
`b` files both under one key and raises (`C15_mirrored_false`).  `order_12_ok`/`order_21_raises`: `ifname` naming an
interface another rule creates (`C15_execute_for_order_independent_false`).
-/
import AnnetModel.Spec.MeshExec

namespace Annet.Mesh

namespace Witness

def dto : Table := [("addr", .forbidChange), ("asnum", .forbidChange), ("vrf", .forbidChange),
  ("families", .unite), ("svi", .forbidChange), ("ifname", .forbidChange)]

theorem dto_ok : (Merger.merge dto).WF ∧ (Merger.merge dto).Sym ∧ (Merger.merge dto).DictFree := by
  simp [dto, Merger.WF, Table.WF, Merger.Sym, Table.Sym, Merger.DictFree, Table.DictFree, keys]

def st : Storage where
  allFqdns := ["a", "b"]
  neighbours := fun _ => []
  conns := fun _ _ => []
  known := fun _ => true
  ifaces := fun _ => ["lo0"]
  lagName := fun l => "Trunk" ++ l
  subifName := fun p s => p ++ "." ++ s
  sviName := fun s => "Vlan" ++ String.ofList (s.toList.drop 1)

/-- `a` has one address; the handler gives `b` the address `x` -/
def rule (x : String) : IndirectRule where
  isMatch := fun l r => l == "a" && r == "b"
  handler := fun _ _ => ⟨[("addr", .atom "s10.0.0.1")], [("addr", .atom x)], [("asnum", .atom "i65000")]⟩

def isOk {ε α : Type} : Except ε α → Bool
  | .ok _ => true
  | .error _ => false

theorem a_two_pairs : (executeIndirect dto st [rule "s10.0.0.2", rule "s10.0.0.3"] "a").toOption.map List.length = some 2 := by
  decide +kernel

theorem b_raises : isOk (executeIndirect dto st [rule "s10.0.0.2", rule "s10.0.0.3"] "b") = false := by
  decide +kernel

def tables : Tables := ⟨dto, dto, dto, dto, []⟩

/-- creates `Vlan100` on `a` (svi) -/
def ruleSvi : IndirectRule where
  isMatch := fun l r => l == "a" && r == "b"
  handler := fun _ _ => ⟨[("addr", .atom "s10.0.0.1"), ("svi", .atom "i100")], [("addr", .atom "s10.0.0.2")],
    [("asnum", .atom "i65000")]⟩

/-- names it (`ifname`) -/
def ruleIfname : IndirectRule where
  isMatch := fun l r => l == "a" && r == "b"
  handler := fun _ _ => ⟨[("addr", .atom "s10.0.1.1"), ("ifname", .atom "sVlan100")], [("addr", .atom "s10.0.1.2")],
    [("asnum", .atom "i65000")]⟩

theorem order_12_ok : isOk (executeFor tables st some ⟨[], [ruleSvi, ruleIfname], []⟩ "a") = true := by decide +kernel
theorem order_21_raises : isOk (executeFor tables st some ⟨[], [ruleIfname, ruleSvi], []⟩ "a") = false := by decide +kernel

end Witness

end Annet.Mesh
