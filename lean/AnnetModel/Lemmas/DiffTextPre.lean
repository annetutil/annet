/-
`Pre` = the `make_pre` structure (not "preliminaries"); builds on `Lemmas/DiffText.lean`.
The `annet diff` view of a diff (C03, last clause).  `forestPre` reads the entry forest off a `Pre` in printing order;
`gen_pre_as_diff` prints exactly that forest, the reader gets it back, and `make_pre` only regroups the entries of the
diff: by `PreLemmas.makePre_inv` the forest is the diff partitioned by raw rule, then key, then op (`Keyed.part`, three
times).
-/
import AnnetModel.Lemmas.DiffText
import AnnetModel.Lemmas.Pre

namespace Annet.DiffText
open Annet.Rules Annet.Diff Annet.Patch Annet.Patch.PreLemmas
open List

mutual
  theorem SEqv.refl : ∀ i : SItem, SEqv i i
    | .mk _ _ c => SEqv.mk (SPermv.refl c)
  theorem SPermv.refl : ∀ l : List SItem, SPermv l l
    | [] => .nil
    | i :: l => .cons (SEqv.refl i) (SPermv.refl l)
end

theorem SPermv.of_perm {a b : List SItem} (h : a ~ b) : SPermv a b := by
  induction h with
  | nil => exact .nil
  | cons x _ ih => exact .cons (SEqv.refl x) ih
  | swap x y l => exact .swap
  | trans _ _ ih1 ih2 => exact .trans ih1 ih2

theorem SPermv.append_left (a : List SItem) {b b' : List SItem} (h : SPermv b b') : SPermv (a ++ b) (a ++ b') := by
  induction a with
  | nil => simpa using h
  | cons x a ih => exact .cons (SEqv.refl x) ih

theorem SPermv.append_right {a a' : List SItem} (b : List SItem) (h : SPermv a a') : SPermv (a ++ b) (a' ++ b) :=
  .trans (.of_perm perm_append_comm) (.trans (SPermv.append_left b h) (.of_perm perm_append_comm))

theorem SPermv.append {a a' b b' : List SItem} (h1 : SPermv a a') (h2 : SPermv b b') :
    SPermv (a ++ b) (a' ++ b') :=
  .trans (SPermv.append_right b h1) (SPermv.append_left a' h2)

theorem SPermv.append_comm (a b : List SItem) : SPermv (a ++ b) (b ++ a) := .of_perm perm_append_comm

theorem noLeadBlank_cons (i : SItem) (l : List SItem) :
    NoLeadBlank (i :: l) ↔ NoLeadBlankItem i ∧ NoLeadBlank l := by simp [NoLeadBlank]

theorem noLeadBlank_spermv {p s : List SItem} (h : SPermv p s) : NoLeadBlank p ↔ NoLeadBlank s := by
  refine SPermv.rec (motive_1 := fun a b _ => NoLeadBlankItem a ↔ NoLeadBlankItem b)
    (motive_2 := fun a b _ => NoLeadBlank a ↔ NoLeadBlank b) ?_ ?_ ?_ ?_ ?_ h
  · intro s r c1 c2 _ ih
    simp only [NoLeadBlankItem, ih]
  · exact Iff.rfl
  · intro a b l1 l2 _ _ ih1 ih2
    simp only [noLeadBlank_cons, ih1, ih2]
  · intro a b l
    simp only [noLeadBlank_cons]
    constructor <;> (intro ⟨h1, h2, h3⟩; exact ⟨h2, h1, h3⟩)
  · intro l1 l2 l3 _ _ ih1 ih2
    exact ih1.trans ih2

mutual
  def forestPre : Pre → List SItem
    | .mk rules => forestRules rules
  def forestRules : List PreRule → List SItem
    | [] => []
    | .mk _ _ items :: rest => forestItems items ++ forestRules rest
  def forestItems : List PreItem → List SItem
    | [] => []
    | .mk _ a r m f _ :: rest =>
      (forestEntries .space f ++ forestEntries .gt m ++ forestEntries .minus r ++ forestEntries .plus a) ++
        forestItems rest
  def forestEntries (s : Sign) : List PreEntry → List SItem
    | [] => []
    | .mk row ch :: rest => .mk s row.toList (forestPre ch) :: forestEntries s rest
end

def entryS (s : Sign) : PreEntry → SItem
  | .mk row ch => .mk s row.toList (forestPre ch)

mutual
  def plinesItem (ind : Txt) (lvl : Nat) : SItem → List Txt
    | .mk s row ch => pline ind s lvl row :: plinesList ind (lvl + 1) ch
  def plinesList (ind : Txt) (lvl : Nat) : List SItem → List Txt
    | [] => []
    | i :: rest => plinesItem ind lvl i ++ plinesList ind lvl rest
end

theorem plinesList_append (ind : Txt) (lvl : Nat) :
    ∀ (a b : List SItem), plinesList ind lvl (a ++ b) = plinesList ind lvl a ++ plinesList ind lvl b
  | [], b => by simp [plinesList]
  | i :: a, b => by simp [plinesList, plinesList_append ind lvl a b]

mutual
  theorem preLines_eq (ind : Txt) : ∀ (lvl : Nat) (p : Pre), preLines ind lvl p = plinesList ind lvl (forestPre p)
    | lvl, .mk rules => by
      simp only [preLines, forestPre]
      exact preRules_eq ind lvl rules
  theorem preRules_eq (ind : Txt) :
      ∀ (lvl : Nat) (l : List PreRule), preRules ind lvl l = plinesList ind lvl (forestRules l)
    | lvl, [] => by simp [preRules, forestRules, plinesList]
    | lvl, .mk _ _ items :: rest => by
      simp only [preRules, forestRules, plinesList_append, preItems_eq ind lvl items, preRules_eq ind lvl rest]
  theorem preItems_eq (ind : Txt) :
      ∀ (lvl : Nat) (l : List PreItem), preItems ind lvl l = plinesList ind lvl (forestItems l)
    | lvl, [] => by simp [preItems, forestItems, plinesList]
    | lvl, .mk _ a r m f _ :: rest => by
      simp only [preItems, forestItems, plinesList_append, preEntries_eq ind lvl _ f, preEntries_eq ind lvl _ m,
        preEntries_eq ind lvl _ r, preEntries_eq ind lvl _ a, preItems_eq ind lvl rest]
  theorem preEntries_eq (ind : Txt) :
      ∀ (lvl : Nat) (s : Sign) (l : List PreEntry), preEntries ind lvl s l = plinesList ind lvl (forestEntries s l)
    | lvl, s, [] => by simp [preEntries, forestEntries, plinesList]
    | lvl, s, .mk row ch :: rest => by
      simp only [preEntries, forestEntries, plinesList, plinesItem, preLines_eq ind (lvl + 1) ch,
        preEntries_eq ind lvl s rest, List.cons_append]
end

theorem spanBlanks_replicate (row : Txt) (h : row.head? ≠ some ' ') :
    ∀ n, spanBlanks (List.replicate n ' ' ++ row) = (n, row)
  | 0 => by
    cases row with
    | nil => simp [spanBlanks]
    | cons c t =>
      have hc : c ≠ ' ' := by simpa using h
      simp only [List.replicate_zero, List.nil_append]
      unfold spanBlanks
      split
      · rename_i heq
        simp only [List.cons.injEq] at heq
        exact absurd heq.1 hc
      · rfl
  | n + 1 => by
    simp [List.replicate_succ, spanBlanks, spanBlanks_replicate row h n]

theorem rep_replicate (k : Nat) (c : Char) : ∀ lvl, rep lvl (List.replicate k c) = List.replicate (lvl * k) c
  | 0 => by simp [rep]
  | n + 1 => by
    rw [rep, rep_replicate k c n, List.replicate_append_replicate]
    congr 1
    rw [Nat.succ_mul, Nat.add_comm]

theorem readPreLine_pline (k : Nat) (hk : 0 < k) (s : Sign) (lvl : Nat) (row : Txt) (h : row.head? ≠ some ' ') :
    readPreLine k (pline (List.replicate k ' ') s lvl row) = some ⟨s, lvl, row⟩ := by
  have e : rep lvl (List.replicate k ' ') ++ ' ' :: row = List.replicate (lvl * k + 1) ' ' ++ row := by
    rw [rep_replicate, List.replicate_succ', List.append_assoc]
    rfl
  simp only [pline, readPreLine, ofChar_char, e, spanBlanks_replicate row h, Nat.add_sub_cancel,
    Nat.mul_div_cancel _ hk]

theorem readPreLines_append {k : Nat} {a b : List Txt} {x y : List PLine} :
    readPreLines k a = some x → readPreLines k b = some y → readPreLines k (a ++ b) = some (x ++ y) :=
  read_append (one := readPreLine k) (by rw [readPreLines])
    (fun l rest => by rw [readPreLines]; cases readPreLine k l <;> cases readPreLines k rest <;> rfl)

mutual
  theorem readPreLines_plinesItem (k : Nat) (hk : 0 < k) : ∀ (lvl : Nat) (i : SItem), NoLeadBlankItem i →
      readPreLines k (plinesItem (List.replicate k ' ') lvl i) = some (flatItem lvl i)
    | lvl, .mk s row ch, h => by
      simp only [NoLeadBlankItem] at h
      have ih := readPreLines_plinesList k hk (lvl + 1) ch h.2
      simp only [plinesItem, flatItem, readPreLines, readPreLine_pline k hk s lvl row h.1, ih]
  theorem readPreLines_plinesList (k : Nat) (hk : 0 < k) : ∀ (lvl : Nat) (l : List SItem), NoLeadBlank l →
      readPreLines k (plinesList (List.replicate k ' ') lvl l) = some (flatList lvl l)
    | lvl, [], _ => by simp [plinesList, flatList, readPreLines]
    | lvl, i :: rest, h => by
      simp only [NoLeadBlank] at h
      simp only [plinesList, flatList]
      exact readPreLines_append (readPreLines_plinesItem k hk lvl i h.1) (readPreLines_plinesList k hk lvl rest h.2)
end

theorem parsePre_preLines (k : Nat) (hk : 0 < k) (p : Pre) (h : NoLeadBlank (forestPre p)) :
    parsePre k (preLines (List.replicate k ' ') 0 p) = some (forestPre p) := by
  simp only [parsePre, preLines_eq, readPreLines_plinesList k hk 0 _ h, build_flat]

def forestItem : PreItem → List SItem
  | .mk _ a r m f _ =>
    forestEntries .space f ++ forestEntries .gt m ++ forestEntries .minus r ++ forestEntries .plus a

theorem forestItems_eq_flatMap : ∀ l : List PreItem, forestItems l = l.flatMap forestItem
  | [] => by simp [forestItems]
  | .mk _ a r m f _ :: rest => by
    simp [forestItems, forestItem, forestItems_eq_flatMap rest]

theorem forestRules_eq_flatMap : ∀ l : List PreRule, forestRules l = l.flatMap fun r => forestItems (rItems r)
  | [] => by simp [forestRules]
  | .mk _ _ items :: rest => by
    simp [forestRules, rItems, forestRules_eq_flatMap rest]

theorem forestEntries_map (sg : Sign) : ∀ es : List PreEntry, forestEntries sg es = es.map (entryS sg)
  | [] => by simp [forestEntries]
  | .mk _ _ :: es => by simp [forestEntries, entryS, forestEntries_map sg es]

/-- `sign_map[op]`; UNCHANGED has none and is not printed, the blank stands in for it -/
def sgn (op : Op) : Sign := (signOfOp op).getD .space

def ent (i : DItem) : SItem := entryS (sgn i.op) (entryOf i)

/-- the order in which `gen_pre_as_diff` prints the buckets of an item (`ops_order`) -/
def ops : List Op := [.affected, .moved, .removed, .added]

theorem forestItem_ops (it : PreItem) : forestItem it = ops.flatMap fun op => forestEntries (sgn op) (iGet it op) := by
  cases it
  simp [forestItem, ops, iGet, sgn, signOfOp]

theorem slot_perm {d : List DItem} (hu : ∀ i ∈ d, i.op ≠ .unchanged) {raw : String} {it : PreItem}
    (h : ∀ op, iGet it op = (d.filter (sel (raw, it.key) op)).map entryOf) :
    forestItem it ~ ((d.filter fun i => i.m.rawRule == raw).filter fun i => i.m.key == it.key).map ent := by
  have e : (d.filter fun i => i.m.rawRule == raw).filter (fun i => i.m.key == it.key) =
      d.filter (slotIs (raw, it.key)) := by
    rw [List.filter_filter]
    refine List.filter_congr fun i _ => ?_
    rw [Bool.eq_iff_iff]
    simp [slotIs, and_comm]
  rw [e, forestItem_ops]
  refine Keyed.part (·.op) id _ ent ops _ (by decide) (fun i hi => ?_) fun op _ => ?_
  · have := hu i (List.mem_filter.1 hi).1
    revert this
    cases i.op <;> simp [ops]
  · rw [h op, forestEntries_map, filter_sel, List.map_map]
    refine Perm.of_eq (List.map_congr_left fun i hi => ?_)
    have : i.op = op := by simpa using (List.mem_filter.1 hi).2
    rw [Function.comp_apply, ent, this]

theorem forestPre_perm (d : List DItem) (hu : ∀ i ∈ d, i.op ≠ .unchanged) : forestPre (makePre d) ~ d.map ent := by
  obtain ⟨h1, h2, h3⟩ := makePre_inv d
  have e : forestPre (makePre d) = (makePre d).rules.flatMap fun R => forestItems (rItems R) := by
    rw [makePre, forestPre, forestRules_eq_flatMap]
    rfl
  rw [e]
  refine Keyed.part (·.m.rawRule) PreRule.raw _ ent _ d h1 (fun i hi => h3 i hi trivial) fun R hR => ?_
  obtain ⟨k1, k2, k3⟩ := (h2 R hR).1
  rw [forestItems_eq_flatMap]
  refine Keyed.part (·.m.key) PreItem.key _ ent _ _ k1 (fun i hi => ?_) fun it hit => slot_perm hu (k2 it hit)
  have := List.mem_filter.1 hi
  exact k3 i this.1 (by simpa using this.2)

theorem signedList_cons_some {i : DItem} {rest : List DItem} {s : List SItem}
    (h : signedList (i :: rest) = some s) :
    ∃ x xs, signedItem i = some x ∧ signedList rest = some xs ∧ s = x :: xs := by
  rw [signedList] at h
  split at h
  · rename_i x xs hx hxs
    cases h
    exact ⟨x, xs, hx, hxs, rfl⟩
  · cases h

theorem signedItem_mk_some {op : Op} {row : String} {ch : List DItem} {m : PMatch} {x : SItem}
    (h : signedItem (.mk op row ch m) = some x) :
    ∃ sg cs, signOfOp op = some sg ∧ signedList ch = some cs ∧ x = .mk sg row.toList cs := by
  rw [signedItem] at h
  split at h
  · rename_i sg cs hsg hcs
    cases h
    exact ⟨sg, cs, hsg, hcs, rfl⟩
  · cases h

theorem signed_op : ∀ {d : List DItem} {s : List SItem}, signedList d = some s → ∀ i ∈ d, i.op ≠ .unchanged
  | [], _, _, i, hi => nomatch hi
  | j :: rest, s, h, i, hi => by
    obtain ⟨x, xs, hx, hxs, rfl⟩ := signedList_cons_some h
    rcases List.mem_cons.1 hi with rfl | hi
    · obtain ⟨op, row, ch, m⟩ := i
      obtain ⟨sg, cs, h1, -, -⟩ := signedItem_mk_some hx
      intro hop
      rw [DItem.op] at hop
      rw [hop] at h1
      cases h1
    · exact signed_op hxs i hi

mutual
  theorem map_ent_spermv : ∀ (d : List DItem) (s : List SItem), signedList d = some s → SPermv (d.map ent) s
    | [], s, h => by
      rw [signedList] at h
      cases h
      exact .nil
    | i :: rest, s, h => by
      obtain ⟨x, xs, hx, hxs, rfl⟩ := signedList_cons_some h
      exact .cons (ent_seqv i x hx) (map_ent_spermv rest xs hxs)
  theorem ent_seqv : ∀ (i : DItem) (x : SItem), signedItem i = some x → SEqv (ent i) x
    | .mk op row ch m, x, hx => by
      obtain ⟨sg, cs, h1, h2, rfl⟩ := signedItem_mk_some hx
      have hs : sgn op = sg := by simp [sgn, h1]
      rw [ent, entryOf, entryS, DItem.op, hs]
      exact SEqv.mk ((SPermv.of_perm (forestPre_perm ch (signed_op h2))).trans (map_ent_spermv ch cs h2))
end

theorem makePre_spermv (d : List DItem) (s : List SItem) (h : signedList d = some s) :
    SPermv (forestPre (makePre d)) s :=
  (SPermv.of_perm (forestPre_perm d (signed_op h))).trans (map_ent_spermv d s h)

def exM (raw : String) (key : List String) : PMatch := ⟨raw, key, default⟩

def exDiff : List DItem :=
  [ .mk .removed "vlan 10" [] (exM "vlan *" ["10"]),
    .mk .affected "interface ge1" [ .mk .added "mtu 9000" [] (exM "mtu *" ["9000"]),
                                    .mk .removed "mtu 1500" [] (exM "mtu *" ["1500"]),
                                    .mk .moved "description x" [] (exM "description *" ["x"]) ]
      (exM "interface *" ["ge1"]),
    .mk .added "vlan 20" [] (exM "vlan *" ["20"]) ]

def exSigned : List SItem :=
  [ .mk .minus "vlan 10".toList [],
    .mk .space "interface ge1".toList
      [ .mk .plus "mtu 9000".toList [], .mk .minus "mtu 1500".toList [], .mk .gt "description x".toList [] ],
    .mk .plus "vlan 20".toList [] ]

example : signedList exDiff = some exSigned ∧ NoLeadBlank exSigned := by
  refine ⟨by rfl, ?_⟩
  simp [exSigned, NoLeadBlank, NoLeadBlankItem]

/-- `make_pre` regroups by rule: `vlan 20` is printed before `interface ge1`; the reading is `exSigned` up to that -/
example : (preText (List.replicate 2 ' ') exDiff) =
    [ "- vlan 10".toList, "+ vlan 20".toList, "  interface ge1".toList, "+   mtu 9000".toList,
      "-   mtu 1500".toList, ">   description x".toList ] := by decide +kernel

end Annet.DiffText
