/-
`Covered`: every entry of an ACL-filtered diff is matched by the ACL level by level and, if REMOVED, not under a
cant_delete-only match (`covered_list`; `mark_unchanged` keeps it).  Inversions of `makeDiffAcl`, `deviceModeAcl`,
`applyAclDiff`, `aclDiffItem`.  `apply_acl_diff` only drops entries and only relabels REMOVED → AFFECTED
(`acl_diff_rows_sublist`, `aclDiffItem_row_op`).  `Pipeline`: `_diff_and_patch` with an ACL on two empty configurations,
stage by stage; with what `_old_new_per_device` returns when no generator owns a line (`Lemmas/GenFull.lean`) this is "no
owner, no command" (`Props/C02.lean`).
-/
import AnnetModel.Spec.AclCovered
import AnnetModel.Lemmas.SortTree

namespace Annet.AclDiff.Lemmas
open Annet Annet.Diff Annet.AclDiff

theorem makeDiffAcl_ok {v : Acl.Vendor} {acl : Acl.Rules} {rules : Rules.PRules} {old new : Cfg} {d : List DItem}
    (h : makeDiffAcl v acl rules old new = .ok d) :
    ∃ o n d0 d', annotate rules old = .ok o ∧ annotate rules new = .ok n ∧
      callDiffLogic (adepth o + adepth n + 2) [.op .affected] o.kids n.kids = .ok d0 ∧
      applyAclDiff v acl d0 = .ok d' ∧ d = markUnchanged d' := by
  unfold makeDiffAcl at h
  split at h
  · cases h
  · cases h
  · next o n ho hn =>
    split at h
    · cases h
    · next d0 hd0 =>
      split at h
      · cases h
      · next d' hd' =>
        cases h
        exact ⟨o, n, d0, d', ho, hn, hd0, hd', rfl⟩

theorem deviceModeAcl_ok {lg : Patch.LogicFn} {pv : Rules.Vendor} {av : Acl.Vendor} {acl : Acl.Rules}
    {rules : Rules.PRules} {ordering : List Rules.ORule} {old new : Cfg} {res : Api.Result}
    (h : deviceModeAcl lg pv av acl rules ordering old new = .ok res) :
    ∃ old' new' d p, Acl.applyAcl av false false acl [] old = .ok old' ∧
      Acl.applyAcl av false false acl [] new = .ok new' ∧ makeDiffAcl av acl rules old' new' = .ok d ∧
      Patch.makePatchWith lg pv ordering true (Patch.makePre d) = .ok p ∧
      res = { diff := stripUnchanged d, patch := p } := by
  unfold deviceModeAcl at h
  split at h
  · cases h
  · cases h
  · next old' new' ho hn =>
    split at h
    · cases h
    · next d hd =>
      split at h
      · cases h
      · next p hp =>
        cases h
        exact ⟨old', new', d, p, ho, hn, hd, hp, rfl⟩

theorem applyAclDiff_nil (v : Acl.Vendor) (rules : Acl.Rules) : applyAclDiff v rules [] = .ok [] := by
  rw [applyAclDiff]

theorem applyAclDiff_cons_ok {v : Acl.Vendor} {rules : Acl.Rules} {i : DItem} {rest d' : List DItem}
    (h : applyAclDiff v rules (i :: rest) = .ok d') :
    ∃ oi r, aclDiffItem v rules i = .ok oi ∧ applyAclDiff v rules rest = .ok r ∧
      d' = (match oi with | none => r | some i' => i' :: r) := by
  rw [applyAclDiff] at h
  split at h
  · cases h
  · cases h
  · next r h1 h2 => cases h; exact ⟨none, _, h1, h2, rfl⟩
  · next i' r h1 h2 => cases h; exact ⟨some i', _, h1, h2, rfl⟩

theorem aclDiffItem_ok {v : Acl.Vendor} {rules : Acl.Rules} {op : Op} {row : String} {ch : List DItem}
    {m : Rules.PMatch} {i' : DItem} (h : aclDiffItem v rules (.mk op row ch m) = .ok (some i')) :
    ∃ am cr ch', Acl.matchRowToAcl v row rules false = .ok (some (am, cr)) ∧
      applyAclDiff v cr ch = .ok ch' ∧
      i' = .mk (if op == .removed && am.rule.cantDelete.all id then .affected else op) row ch' m := by
  rw [aclDiffItem] at h
  split at h
  · cases h
  · cases h
  · next am cr hm =>
    split at h
    · cases h
    · next ch' hc =>
      cases h
      exact ⟨am, cr, ch', hm, hc, rfl⟩

mutual
  theorem covered_list (v : Acl.Vendor) : ∀ (d : List DItem) (rules : Acl.Rules) (d' : List DItem),
      applyAclDiff v rules d = .ok d' → Covered v rules d'
    | [], rules, d', h => by
      rw [applyAclDiff_nil] at h; cases h; exact .nil rules
    | i :: rest, rules, d', h => by
      obtain ⟨oi, r, h1, h2, rfl⟩ := applyAclDiff_cons_ok h
      have ihr := covered_list v rest rules r h2
      cases oi with
      | none => exact ihr
      | some i' =>
        obtain ⟨am, cr, hm, hc, hop⟩ := covered_item v i rules i' h1
        exact .cons hm hc hop ihr
  theorem covered_item (v : Acl.Vendor) : ∀ (i : DItem) (rules : Acl.Rules) (i' : DItem),
      aclDiffItem v rules i = .ok (some i') →
      ∃ am cr, Acl.matchRowToAcl v i'.row rules false = .ok (some (am, cr)) ∧ Covered v cr i'.children ∧
        (i'.op = .removed → am.rule.cantDelete.all id = false)
    | .mk op row ch m, rules, i', h => by
      obtain ⟨am, cr, ch', hm, hc, rfl⟩ := aclDiffItem_ok h
      refine ⟨am, cr, hm, covered_list v ch cr ch' hc, ?_⟩
      simp only [DItem.op]
      intro ho
      cases hcd : am.rule.cantDelete.all id with
      | false => rfl
      | true =>
        rw [hcd] at ho
        cases op <;> simp at ho
end

theorem aclDiffItem_row_op {v : Acl.Vendor} {rules : Acl.Rules} {i i' : DItem}
    (h : aclDiffItem v rules i = .ok (some i')) :
    i.row = i'.row ∧ (i'.op = i.op ∨ (i.op = .removed ∧ i'.op = .affected)) := by
  obtain ⟨op, row, ch, m⟩ := i
  obtain ⟨am, cr, ch', _, _, rfl⟩ := aclDiffItem_ok h
  refine ⟨rfl, ?_⟩
  simp only [DItem.op]
  split
  · next hc =>
    rw [Bool.and_eq_true, beq_iff_eq] at hc
    exact .inr ⟨hc.1, rfl⟩
  · exact .inl rfl

theorem acl_diff_rows_sublist (v : Acl.Vendor) (rules : Acl.Rules) (d d' : List DItem)
    (h : applyAclDiff v rules d = .ok d') : List.Sublist (d'.map (·.row)) (d.map (·.row)) := by
  induction d generalizing d' with
  | nil => rw [applyAclDiff_nil] at h; cases h; exact .slnil
  | cons i rest ih =>
    obtain ⟨oi, r, h1, h2, rfl⟩ := applyAclDiff_cons_ok h
    cases oi with
    | none => exact (ih r h2).cons _
    | some i' =>
      simp only [List.map_cons]
      rw [(aclDiffItem_row_op h1).1]
      exact (ih r h2).cons_cons _

end Annet.AclDiff.Lemmas

namespace Annet.AclDiff
open Annet Annet.Diff

mutual
  /-- `mark_unchanged` keeps coverage (it only relabels AFFECTED entries) -/
  theorem covered_markUnchanged (av : Acl.Vendor) : ∀ (d : List DItem) (acl : Acl.Rules),
      Lemmas.Covered av acl d → Lemmas.Covered av acl (markUnchanged d)
    | [], acl, h => by rw [markUnchanged]; exact h
    | i :: rest, acl, h => by
      rw [markUnchanged]
      cases h with
      | cons hm hc hop hrest =>
        obtain ⟨hrow, hopp, hch⟩ := covered_markItem_aux av i
        refine .cons (by rw [hrow]; exact hm) (hch _ hc) (fun ho => hop (hopp ho))
          (covered_markUnchanged av rest acl hrest)
  theorem covered_markItem_aux (av : Acl.Vendor) : ∀ (i : DItem),
      (markItem i).row = i.row ∧ ((markItem i).op = .removed → i.op = .removed) ∧
        ∀ cr, Lemmas.Covered av cr i.children → Lemmas.Covered av cr (markItem i).children
    | .mk o r ch m => by
      rw [markItem]
      split
      · refine ⟨rfl, ?_, fun cr h => covered_markUnchanged av ch cr h⟩
        show (if _ then Op.unchanged else Op.affected) = Op.removed → _
        intro h
        split at h <;> cases h
      · exact ⟨rfl, id, fun _ h => h⟩
end

end Annet.AclDiff

namespace Annet.Pipeline
open Annet

theorem applyAcl_nil (av : Acl.Vendor) (fatal exclusive : Bool) (acl : Acl.Rules) (path : List String) :
    Acl.applyAcl av fatal exclusive acl path (.mk []) = .ok (.mk []) := by
  simp [Acl.applyAcl, Acl.applyAclList, Except.map]

theorem annotate_nil (rules : Rules.PRules) : Diff.annotate rules (.mk []) = .ok (.mk []) := by
  simp [Diff.annotate, Diff.annotateList, Except.map]

/-- no row on either side: no diff logic is consulted, whatever the fuel -/
theorem callDiffLogic_nil (fuel : Nat) (pops : List Diff.Pop) : Diff.callDiffLogic fuel pops [] [] = .ok [] := by
  cases fuel <;> simp [Diff.callDiffLogic, Diff.logicsOf, Diff.runLogics, List.eraseDups]

theorem makeDiffAcl_nil (av : Acl.Vendor) (acl : Acl.Rules) (rules : Rules.PRules) :
    AclDiff.makeDiffAcl av acl rules (.mk []) (.mk []) = .ok [] := by
  simp [AclDiff.makeDiffAcl, annotate_nil, Diff.ACfg.kids, callDiffLogic_nil, AclDiff.applyAclDiff,
    Diff.markUnchanged]

theorem makePre_nil : Patch.makePre [] = .mk [] := by
  simp [Patch.makePre, Patch.makePreAcc]

theorem makePatchWith_nil (lg : Patch.LogicFn) (pv : Rules.Vendor) (ordering : List Rules.ORule) (doCommit : Bool) :
    Patch.makePatchWith lg pv ordering doCommit (Patch.makePre []) = .ok (.mk []) := by
  simp [Patch.makePatchWith, makePre_nil, Patch.preDepth, Patch.preDepthR, Patch.makePatchUnsorted,
    Patch.Pre.rules, Patch.itemsOfPre, Patch.buildTree, Except.map, Patch.Lemmas.sortTree_nil]

theorem deviceModeAcl_nil (lg : Patch.LogicFn) (pv : Rules.Vendor) (av : Acl.Vendor) (acl : Acl.Rules)
    (rules : Rules.PRules) (ordering : List Rules.ORule) :
    AclDiff.deviceModeAcl lg pv av acl rules ordering (.mk []) (.mk []) = .ok { diff := [], patch := .mk [] } := by
  simp [AclDiff.deviceModeAcl, applyAcl_nil, makeDiffAcl_nil, makePatchWith_nil, Diff.stripUnchanged]

end Annet.Pipeline
