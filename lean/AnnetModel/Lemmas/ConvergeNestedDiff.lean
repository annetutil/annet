/-
Nested convergence (C01 stage 2): the diff of two nested configurations.

The annotation of a good configuration is a total function (`annC`/`annL`, `annotate_good`).  `NDiff` is what the rest
of the proof uses of the marked diff: `Lvl` at a level, and recursively for the children of its items.  On a family of
levels closed under descending into the sub-block of a row (`DiffClosed`; good configurations over a nested rulebook
form one) `callDiffLogic` succeeds (`diff_total`) and, with enough fuel, its marked result satisfies `NDiff`
(`diff_nested`).
-/
import AnnetModel.Lemmas.ConvergeNestedBase
import AnnetModel.Lemmas.Pre
import AnnetModel.Lemmas.CfgTree
import AnnetModel.Lemmas.Diff

namespace Annet.ConvergeNested.Lemmas

open Annet Annet.Rules Annet.Device Annet.Device.Abs Annet.Converge Annet.ConvergeNested
open Annet.Converge.Lemmas Annet.Device.Lemmas
open Annet.Diff Annet.Diff.Spec Annet.Diff.Lemmas
open Annet.Patch.PreLemmas (slotIs)
open Annet.Gen.Lemmas (cfg_eta)

variable {rules : PRules} {old new : List (String × Cfg)} {d : List DItem}

def subOf (kids : List (String × Cfg)) (row : String) : List (String × Cfg) :=
  match kids.find? (·.1 == row) with
  | some e => e.2.kids
  | none => []

mutual
  def annC : PRules → Cfg → ACfg
    | rules, .mk ks => .mk (annL rules ks)
  def annL : PRules → List (String × Cfg) → List (String × PMatch × ACfg)
    | _, [] => []
    | rules, (row, c) :: rest => (row, matchOf rules row, annC (crOf rules row) c) :: annL rules rest
end

theorem annC_kids (rules : PRules) (c : Cfg) : (annC rules c).kids = annL rules c.kids := by
  obtain ⟨ks⟩ := c
  rw [annC]; rfl

theorem annL_nil (rules : PRules) : annL rules [] = [] := by rw [annL]

theorem annL_cons (rules : PRules) (row : String) (c : Cfg) (rest : List (String × Cfg)) :
    annL rules ((row, c) :: rest) = (row, matchOf rules row, annC (crOf rules row) c) :: annL rules rest := by
  rw [annL]

theorem annL_eq_map (rules : PRules) : ∀ ks : List (String × Cfg),
    annL rules ks = ks.map fun e => (e.1, matchOf rules e.1, annC (crOf rules e.1) e.2)
  | [] => by rw [annL_nil]; rfl
  | (row, c) :: rest => by rw [annL_cons, annL_eq_map rules rest]; rfl

mutual
  theorem annotate_good : ∀ (rules : PRules) (c : Cfg), GoodC rules c → annotate rules c = .ok (annC rules c)
    | rules, .mk ks, h => by
      rw [annotate, annC, annotateList_good rules ks (goodC_mk.1 h).2]; rfl
  theorem annotateList_good : ∀ (rules : PRules) (ks : List (String × Cfg)), GoodL rules ks →
      annotateList rules ks = .ok (annL rules ks)
    | rules, [], _ => by rw [annotateList, annL]
    | rules, (row, c) :: rest, h => by
      obtain ⟨m, cr, hcl, -, hgc⟩ := goodL_mem h row c List.mem_cons_self
      have hrest : GoodL rules rest := by rw [GoodL] at h; exact h.2
      have hm : matchRow row rules = .found m cr := classify_eq_some.1 hcl
      rw [annotateList, annL_cons]
      simp only [hm, annotate_good cr c hgc, annotateList_good rules rest hrest, matchOf_eq hcl, crOf_eq hcl]
end

theorem subOf_nil (row : String) : subOf [] row = [] := rfl

theorem subOf_cons (e : String × Cfg) (rest : List (String × Cfg)) (row : String) :
    subOf (e :: rest) row = if e.1 = row then e.2.kids else subOf rest row := by
  unfold subOf
  rw [List.find?_cons]
  by_cases h : e.1 = row
  · have hb : (e.1 == row) = true := by simpa using h
    rw [hb, if_pos h]
  · have hb : (e.1 == row) = false := by simpa using h
    rw [hb, if_neg h]

theorem subOf_of_not_mem {ks : List (String × Cfg)} {row : String} (h : row ∉ ks.map (·.1)) : subOf ks row = [] := by
  unfold subOf
  have : ks.find? (·.1 == row) = none := by
    rw [List.find?_eq_none]
    intro e he hb
    exact h (by rw [← (beq_iff_eq.1 hb)]; exact List.mem_map_of_mem he)
  rw [this]

theorem subOf_of_mem {ks : List (String × Cfg)} (hn : (ks.map (·.1)).Nodup) {row : String} {c : Cfg}
    (h : (row, c) ∈ ks) : subOf ks row = c.kids := by
  unfold subOf
  rw [Gen.Lemmas.find_self ks hn (row, c) h]

theorem rowsOf_annL (rules : PRules) (ks : List (String × Cfg)) : Spec.rowsOf (annL rules ks) = ks.map (·.1) := by
  rw [annL_eq_map, Spec.rowsOf, List.map_map]; rfl

theorem hasRow_annL (rules : PRules) (ks : List (String × Cfg)) (row : String) :
    hasRow (annL rules ks) row = true ↔ row ∈ ks.map (·.1) := by
  rw [hasRow_iff, rowsOf_annL]

theorem oldKids_annL (rules : PRules) : ∀ (ks : List (String × Cfg)) (row : String),
    kidsOf (annL rules ks) row = annL (crOf rules row) (subOf ks row)
  | [], row => by rw [annL_nil, subOf_nil, annL_nil]; rfl
  | (r, c) :: rest, row => by
    rw [annL_cons, subOf_cons]
    unfold kidsOf lookupA
    rw [List.find?_cons]
    by_cases h : r = row
    · have hb : (r == row) = true := by simpa using h
      simp only [hb, if_pos h, Option.map_some]
      rw [annC_kids, h]
    · have hb : (r == row) = false := by simpa using h
      simp only [hb, if_neg h]
      exact oldKids_annL rules rest row

theorem good_sub {rules : PRules} : ∀ {ks : List (String × Cfg)}, GoodL rules ks → ∀ row,
    GoodC (crOf rules row) (.mk (subOf ks row))
  | [], _, row => by rw [subOf_nil]; exact goodC_nil _
  | (r, c) :: rest, h, row => by
    rw [subOf_cons]
    by_cases hr : r = row
    · rw [if_pos hr]
      obtain ⟨m, cr, hcl, -, hgc⟩ := goodL_mem h r c List.mem_cons_self
      rw [← hr, crOf_eq hcl]
      obtain ⟨ks⟩ := c
      exact hgc
    · rw [if_neg hr]
      have hrest : GoodL rules rest := by rw [GoodL] at h; exact h.2
      exact good_sub hrest row

theorem goodL_rows {ks : List (String × Cfg)} (h : GoodL rules ks) {row : String}
    (hr : row ∈ ks.map (·.1)) : ∃ m, classify rules row = some (m, crOf rules row) ∧ uniqueMatch rules row := by
  obtain ⟨e, he, rfl⟩ := List.mem_map.1 hr
  obtain ⟨m, cr, hcl, hu, -⟩ := goodL_mem h e.1 e.2 he
  exact ⟨m, by rw [crOf_eq hcl]; exact hcl, hu⟩

theorem adepth_mk (ks : List (String × PMatch × ACfg)) : adepth (.mk ks) = adepthL ks := by rw [adepth]

theorem adepthL_sub (rules : PRules) : ∀ (ks : List (String × Cfg)) (row : String), row ∈ ks.map (·.1) →
    adepthL (annL (crOf rules row) (subOf ks row)) + 1 ≤ adepthL (annL rules ks)
  | [], row, h => by cases h
  | (r, c) :: rest, row, h => by
    rw [annL_cons, adepthL_cons, subOf_cons, Std.le_max]
    by_cases hr : r = row
    · rw [if_pos hr, adepth_kids, annC_kids, hr, Nat.add_comm]
      exact Or.inl (Nat.le_refl _)
    · rw [if_neg hr]
      rw [List.map_cons, List.mem_cons] at h
      exact Or.inr (adepthL_sub rules rest row (h.resolve_left fun h' => hr h'.symm))

/-- the diff items of one slot, given the lines holding it in `old` and `new` -/
inductive SlotShape : Option String → Option String → List DItem → Prop
  | none : SlotShape none none []
  | removed {i : DItem} : i.op = .removed → SlotShape (some i.row) none [i]
  | added {i : DItem} : i.op = .added → SlotShape none (some i.row) [i]
  | kept {i : DItem} : i.op = .unchanged ∨ i.op = .affected → SlotShape (some i.row) (some i.row) [i]
  | replaced {i j : DItem} {l : List DItem} : i.row ≠ j.row → l.Perm [i, j] → i.op = .removed → j.op = .added →
      SlotShape (some i.row) (some j.row) l

theorem SlotShape.same {r : String} {l : List DItem} (h : SlotShape (some r) (some r) l) :
    ∃ i, l = [i] ∧ i.row = r ∧ (i.op = .unchanged ∨ i.op = .affected) := by
  suffices ∀ a b, SlotShape a b l → a = some r → b = some r →
      ∃ i, l = [i] ∧ i.row = r ∧ (i.op = .unchanged ∨ i.op = .affected) from this _ _ h rfl rfl
  intro a b h ha hb
  cases h with
  | none => cases ha
  | removed => cases hb
  | added => cases ha
  | kept hop => exact ⟨_, rfl, Option.some.inj ha, hop⟩
  | replaced hne => exact (hne ((Option.some.inj ha).trans (Option.some.inj hb).symm)).elim

theorem filter_one {i : DItem} (op : Op) : [i].filter (·.op == op) = if i.op = op then [i] else [] := by
  by_cases h : i.op = op <;> simp [h]

theorem filter_perm_pair {l : List DItem} {i j : DItem} (hp : l.Perm [i, j]) (hi : i.op = .removed)
    (hj : j.op = .added) (op : Op) :
    l.filter (·.op == op) = if op = .removed then [i] else if op = .added then [j] else [] := by
  have := hp.filter (·.op == op)
  cases op <;> simp [hi, hj] at this ⊢ <;> first | exact this | exact List.perm_singleton.1 this

/-- one level of a marked diff, read against the lines holding each slot in `old` and `new` -/
structure Lvl (rules : PRules) (old new : List (String × Cfg)) (d : List DItem) : Prop where
  known : ∀ i ∈ d, (slotOf rules i.row).isSome ∧ i.m = matchOf rules i.row
  slot : ∀ s, SlotShape (holder rules old s) (holder rules new s) (d.filter (slotIs s))

/-- The marked diff of two nested levels: `Lvl` at this level; an UNCHANGED item stands for equal sub-blocks; the
children of an ADDED/AFFECTED item are the diff of the sub-blocks of its row, recursively; an item that stayed AFFECTED
has a child that is not UNCHANGED. -/
inductive NDiff : PRules → List (String × Cfg) → List (String × Cfg) → List DItem → Prop
  | mk {rules : PRules} {old new : List (String × Cfg)} {d : List DItem} : Lvl rules old new d →
      (∀ i ∈ d, i.op = .unchanged → SameC (crOf rules i.row) (.mk (subOf old i.row)) (.mk (subOf new i.row))) →
      (∀ i ∈ d, i.op = .added ∨ i.op = .affected →
        NDiff (crOf rules i.row) (subOf old i.row) (subOf new i.row) i.children) →
      (∀ i ∈ d, i.op = .affected → ¬ ∀ j ∈ i.children, j.op = .unchanged) → NDiff rules old new d

theorem NDiff.lvl (h : NDiff rules old new d) :
    Lvl rules old new d := by
  cases h; assumption

theorem NDiff.unchanged (h : NDiff rules old new d)
    {i : DItem} (hi : i ∈ d) (hop : i.op = .unchanged) :
    SameC (crOf rules i.row) (.mk (subOf old i.row)) (.mk (subOf new i.row)) := by
  cases h with
  | mk _ h2 => exact h2 i hi hop

theorem NDiff.sub (h : NDiff rules old new d)
    {i : DItem} (hi : i ∈ d) (hop : i.op = .added ∨ i.op = .affected) :
    NDiff (crOf rules i.row) (subOf old i.row) (subOf new i.row) i.children := by
  cases h with
  | mk _ _ h3 => exact h3 i hi hop

theorem ndiff_nil_eq {d : List DItem} (h : NDiff rules [] [] d) : d = [] := by
  refine List.eq_nil_iff_forall_not_mem.2 fun i hi => ?_
  have hs := h.lvl.slot (i.m.rawRule, i.m.key)
  have hin : i ∈ d.filter (slotIs (i.m.rawRule, i.m.key)) := List.mem_filter.2 ⟨hi, by simp [slotIs]⟩
  generalize d.filter (slotIs (i.m.rawRule, i.m.key)) = l at hs hin
  cases hs
  cases hin

theorem Lvl.item (hl : Lvl rules old new d)
    {i : DItem} (hi : i ∈ d) :
    (i.op = .removed ∧ holder rules old (i.m.rawRule, i.m.key) = some i.row ∧
      holder rules new (i.m.rawRule, i.m.key) ≠ some i.row) ∨
    (i.op = .added ∧ holder rules old (i.m.rawRule, i.m.key) ≠ some i.row ∧
      holder rules new (i.m.rawRule, i.m.key) = some i.row) ∨
    ((i.op = .unchanged ∨ i.op = .affected) ∧ holder rules old (i.m.rawRule, i.m.key) = some i.row ∧
      holder rules new (i.m.rawRule, i.m.key) = some i.row) := by
  have hin : i ∈ d.filter (slotIs (i.m.rawRule, i.m.key)) := List.mem_filter.2 ⟨hi, by simp [slotIs]⟩
  have hs := hl.slot (i.m.rawRule, i.m.key)
  generalize holder rules old (i.m.rawRule, i.m.key) = a at hs
  generalize holder rules new (i.m.rawRule, i.m.key) = b at hs
  generalize d.filter (slotIs (i.m.rawRule, i.m.key)) = l at hs hin
  cases hs with
  | none => cases hin
  | removed hop => cases List.mem_singleton.1 hin; exact Or.inl ⟨hop, rfl, nofun⟩
  | added hop => cases List.mem_singleton.1 hin; exact Or.inr (Or.inl ⟨hop, nofun, rfl⟩)
  | kept hop => cases List.mem_singleton.1 hin; exact Or.inr (Or.inr ⟨hop, rfl, rfl⟩)
  | replaced hne hp hop hop' =>
    have := hp.mem_iff.1 hin
    simp only [List.mem_cons, List.not_mem_nil, or_false] at this
    rcases this with rfl | rfl
    · exact Or.inl ⟨hop, rfl, fun h => hne (Option.some.inj h).symm⟩
    · exact Or.inr (Or.inl ⟨hop', fun h => hne (Option.some.inj h), rfl⟩)

theorem lvl_put_row (hl : Lvl rules old new d)
    {i : DItem} (hi : i ∈ d) (hop : i.op = .added ∨ i.op = .affected) : i.row ∈ new.map (·.1) := by
  rcases hl.item hi with ⟨h, -⟩ | ⟨-, -, h⟩ | ⟨-, -, h⟩
  · rw [h] at hop; rcases hop with h' | h' <;> cases h'
  · exact (holder_some h).1
  · exact (holder_some h).1

theorem same_of_unchanged (hwo : WF rules old) (hwn : WF rules new) (h : NDiff rules old new d)
    (hall : ∀ i ∈ d, i.op = .unchanged) : SameC rules (.mk old) (.mk new) := by
  rw [sameC_mk]
  constructor
  · intro s
    have hs := h.lvl.slot s
    generalize holder rules old s = a at hs
    generalize holder rules new s = b at hs
    generalize hf : d.filter (slotIs s) = l at hs
    have hu : ∀ i ∈ l, i.op = .unchanged := fun i hi => hall i ((List.mem_filter.1 (hf ▸ hi)).1)
    cases hs with
    | none => rfl
    | kept => rfl
    | removed hop => have := hu _ List.mem_cons_self; rw [hop] at this; cases this
    | added hop => have := hu _ List.mem_cons_self; rw [hop] at this; cases this
    | replaced _ hp hop => have := hu _ (hp.mem_iff.2 List.mem_cons_self); rw [hop] at this; cases this
  · apply sameL_of
    intro row ca hca cb hcb m cr hcl
    have hslot := slotOf_of_classify hcl
    have hs := h.lvl.slot (m.rawRule, m.key)
    rw [holder_of_mem hwo hca hslot, holder_of_mem hwn hcb hslot] at hs
    obtain ⟨i, hf, hrow, -⟩ := hs.same
    have him : i ∈ d := (List.mem_filter.1 (hf ▸ List.mem_cons_self)).1
    have := h.unchanged him (hall i him)
    rwa [hrow, crOf_eq hcl, subOf_of_mem (rows_nodup hwo) hca, subOf_of_mem (rows_nodup hwn) hcb, cfg_eta,
      cfg_eta] at this

theorem slotIs_known {i : DItem} (hk : (slotOf rules i.row).isSome)
    (hm : i.m = matchOf rules i.row) (s : Slot) : slotIs s i = (slotOf rules i.row == some s) := by
  rw [slotOf_matchOf hk, slotIs, hm]
  simp

theorem filter_map_rows (s : Slot) (L : List DItem)
    (hk : ∀ i ∈ L, (slotOf rules i.row).isSome ∧ i.m = matchOf rules i.row) :
    (L.filter (slotIs s)).map (·.row) = (L.map (·.row)).filter (fun r => slotOf rules r == some s) := by
  rw [List.filter_map]
  congr 1
  apply List.filter_congr
  intro i hi
  exact slotIs_known (hk i hi).1 (hk i hi).2 s

theorem slotShape_of_parts {a b : Option String} {l Rs Ns : List DItem} (hp : l.Perm (Rs ++ Ns))
    (hRs : Rs.map (·.row) = if a = b then [] else a.toList) (hR : ∀ i ∈ Rs, i.op = .removed)
    (hNs : Ns.map (·.row) = b.toList)
    (hN : ∀ j ∈ Ns, if a = some j.row then j.op = .unchanged ∨ j.op = .affected else j.op = .added) :
    SlotShape a b l := by
  cases b with
  | none =>
    rw [Option.toList_none, List.map_eq_nil_iff] at hNs
    subst hNs
    rw [List.append_nil] at hp
    cases a with
    | none =>
      rw [if_pos rfl, List.map_eq_nil_iff] at hRs
      subst hRs
      rw [hp.eq_nil]
      exact .none
    | some ra =>
      rw [if_neg nofun, Option.toList_some, List.map_eq_singleton_iff] at hRs
      obtain ⟨i, rfl, rfl⟩ := hRs
      rw [List.perm_singleton.1 hp]
      exact .removed (hR i List.mem_cons_self)
  | some rb =>
    rw [Option.toList_some, List.map_eq_singleton_iff] at hNs
    obtain ⟨j, rfl, rfl⟩ := hNs
    have hj := hN j List.mem_cons_self
    by_cases hab : a = some j.row
    · subst hab
      rw [if_pos rfl, List.map_eq_nil_iff] at hRs
      subst hRs
      rw [if_pos rfl] at hj
      rw [List.perm_singleton.1 hp]
      exact .kept hj
    · rw [if_neg hab] at hRs hj
      cases a with
      | none =>
        rw [Option.toList_none, List.map_eq_nil_iff] at hRs
        subst hRs
        rw [List.perm_singleton.1 hp]
        exact .added hj
      | some ra =>
        rw [Option.toList_some, List.map_eq_singleton_iff] at hRs
        obtain ⟨i, rfl, rfl⟩ := hRs
        exact .replaced (fun h => hab (by rw [h])) hp (hR i List.mem_cons_self) hj

theorem lvl_of_parts (hwo : WF rules old) (hwn : WF rules new)
    {d R N : List DItem} (hp : d.Perm (R ++ N))
    (hRrow : R.map (·.row) = (old.map (·.1)).filter (fun r => !(new.map (·.1)).contains r))
    (hR : ∀ i ∈ R, i.op = .removed ∧ i.m = matchOf rules i.row)
    (hNrow : N.map (·.row) = new.map (·.1))
    (hN : ∀ i ∈ N, i.m = matchOf rules i.row ∧ (i.row ∉ old.map (·.1) → i.op = .added) ∧
      (i.row ∈ old.map (·.1) → i.op = .unchanged ∨ i.op = .affected)) :
    Lvl rules old new d := by
  have hRk : ∀ i ∈ R, (slotOf rules i.row).isSome ∧ i.m = matchOf rules i.row := by
    intro i hi
    have : i.row ∈ R.map (·.row) := List.mem_map_of_mem hi
    rw [hRrow] at this
    obtain ⟨e, he, hrow⟩ := List.mem_map.1 (List.mem_filter.1 this).1
    exact ⟨hrow ▸ hwo.1 e he, (hR i hi).2⟩
  have hNk : ∀ i ∈ N, (slotOf rules i.row).isSome ∧ i.m = matchOf rules i.row := by
    intro i hi
    have : i.row ∈ N.map (·.row) := List.mem_map_of_mem hi
    rw [hNrow] at this
    obtain ⟨e, he, hrow⟩ := List.mem_map.1 this
    exact ⟨hrow ▸ hwn.1 e he, (hN i hi).1⟩
  refine ⟨fun i hi => (List.mem_append.1 (hp.mem_iff.1 hi)).elim (hRk i) (hNk i), fun s => ?_⟩
  have hpf : (d.filter (slotIs s)).Perm (R.filter (slotIs s) ++ N.filter (slotIs s)) := by
    rw [← List.filter_append]; exact hp.filter _
  refine slotShape_of_parts hpf ?_ (fun i hi => (hR i (List.mem_filter.1 hi).1).1) ?_ ?_
  · rw [filter_map_rows s R hRk, hRrow, List.filter_filter]
    have : (old.map (·.1)).filter (fun r => slotOf rules r == some s && !(new.map (·.1)).contains r) =
        (holder rules old s).toList.filter (fun r => !(new.map (·.1)).contains r) := by
      rw [← rows_filter_slot rules old hwo s, List.filter_filter]
      exact List.filter_congr fun r _ => Bool.and_comm _ _
    rw [this]
    cases ha : holder rules old s with
    | none => split <;> rfl
    | some ra =>
      have hiff := holder_eq_some_iff hwn (holder_some ha).2
      by_cases hb : holder rules new s = some ra
      · rw [if_pos hb.symm, Option.toList_some, List.filter_cons,
          if_neg (by simpa using hiff.1 hb), List.filter_nil]
      · rw [if_neg fun h => hb h.symm, Option.toList_some, List.filter_cons,
          if_pos (by simpa using fun h => hb (hiff.2 h)), List.filter_nil]
  · rw [filter_map_rows s N hNk, hNrow, rows_filter_slot rules new hwn s]
  · intro j hj
    obtain ⟨hjN, hjs⟩ := List.mem_filter.1 hj
    rw [slotIs_known (hNk j hjN).1 (hNk j hjN).2, beq_iff_eq] at hjs
    have hiff := holder_eq_some_iff hwo hjs
    split
    · rename_i h; exact (hN j hjN).2.2 (hiff.1 h)
    · rename_i h; exact (hN j hjN).2.1 fun h' => h (hiff.2 h')

theorem annL_mem {ks : List (String × Cfg)} (hn : (ks.map (·.1)).Nodup)
    {x : String × PMatch × ACfg} (hx : x ∈ annL rules ks) :
    x.1 ∈ ks.map (·.1) ∧ x.2.1 = matchOf rules x.1 ∧ x.2.2.kids = annL (crOf rules x.1) (subOf ks x.1) := by
  rw [annL_eq_map] at hx
  obtain ⟨e, he, rfl⟩ := List.mem_map.1 hx
  obtain ⟨r, c⟩ := e
  refine ⟨List.mem_map_of_mem (f := (·.1)) he, rfl, ?_⟩
  simp only
  rw [annC_kids, subOf_of_mem hn he]

theorem ndiff_marked {r : String} {cs : List DItem} {m : PMatch}
    (hwo : WF (crOf rules r) (subOf old r)) (hwn : WF (crOf rules r) (subOf new r))
    (hq : NDiff (crOf rules r) (subOf old r) (subOf new r) (markUnchanged cs)) :
    ((markItem (.mk .affected r cs m)).op = .unchanged ∨ (markItem (.mk .affected r cs m)).op = .affected) ∧
    ((markItem (.mk .affected r cs m)).op = .unchanged →
      SameC (crOf rules r) (.mk (subOf old r)) (.mk (subOf new r))) ∧
    ((markItem (.mk .affected r cs m)).op = .affected →
      NDiff (crOf rules r) (subOf old r) (subOf new r) (markItem (.mk .affected r cs m)).children ∧
      ¬ ∀ j ∈ (markItem (.mk .affected r cs m)).children, j.op = .unchanged) := by
  rw [markItem_affected]
  by_cases hall : (markUnchanged cs).all (·.op == .unchanged) = true
  · rw [if_pos hall]
    rw [List.all_eq_true] at hall
    exact ⟨Or.inl rfl, fun _ => same_of_unchanged hwo hwn hq fun i hi => beq_iff_eq.1 (hall i hi), nofun⟩
  · rw [if_neg hall]
    refine ⟨Or.inr rfl, nofun, fun _ => ⟨hq, fun h => hall ?_⟩⟩
    rw [List.all_eq_true]
    exact fun i hi => beq_iff_eq.2 (h i hi)

/-- a family of levels on which the diff can be computed level by level -/
structure DiffClosed (P : PRules → List (String × Cfg) → Prop) : Prop where
  nil : ∀ rules, P rules []
  wf : ∀ {rules ks}, P rules ks → WF rules ks
  ann : ∀ {rules ks}, P rules ks → annotateList rules ks = .ok (annL rules ks)
  logic : ∀ {rules ks}, P rules ks → ∀ r ∈ ks.map (·.1), (matchOf rules r).attrs.diffLogic = "common.default_diff"
  sub : ∀ {rules ks}, P rules ks → ∀ row, P (crOf rules row) (subOf ks row)

theorem opAt_m2a (pops : List Pop) (old : Level) (D : Bool) (row : String) :
    opAt pops true old D row = if hasRow old row then lastOp pops else .added := by
  unfold opAt
  cases hasRow old row <;> cases D <;> rfl

theorem diff_total {P : PRules → List (String × Cfg) → Prop} (hP : DiffClosed P) (fuel : Nat) (pops : List Pop)
    {rules : PRules} {old new : List (String × Cfg)} (ho : P rules old) (hn : P rules new) :
    ∃ d0, callDiffLogic fuel pops (annL rules old) (annL rules new) = .ok d0 := by
  refine callDiffLogic_total (K := fun l => ∃ rules ks, P rules ks ∧ l = annL rules ks)
    ⟨default, [], hP.nil _, (annL_nil _).symm⟩ ?_ fuel pops _ _ ⟨rules, old, ho, rfl⟩ ⟨rules, new, hn, rfl⟩
  rintro _ ⟨rules, ks, hk, rfl⟩ e he
  obtain ⟨h1, h2, h3⟩ := annL_mem (rows_nodup (hP.wf hk)) he
  exact ⟨Or.inl (by rw [Diff.Lemmas.keyOf, h2]; exact hP.logic hk _ h1), _, _, hP.sub hk e.1, h3⟩

/-- `pops` ends in AFFECTED whenever the levels share a row.  The last conjunct is for ADDED rows, whose children
`markItem` does not re-mark: their diff is taken against the empty level. -/
theorem diff_nested {P : PRules → List (String × Cfg) → Prop} (hP : DiffClosed P) :
    ∀ (fuel : Nat) (rules : PRules) (pops : List Pop) (old new : List (String × Cfg)) (d0 : List DItem),
    P rules old → P rules new →
    (∀ r, r ∈ old.map (·.1) → r ∈ new.map (·.1) → lastOp pops = .affected) →
    adepthL (annL rules old) + adepthL (annL rules new) < fuel →
    callDiffLogic fuel pops (annL rules old) (annL rules new) = .ok d0 →
    NDiff rules old new (markUnchanged d0) ∧ (old = [] → markUnchanged d0 = d0)
  | 0, _, _, _, _, _, _, _, _, hf, _ => by omega
  | fuel + 1, rules, pops, old, new, d0, ho, hn, hpop, hf, h0 => by
    have hwo := hP.wf ho
    have hwn := hP.wf hn
    have hno := rows_nodup hwo
    have hnn := rows_nodup hwn
    have hdl : ∀ x ∈ annL rules old ++ annL rules new, x.2.1.attrs.diffLogic = "common.default_diff" := by
      intro x hx
      obtain ⟨ks, hk, hx⟩ : ∃ ks, P rules ks ∧ x ∈ annL rules ks :=
        (List.mem_append.1 hx).elim (fun h => ⟨old, ho, h⟩) (fun h => ⟨new, hn, h⟩)
      obtain ⟨h1, h2, -⟩ := annL_mem (rows_nodup (hP.wf hk)) hx
      rw [h2]
      exact hP.logic hk _ h1
    rw [callDiffLogic_default fuel pops _ _ hdl] at h0
    obtain ⟨rs, ns, hrs, hns, rfl⟩ := baseDiff_inv h0
    let Q : String → List DItem → Prop := fun row cs =>
      NDiff (crOf rules row) (subOf old row) (subOf new row) (markUnchanged cs) ∧
      (subOf old row = [] → markUnchanged cs = cs)
    have hN : ∀ x ∈ annL rules new, ∀ cs, callDiffLogic fuel
        (pops ++ [.op (if hasRow (annL rules old) x.1 then lastOp pops else .added)])
        (kidsOf (annL rules old) x.1) x.2.2.kids = .ok cs → Q x.1 cs := by
      intro x hx cs hcs
      obtain ⟨h1, -, h3⟩ := annL_mem hnn hx
      have hdepn := adepthL_sub rules new x.1 h1
      have hdepo : adepthL (annL (crOf rules x.1) (subOf old x.1)) ≤ adepthL (annL rules old) := by
        by_cases hin : x.1 ∈ old.map (·.1)
        · have := adepthL_sub rules old x.1 hin; omega
        · rw [subOf_of_not_mem hin, annL_nil, adepthL_nil]; omega
      rw [oldKids_annL, h3] at hcs
      exact diff_nested hP fuel (crOf rules x.1) _ (subOf old x.1) (subOf new x.1) cs (hP.sub ho x.1) (hP.sub hn x.1)
        (by
          intro r hr _
          have hin : x.1 ∈ old.map (·.1) := Classical.byContradiction fun hnot => by
            rw [subOf_of_not_mem hnot] at hr; cases hr
          rw [lastOp_append_op, if_pos ((hasRow_annL rules old x.1).2 hin)]
          exact hpop x.1 hin h1)
        (by omega) hcs
    have hrsrow := (removedItems_spec _ _ _ _ _ _ hrs).1
    have hnsrow := (newItems_spec _ _ _ _ _ _ _ _ hns).2.1
    have hrsall : ∀ x ∈ rs, ∃ e ∈ annL rules old, ∃ cs, x.2 = .mk .removed e.1 cs e.2.1 := fun x hx => by
      obtain ⟨p, hp, cs, -, rfl⟩ := ((removedItems_iff ..).1 hrs).mem_left hx
      exact ⟨p.1, List.fst_mem_of_mem_zipIdx (List.mem_filter.1 hp).1, cs, rfl⟩
    have hnsall : ∀ x ∈ ns, ∃ e ∈ annL rules new, ∃ cs, Q e.1 cs ∧
        x.2 = .mk (if hasRow (annL rules old) e.1 then lastOp pops else .added) e.1 cs e.2.1 := fun x hx => by
      obtain ⟨p, hp, k, cs, -, hcs, rfl⟩ := ((newItems_iff ..).1 hns).mem_left hx
      rw [opAt_m2a] at hcs ⊢
      exact ⟨p.1, List.fst_mem_of_mem_zipIdx hp, cs, hN p.1 (List.fst_mem_of_mem_zipIdx hp) cs hcs, rfl⟩
    rw [markUnchanged_eq_map]
    have hRm : ∀ i ∈ rs.map (·.2), i.op = .removed ∧ i.m = matchOf rules i.row := by
      intro i hi
      obtain ⟨x, hx, rfl⟩ := List.mem_map.1 hi
      obtain ⟨e, he, cs, hxe⟩ := hrsall x hx
      rw [hxe]
      exact ⟨rfl, (annL_mem hno he).2.1⟩
    have hRfix : (rs.map (·.2)).map markItem = rs.map (·.2) := by
      conv => rhs; rw [← List.map_id (rs.map (·.2))]
      exact List.map_congr_left fun i hi => markItem_of_ne i (by rw [(hRm i hi).1]; nofun)
    have hperm : (((sortIdx (rs ++ ns)).map (·.2)).map markItem).Perm
        (rs.map (·.2) ++ (ns.map (·.2)).map markItem) := by
      have := ((sortIdx_perm (rs ++ ns)).map (·.2)).map markItem
      rwa [List.map_append, List.map_append, hRfix] at this
    have hnew : ∀ i ∈ (ns.map (·.2)).map markItem, i.row ∈ new.map (·.1) ∧ i.m = matchOf rules i.row ∧
        (i.row ∉ old.map (·.1) → i.op = .added) ∧ (i.row ∈ old.map (·.1) → i.op = .unchanged ∨ i.op = .affected) ∧
        (i.op = .unchanged → SameC (crOf rules i.row) (.mk (subOf old i.row)) (.mk (subOf new i.row))) ∧
        (i.op = .added ∨ i.op = .affected →
          NDiff (crOf rules i.row) (subOf old i.row) (subOf new i.row) i.children) ∧
        (i.op = .affected → ¬ ∀ j ∈ i.children, j.op = .unchanged) := by
      intro i hi
      obtain ⟨i0, hi0, rfl⟩ := List.mem_map.1 hi
      obtain ⟨x, hx, rfl⟩ := List.mem_map.1 hi0
      obtain ⟨e, he, cs, ⟨hq, hmark⟩, hxe⟩ := hnsall x hx
      obtain ⟨hrow, hm, -⟩ := annL_mem hnn he
      rw [hxe]
      by_cases hio : e.1 ∈ old.map (·.1)
      · rw [if_pos ((hasRow_annL rules old e.1).2 hio), hpop _ hio hrow]
        obtain ⟨h1, h2, h3⟩ := ndiff_marked (m := e.2.1) (hP.wf (hP.sub ho e.1)) (hP.wf (hP.sub hn e.1)) hq
        rw [markItem_row, markItem_m]
        refine ⟨hrow, hm, fun h => (h hio).elim, fun _ => h1, h2, ?_, fun h => (h3 h).2⟩
        rintro (h | h)
        · rcases h1 with h1 | h1 <;> rw [h1] at h <;> cases h
        · exact (h3 h).1
      · have : hasRow (annL rules old) e.1 = false := by
          rw [← Bool.not_eq_true, hasRow_annL]; exact hio
        rw [this, if_neg (by simp), markItem_of_ne _ (by rw [DItem.op_mk]; nofun)]
        simp only [DItem.op_mk, row_mk, DItem.children_mk, m_mk]
        refine ⟨hrow, hm, fun _ => trivial, fun h => (hio h).elim, nofun, fun _ => ?_, nofun⟩
        rw [← hmark (subOf_of_not_mem hio)]
        exact hq
    have hmem : ∀ i ∈ ((sortIdx (rs ++ ns)).map (·.2)).map markItem,
        i ∈ rs.map (·.2) ∨ i ∈ (ns.map (·.2)).map markItem := fun i hi => List.mem_append.1 (hperm.mem_iff.1 hi)
    refine ⟨.mk ?_ ?_ ?_ ?_, ?_⟩
    · refine lvl_of_parts hwo hwn hperm ?_ hRm ?_ fun i hi => ⟨(hnew i hi).2.1, (hnew i hi).2.2.1, (hnew i hi).2.2.2.1⟩
      · rw [List.map_map]
        have : (fun x : DItem => x.row) ∘ (fun x : Nat × DItem => x.2) = fun x => x.2.row := rfl
        rw [this, hrsrow, rowsOf_annL]
        apply List.filter_congr
        intro r _
        congr 1
        rw [Bool.eq_iff_iff, List.contains_iff_mem]
        exact hasRow_annL rules new r
      · rw [List.map_map, List.map_map]
        have : ((fun x : DItem => x.row) ∘ markItem) ∘ (fun x : Nat × DItem => x.2) = fun x => x.2.row := by
          funext x; simp [markItem_row]
        rw [this, hnsrow, rowsOf_annL]
    · intro i hi hop
      rcases hmem i hi with h | h
      · rw [(hRm i h).1] at hop; cases hop
      · exact (hnew i h).2.2.2.2.1 hop
    · intro i hi hop
      rcases hmem i hi with h | h
      · rw [(hRm i h).1] at hop; rcases hop with hop | hop <;> cases hop
      · exact (hnew i h).2.2.2.2.2.1 hop
    · intro i hi hop
      rcases hmem i hi with h | h
      · rw [(hRm i h).1] at hop; cases hop
      · exact (hnew i h).2.2.2.2.2.2 hop
    · -- nothing to mark below an empty old side
      intro hold
      conv => rhs; rw [← List.map_id ((sortIdx (rs ++ ns)).map (·.2))]
      refine List.map_congr_left fun i hi => markItem_of_ne i fun hop => ?_
      have hi' := ((sortIdx_perm (rs ++ ns)).map (·.2)).mem_iff.1 hi
      rw [List.map_append] at hi'
      rcases List.mem_append.1 hi' with hi' | hi'
      · rw [(hRm i hi').1] at hop; cases hop
      · obtain ⟨x, hx, rfl⟩ := List.mem_map.1 hi'
        obtain ⟨e, -, cs, -, hxe⟩ := hnsall x hx
        rw [hxe, hold, annL_nil, DItem.op_mk] at hop
        cases hop

theorem makeDiff_ndiff {P : PRules → List (String × Cfg) → Prop} (hP : DiffClosed P) {old new : Cfg}
    (ho : P rules old.kids) (hn : P rules new.kids) :
    ∃ d, makeDiff rules old new = .ok d ∧ NDiff rules old.kids new.kids d := by
  obtain ⟨ko⟩ := old
  obtain ⟨kn⟩ := new
  obtain ⟨d0, hd0⟩ := diff_total hP (adepthL (annL rules ko) + adepthL (annL rules kn) + 2) [.op .affected]
    (old := ko) (new := kn) ho hn
  have ha : ∀ ks, P rules ks → annotate rules (.mk ks) = .ok (annC rules (.mk ks)) := fun ks h => by
    rw [annotate, annC, hP.ann h]; rfl
  refine ⟨markUnchanged d0, ?_, (diff_nested hP _ rules _ ko kn d0 ho hn (fun _ _ _ => rfl) (by omega) hd0).1⟩
  unfold makeDiff
  simp only [ha ko ho, ha kn hn, annC_kids, adepth_kids, Cfg.kids]
  rw [hd0]

/-- good configurations over a nested rulebook form such a family.  The guard `ks ≠ []`: `DiffClosed.sub` descends into
`crOf rules row` also for rows the level does not hold, where the sub-block is empty and nothing is known of the rules. -/
theorem nested_closed : DiffClosed fun rules ks => GoodC rules (.mk ks) ∧ (ks ≠ [] → NestedRules rules) where
  nil rules := ⟨goodC_nil rules, fun h => (h rfl).elim⟩
  wf h := (goodC_mk.1 h.1).1
  ann h := annotateList_good _ _ (goodC_mk.1 h.1).2
  logic := by
    intro rules ks h r hr
    obtain ⟨m, hcl, -⟩ := goodL_rows (goodC_mk.1 h.1).2 hr
    rw [matchOf_eq hcl]
    exact ((levelRules_of_nested (h.2 (by rintro rfl; cases hr))).logic hcl).1
  sub := by
    intro rules ks h row
    refine ⟨good_sub (goodC_mk.1 h.1).2 row, fun hne => ?_⟩
    have hrow : row ∈ ks.map (·.1) := Classical.byContradiction fun hnot => hne (subOf_of_not_mem hnot)
    obtain ⟨m, hcl, hu⟩ := goodL_rows (goodC_mk.1 h.1).2 hrow
    exact (child_rules (h.2 (by rintro rfl; cases hrow)) hu hcl).1

theorem makeDiff_nested {old new : Cfg} (hnr : NestedRules rules)
    (hgo : GoodC rules old) (hgn : GoodC rules new) :
    ∃ d, makeDiff rules old new = .ok d ∧ NDiff rules old.kids new.kids d :=
  makeDiff_ndiff nested_closed ⟨by rwa [cfg_eta], fun _ => hnr⟩ ⟨by rwa [cfg_eta], fun _ => hnr⟩

/-- what an induction over the recursion of `make_patch` carries down a nested rulebook: the rulebook, good configurations
on both sides and their marked diff; it descends below every ADDED/AFFECTED row (`NestedLevel.sub`) -/
structure NestedLevel (v : Vendor) (env : Env) (rules : PRules) (old new : Cfg) (d : List DItem) : Prop where
  nested : NestedRules rules
  cmds : CmdsOKAll v env rules
  goodOld : GoodC rules old
  goodNew : GoodC rules new
  diff : NDiff rules old.kids new.kids d

theorem NestedLevel.sub {v : Vendor} {env : Env} {old new : Cfg} (h : NestedLevel v env rules old new d) {i : DItem}
    (hi : i ∈ d) (hop : i.op = .added ∨ i.op = .affected) :
    NestedLevel v env (crOf rules i.row) (.mk (subOf old.kids i.row)) (.mk (subOf new.kids i.row)) i.children := by
  obtain ⟨ko⟩ := old
  obtain ⟨kn⟩ := new
  obtain ⟨m, hcl, hu⟩ := goodL_rows (goodC_mk.1 h.goodNew).2 (lvl_put_row h.diff.lvl hi hop)
  obtain ⟨hnr, hc⟩ := child_rules h.nested hu hcl
  exact ⟨hnr, hc v env h.cmds, good_sub (goodC_mk.1 h.goodOld).2 i.row, good_sub (goodC_mk.1 h.goodNew).2 i.row,
    h.diff.sub hi hop⟩

end Annet.ConvergeNested.Lemmas
