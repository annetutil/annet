/-
Lemmas about the ACL steps of `_old_new_per_device` (`Model/Gen.lean`, `aclSteps` / `oldNewFull`): the generators'
combined ACL is an allow-list that is applied even when it is empty, a requested filter ACL is applied even when it is
empty, and both only ever select sub-trees.  All of it is read off `aclSteps_ok`: a run that succeeds, in whatever mode,
returns `passed` of the device configuration and of the generators' output, at most two `keep`s (`Lemmas/Acl.lean`) in a row.
-/
import AnnetModel.Lemmas.GenRun

namespace Annet.Gen
open Annet Annet.Acl Annet.Acl.Spec
open Annet.Acl.Lemmas (keep applyAcl_ok keep_sub mem_paths_keep)

theorem subL_refl : (ks : List (String × Cfg)) → SubL ks ks := Implicit.Lemmas.subL_refl

theorem sub_nil_nil : Sub (.mk []) (.mk []) := Spec.Sub.mk (SubL.nil _)

theorem compileAcl_empty : compileAcl [[]] = ⟨[], []⟩ := by
  simp [compileAcl, compileAclFuel, mergeToplevel, depthRaw.depthList]

theorem matchRow_empty (v : Vendor) (row : String) (excl : Bool) :
    matchRowToAcl v row ⟨[], []⟩ excl = .ok none := by
  simp [matchRowToAcl, findMatches, sortStable]

theorem applyAclList_empty (v : Vendor) (excl : Bool) (path : List String) :
    (ks : List (String × Cfg)) → applyAclList v false excl ⟨[], []⟩ path ks = .ok []
  | [] => by rw [applyAclList]
  | (row, ch) :: rest => by
    rw [applyAclList, matchRow_empty]
    simp only [Bool.false_eq_true, if_false]
    exact applyAclList_empty v excl path rest

/-- `old and apply_acl(old, rules)` is `apply_acl(old, rules)`: the lenient filter of the empty tree is the empty tree -/
theorem filterOld_eq (v : Vendor) (rules : Rules) (t : Cfg) :
    filterOld v rules t = applyAcl v false false rules [] t := by
  match t with
  | .mk [] => simp [filterOld, applyAcl, applyAclList, Except.map]
  | .mk (x :: xs) => simp [filterOld]

theorem applyAcl_empty_rules (v : Vendor) (excl : Bool) (path : List String) (t : Cfg) :
    applyAcl v false excl (compileAcl [[]]) path t = .ok (.mk []) := by
  cases t with
  | mk ks => rw [compileAcl_empty, applyAcl, applyAclList_empty]; rfl

theorem filterOld_empty_rules (v : Vendor) (t : Cfg) : filterOld v (compileAcl [[]]) t = .ok (.mk []) := by
  rw [filterOld_eq]; exact applyAcl_empty_rules v false [] t

theorem filterOld_sub (v : Vendor) (rules : Rules) (t t' : Cfg) (h : filterOld v rules t = .ok t') : Sub t' t := by
  rw [filterOld_eq] at h
  exact Lemmas.sub_cfg v false false rules [] t t' h

/-- one ACL step of `_old_new_per_device`: `old` through the lenient filter, `new` through the same rules, in
exclusive mode if asked -/
def filterBoth (v : Vendor) (rules : Rules) (exclusive : Bool) (r : OldNew) : Except Err OldNew :=
  applyAcl v false false rules [] r.old >>= fun o =>
    applyAcl v false exclusive rules [] r.new >>= fun n => .ok ⟨o, n⟩

theorem filterBoth_ok {v : Vendor} {rules : Rules} {exclusive : Bool} {r r' : OldNew}
    (h : filterBoth v rules exclusive r = .ok r') : r' = ⟨keep v rules r.old, keep v rules r.new⟩ := by
  obtain ⟨o, ho, h⟩ := Except.bind_eq_ok.1 h
  obtain ⟨n, hn, h⟩ := Except.bind_eq_ok.1 h
  cases h
  rw [(applyAcl_ok _ _ _ _ _ _ _ ho).1, (applyAcl_ok _ _ _ _ _ _ _ hn).1]

theorem aclSteps_none (v : Vendor) (noAcl exclusive : Bool) (genAcl : List RawRule) (old new : Cfg) :
    aclSteps v noAcl exclusive genAcl none old new =
      if noAcl then .ok ⟨old, new⟩ else filterBoth v (compileAcl [genAcl]) exclusive ⟨old, new⟩ := by
  simp only [aclSteps, filterOld_eq, filterBoth]
  cases noAcl with
  | true => rfl
  | false =>
    simp only [Bool.false_eq_true, if_false]
    cases applyAcl v false false (compileAcl [genAcl]) [] old with
    | error e => rfl
    | ok o => cases applyAcl v false exclusive (compileAcl [genAcl]) [] new <;> rfl

theorem aclSteps_some (v : Vendor) (noAcl exclusive : Bool) (genAcl f : List RawRule) (old new : Cfg) :
    aclSteps v noAcl exclusive genAcl (some f) old new =
      aclSteps v noAcl exclusive genAcl none old new >>= filterBoth v (compileAcl [f]) false := by
  simp only [aclSteps, filterOld_eq]
  split
  · rfl
  · next r _ =>
    show _ = filterBoth v (compileAcl [f]) false r
    rw [filterBoth]
    cases applyAcl v false false (compileAcl [f]) [] r.old with
    | error e => rfl
    | ok o => cases applyAcl v false false (compileAcl [f]) [] r.new <;> rfl

/-- what the ACL steps leave of a tree when nothing fails: what the generators' combined ACL keeps (all of it with
`--no-acl`), and of that what the filter ACL keeps, if one was asked for -/
def passed (v : Vendor) (noAcl : Bool) (genAcl : List RawRule) (filter : Option (List RawRule)) (t : Cfg) : Cfg :=
  let own := if noAcl then t else keep v (compileAcl [genAcl]) t
  filter.elim own fun f => keep v (compileAcl [f]) own

theorem aclSteps_ok {v : Vendor} {noAcl exclusive : Bool} {genAcl : List RawRule} {filter : Option (List RawRule)}
    {old new : Cfg} {r : OldNew} (h : aclSteps v noAcl exclusive genAcl filter old new = .ok r) :
    r = ⟨passed v noAcl genAcl filter old, passed v noAcl genAcl filter new⟩ := by
  have none_ok : ∀ {r0}, aclSteps v noAcl exclusive genAcl none old new = .ok r0 →
      r0 = ⟨passed v noAcl genAcl none old, passed v noAcl genAcl none new⟩ := fun h0 => by
    rw [aclSteps_none] at h0
    cases noAcl with
    | true => exact (Except.ok.inj h0).symm
    | false => exact filterBoth_ok h0
  cases filter with
  | none => exact none_ok h
  | some f =>
    rw [aclSteps_some] at h
    obtain ⟨r0, h0, hf⟩ := Except.bind_eq_ok.1 h
    rw [filterBoth_ok hf, none_ok h0]
    rfl

theorem keep_empty_rules (v : Vendor) (t : Cfg) : keep v (compileAcl [[]]) t = .mk [] :=
  ((applyAcl_ok _ _ _ _ _ _ _ (applyAcl_empty_rules v false [] t)).1).symm

theorem passed_sub (v : Vendor) (noAcl : Bool) (genAcl : List RawRule) (filter : Option (List RawRule)) (t : Cfg) :
    Sub (passed v noAcl genAcl filter t) t := by
  have own : Sub (if noAcl then t else keep v (compileAcl [genAcl]) t) t := by
    split
    · exact Implicit.Lemmas.sub_refl t
    · exact keep_sub ..
  cases filter with
  | none => exact own
  | some f => exact sub_trans _ _ _ (keep_sub ..) own

theorem mem_paths_passed {v : Vendor} {genAcl f : List RawRule} {t : Cfg} {p : List String} :
    p ∈ (passed v false genAcl (some f) t).paths ↔
      (p ∈ t.paths ∧ (walk v (compileAcl [genAcl]) p).isSome) ∧ (walk v (compileAcl [f]) p).isSome := by
  simp only [passed, Option.elim, Bool.false_eq_true, if_false, mem_paths_keep]

theorem oldNewFull_inv {v : Vendor} {sp : Splitter} {gens : List GenDef} {noAcl exclusive : Bool}
    {filter : Option (List RawRule)} {old : Cfg} {r : OldNew}
    (h : oldNewFull v sp gens noAcl exclusive filter old = .ok r) :
    ∃ rs, runPartialsU (!noAcl) v sp gens [] = .ok rs ∧
      aclSteps v noAcl exclusive (combineAcl rs) filter old (configTree rs) = .ok r := by
  unfold oldNewFull at h
  split at h
  · cases h
  · next rs hr =>
    split at h
    · cases h
    · cases h
    · cases h
    · next r' ha =>
      cases h
      exact ⟨rs, hr, ha⟩

theorem mem_addPartial {rs : List Result} {r x : Result} (h : x ∈ addPartial rs r) : x ∈ rs ∨ x = r := by
  rw [Lemmas.addPartial_eq_upsert] at h
  rcases Keyed.mem_upsert h with h | ⟨_, _, _, e⟩ | ⟨_, e⟩
  · exact .inl h.1
  · exact .inr e
  · exact .inr e

theorem runPartialsU_acl_nil (useAcl : Bool) (v : Vendor) (sp : Splitter) :
    (gens : List GenDef) → (acc rs : List Result) → (∀ g ∈ gens, g.acl = []) → (∀ r ∈ acc, r.acl = []) →
      runPartialsU useAcl v sp gens acc = .ok rs → ∀ r ∈ rs, r.acl = []
  | [], acc, rs, _, hacc, h => by
    rw [runPartialsU] at h; cases h; exact hacc
  | g :: rest, acc, rs, hg, hacc, h => by
    rw [runPartialsU] at h
    cases hc : runPartialU useAcl v sp g with
    | error e => rw [hc] at h; cases h
    | ok c =>
      rw [hc] at h
      refine runPartialsU_acl_nil useAcl v sp rest _ rs (fun g' hg' => hg g' (List.mem_cons_of_mem _ hg')) ?_ h
      intro x hx
      rcases mem_addPartial hx with hx | rfl
      · exact hacc x hx
      · exact hg g (List.mem_cons_self ..)

theorem runPartialsU_true (v : Vendor) (sp : Splitter) :
    (gens : List GenDef) → (acc : List Result) → runPartialsU true v sp gens acc = runPartials v sp gens acc
  | [], acc => by rw [runPartialsU, runPartials]
  | g :: rest, acc => by
    rw [runPartialsU, runPartials]
    simp only [runPartialU, if_true]
    cases runPartial v sp g with
    | error e => rfl
    | ok c => exact runPartialsU_true v sp rest _

theorem runPartials_acl_nil (v : Vendor) (sp : Splitter) (gens : List GenDef) (acc rs : List Result)
    (hg : ∀ g ∈ gens, g.acl = []) (hacc : ∀ r ∈ acc, r.acl = []) (h : runPartials v sp gens acc = .ok rs) :
    ∀ r ∈ rs, r.acl = [] := by
  rw [← runPartialsU_true] at h
  exact runPartialsU_acl_nil true v sp gens acc rs hg hacc h

theorem combineAcl_nil : (rs : List Result) → (∀ r ∈ rs, r.acl = []) → combineAcl rs = []
  | [], _ => rfl
  | r :: rs, h => by
    have ih := combineAcl_nil rs (fun x hx => h x (List.mem_cons_of_mem _ hx))
    unfold combineAcl at ih ⊢
    rw [List.map_cons, List.flatten_cons, ih, h r (List.mem_cons_self ..), tagRules]
    rfl

theorem passed_empty_gen_acl (v : Vendor) (filter : Option (List RawRule)) (t : Cfg) :
    passed v false [] filter t = .mk [] := by
  simp only [passed, Bool.false_eq_true, if_false, keep_empty_rules]
  cases filter with
  | none => rfl
  | some f => simp only [Option.elim, keep, Acl.Lemmas.keepL]

theorem oldNewFull_no_acl_rules (v : Vendor) (sp : Splitter) (gens : List GenDef) (exclusive : Bool)
    (filter : Option (List RawRule)) (old : Cfg) (r : OldNew) (hg : ∀ g ∈ gens, g.acl = [])
    (h : oldNewFull v sp gens false exclusive filter old = .ok r) : r.old = .mk [] ∧ r.new = .mk [] := by
  obtain ⟨rs, hr, ha⟩ := oldNewFull_inv h
  rw [combineAcl_nil rs (runPartialsU_acl_nil _ v sp gens [] rs hg (by simp) hr)] at ha
  rw [aclSteps_ok ha]
  exact ⟨passed_empty_gen_acl .., passed_empty_gen_acl ..⟩

theorem oldNewFull_empty_filter (v : Vendor) (sp : Splitter) (gens : List GenDef) (noAcl exclusive : Bool)
    (old : Cfg) (r : OldNew) (h : oldNewFull v sp gens noAcl exclusive (some []) old = .ok r) :
    r.old = .mk [] ∧ r.new = .mk [] := by
  obtain ⟨rs, _, ha⟩ := oldNewFull_inv h
  rw [aclSteps_ok ha]
  exact ⟨keep_empty_rules .., keep_empty_rules ..⟩

end Annet.Gen
