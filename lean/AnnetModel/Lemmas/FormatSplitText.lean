/-
The token stream of `blocks` is the reference rendering; `split` of
the indentation vendors (Common, Huawei, Nexus-like, Asr, Cisco) undoes `join` line by line.
-/
import AnnetModel.Lemmas.Text
import AnnetModel.Lemmas.CfgTree

namespace Annet.FormatSplit.Lemmas
open Annet Annet.Offside Annet.FormatSplit

theorem nonEmpty_eq_self {ls : List Str} (h : ∀ l ∈ ls, l ≠ []) : nonEmpty ls = ls :=
  List.filter_eq_self.2 fun l hl => by
    cases l with
    | nil => exact absurd rfl (h _ hl)
    | cons _ _ => rfl

theorem commonSplit_joinNl (ls : List Str) (h : ∀ l ∈ ls, l ≠ [] ∧ '\n' ∉ l) :
    commonSplit (joinNl ls) = ls := by
  rw [commonSplit, splitNl_joinNl_under nonEmpty rfl ls fun x hx => (h x hx).2, nonEmpty_eq_self fun x hx => (h x hx).1]

theorem rowBase_facts {r : Str} (h : rowBase r = true) :
    ∃ c cs, r = c :: cs ∧ pyIsSpace c = false ∧ c ≠ '!' ∧ c ≠ '#' ∧
      r.getLast?.any pyIsSpace = false ∧ '\n' ∉ r := by
  cases r with
  | nil => cases h
  | cons c cs =>
    simp only [rowBase, Bool.and_eq_true, Bool.not_eq_true', bne_iff_ne, ne_eq,
      List.contains_eq_mem, decide_eq_false_iff_not] at h
    exact ⟨c, cs, rfl, h.1.1.1.1, h.1.1.1.2, h.1.1.2, h.1.2, h.2⟩

theorem strip_line (n : Nat) (r : Str) (hb : rowBase r = true) : strip (blanks n ++ r) = r := by
  obtain ⟨c, cs, rfl, hc, -, -, hl, -⟩ := rowBase_facts hb
  exact strip_blanks n _ (by simpa using hc) hl

theorem line_plain (n : Nat) (r : Str) (hb : rowBase r = true) :
    blanks n ++ r ≠ [] ∧ '\n' ∉ blanks n ++ r := by
  obtain ⟨c, cs, rfl, -, -, -, -, hnl⟩ := rowBase_facts hb
  exact ⟨by simp, mt (mem_blanks_append (by decide) n _).1 hnl⟩

theorem rowsOf_indentBlocks_auxL (w : Nat) : (ks : List (String × Cfg)) → ∀ (d : Nat) (rest : List Tok),
      rowsOf (indentBlocks (blanks w) (d : Int) (blocksL ks ++ rest))
        = renderL w d ks ++ rowsOf (indentBlocks (blanks w) (d : Int) rest) := by
  intro ks
  induction ks using Cfg.forest_induction with
  | nil => intro d rest; simp [blocksL, renderL]
  | cons k cks more h1 h2 =>
    intro d rest
    simp only [blocksL, renderL, Cfg.kids, blocks, render]
    cases cks with
    | nil =>
      simp only [List.isEmpty_nil, if_true, List.cons_append, List.nil_append,
        indentBlocks, rowsOf, Int.toNat_natCast, strMul_blanks, renderL, h2]
    | cons e es =>
      simp only [List.isEmpty_cons, Bool.false_eq_true, if_false, List.cons_append,
        List.nil_append, List.append_assoc, indentBlocks, rowsOf, Int.toNat_natCast, strMul_blanks]
      have e1 : ((d : Int) + 1) = ((d + 1 : Nat) : Int) := by omega
      rw [e1, h1 (d + 1) (Tok.be :: (blocksL more ++ rest))]
      simp only [indentBlocks, rowsOf]
      have e2 : (((d + 1 : Nat) : Int) - 1) = (d : Int) := by omega
      rw [e2, h2]

/-- `_filtered_block_marks(_indent_blocks(_blocks(tree)))` is the reference rendering -/
theorem rowsOf_indentBlocks_blocks (w d : Nat) (t : Cfg) :
    rowsOf (indentBlocks (blanks w) (d : Int) (blocks t)) = render w d t := by
  obtain ⟨ks⟩ := t
  simpa [blocks, render, indentBlocks, rowsOf] using rowsOf_indentBlocks_auxL w ks d []

theorem mem_rowsOf {s : Str} : ∀ {toks : List Tok}, s ∈ rowsOf toks ↔ Tok.row s ∈ toks
  | [] => by simp [rowsOf]
  | .row _ :: r => by simp [rowsOf, mem_rowsOf (toks := r)]
  | .bb :: r => by simp [rowsOf, mem_rowsOf (toks := r)]
  | .be :: r => by simp [rowsOf, mem_rowsOf (toks := r)]

theorem commonJoin_eq (w : Nat) (t : Cfg) : commonJoin (blanks w) t = joinNl (render w 0 t) := by
  have := rowsOf_indentBlocks_blocks w 0 t
  simp only [commonJoin]
  simp only [Int.natCast_zero] at this
  rw [this]

theorem wfL_cons (ok : String → Bool) (k : String) (ks rest : List (String × Cfg)) :
    wfL ok ((k, .mk ks) :: rest) = true ↔
      ok k = true ∧ (rest.any fun e => e.1 == k) = false ∧ wfL ok ks = true ∧ wfL ok rest = true := by
  simp only [wfL, wf, Bool.and_eq_true, Bool.not_eq_true', and_assoc]

theorem mem_render_auxL (ok : String → Bool) (w : Nat) : (ks : List (String × Cfg)) → ∀ (d : Nat),
      wfL ok ks = true →
      ∀ l ∈ renderL w d ks, ∃ n r, l = blanks n ++ String.toList r ∧ ok r = true := by
  intro ks
  induction ks using Cfg.forest_induction with
  | nil => intro d h l hl; simp [renderL] at hl
  | cons k ks rest ih1 ih2 =>
    intro d h l hl
    obtain ⟨hk, -, hc, hr⟩ := (wfL_cons ok k ks rest).1 h
    simp only [renderL, render, List.mem_cons, List.mem_append] at hl
    rcases hl with hl | hl | hl
    · exact ⟨w * d, k, hl, hk⟩
    · exact ih1 (d + 1) hc l hl
    · exact ih2 d hr l hl

theorem mem_render (ok : String → Bool) (w d : Nat) (t : Cfg) (h : wf ok t = true) (l : Str)
    (hl : l ∈ render w d t) : ∃ n r, l = blanks n ++ String.toList r ∧ ok r = true := by
  obtain ⟨ks⟩ := t
  exact mem_render_auxL ok w ks d h l hl

theorem noDbl_tail (c : Char) (cs : Str) (h : noDbl (c :: cs) = true) : noDbl cs = true := by
  unfold noDbl at h
  split at h
  · exact absurd h (by simp)
  · rename_i heq; cases heq; exact h
  · rename_i heq; cases heq

theorem noDbl_replicate_le (n : Nat) (c : Char) (cs : Str)
    (h : noDbl (List.replicate n ' ' ++ c :: cs) = true) : n ≤ 1 := by
  match n, h with
  | 0, _ => omega
  | 1, _ => omega
  | n + 2, h =>
    simp [List.replicate_succ, noDbl] at h

theorem noDbl_append_right (a b : Str) (h : noDbl (a ++ b) = true) : noDbl b = true := by
  induction a with
  | nil => simpa using h
  | cons c cs ih => exact ih (noDbl_tail c _ h)

theorem removeSpacesGo_append_nl (l rest : Str) : ∀ (p : Bool) (n : Nat),
    removeSpacesGo p n (l ++ '\n' :: rest)
      = removeSpacesGo p n l ++ '\n' :: removeSpacesGo false 0 rest := by
  induction l with
  | nil =>
    intro p n
    have h1 : ('\n' == ' ') = false := by decide
    have h2 : pyIsSpace '\n' = true := by decide
    simp [removeSpacesGo, h1, h2]
  | cons c cs ih =>
    intro p n
    simp only [List.cons_append, removeSpacesGo]
    split
    · exact ih p (n + 1)
    · rw [ih]; simp

theorem removeSpacesGo_blanks (k : Nat) (l : Str) : ∀ (p : Bool) (n : Nat),
    removeSpacesGo p n (blanks k ++ l) = removeSpacesGo p (n + k) l := by
  induction k with
  | zero => intro p n; simp [blanks]
  | succ k ih =>
    intro p n
    have := ih p (n + 1)
    simp only [blanks] at this ⊢
    simp only [List.replicate_succ, List.cons_append, removeSpacesGo, beq_self_eq_true, if_true]
    rw [this]
    congr 1
    omega

theorem removeSpacesGo_noDbl (l : Str) : ∀ (p : Bool) (n : Nat),
    noDbl (List.replicate n ' ' ++ l) = true →
    removeSpacesGo p n l = List.replicate n ' ' ++ l := by
  induction l with
  | nil => intro p n _; simp [removeSpacesGo]
  | cons c cs ih =>
    intro p n h
    simp only [removeSpacesGo]
    split
    · rename_i hc
      have hc' : c = ' ' := by simpa using hc
      subst hc'
      have e : List.replicate n ' ' ++ ' ' :: cs = List.replicate (n + 1) ' ' ++ cs := by
        rw [List.replicate_succ']; simp
      rw [e] at h ⊢
      exact ih p (n + 1) h
    · have hn := noDbl_replicate_le n c cs h
      have hcs : noDbl cs = true := noDbl_tail c cs (noDbl_append_right _ _ h)
      have h2 : decide (2 ≤ n) = false := by simp; omega
      rw [ih _ 0 (by simpa using hcs)]
      simp [h2]

theorem removeSpacesGo_line (n : Nat) (r : Str) (hb : rowBase r = true) (hd : noDbl r = true) :
    removeSpacesGo false 0 (blanks n ++ r) = blanks n ++ r := by
  obtain ⟨c, cs, rfl, hsp, -⟩ := rowBase_facts hb
  rw [removeSpacesGo_blanks]
  have hc : (c == ' ') = false := beq_eq_false_iff_ne.2 (ne_of_not_space hsp (by decide))
  simp only [removeSpacesGo, hc, Bool.false_and, Bool.false_eq_true, if_false, Nat.zero_add, blanks]
  rw [removeSpacesGo_noDbl cs _ 0 (by simpa using noDbl_tail c cs hd)]
  simp

theorem removeSpaces_joinNl (ls : List Str)
    (h : ∀ l ∈ ls, ∃ n r, l = blanks n ++ r ∧ rowBase r = true ∧ noDbl r = true) :
    removeSpaces (joinNl ls) = joinNl ls := by
  induction ls with
  | nil => simp [removeSpaces, joinNl, removeSpacesGo]
  | cons l rest ih =>
    obtain ⟨n, r, rfl, hb, hd⟩ := h l (by simp)
    cases rest with
    | nil =>
      simp only [joinNl, removeSpaces]
      exact removeSpacesGo_line n r hb hd
    | cons l' ls =>
      have ih' := ih (fun x hx => h x (by simp [hx]))
      simp only [removeSpaces] at ih' ⊢
      simp only [joinNl] at ih' ⊢
      rw [removeSpacesGo_append_nl, removeSpacesGo_line n r hb hd, ih']

theorem asr_heads : ∀ p ∈ asrEndBlocks, ∃ c cs, p = c :: cs ∧ c ≠ ' ' := by
  simp [asrEndBlocks]

theorem asr_keep (n : Nat) (r : Str)
    (h : (asrEndBlocks.any fun p => p.isSuffixOf r) = false) :
    (asrEndBlocks.any fun p => p.isSuffixOf (blanks n ++ r)) = false := by
  rw [Bool.eq_false_iff] at h ⊢
  intro hx
  apply h
  rw [List.any_eq_true] at hx ⊢
  obtain ⟨p, hp, hs⟩ := hx
  refine ⟨p, hp, ?_⟩
  rw [List.isSuffixOf_iff_suffix] at hs ⊢
  obtain ⟨c, cs, rfl, hc⟩ := asr_heads p hp
  exact suffix_blanks hc n r hs

/- Cisco: without an `exit-address-family` line no section is ever "closed at the same indent". -/

theorem closedAtSameIndentGo_false (level : Nat) (ls : List Str)
    (h : ∀ l ∈ ls, strip l ≠ exitAddressFamily) :
    ∀ first, closedAtSameIndentGo level exitAddressFamily first ls = false := by
  induction ls with
  | nil => intro first; simp [closedAtSameIndentGo]
  | cons l rest ih =>
    intro first
    have hl : (strip l == exitAddressFamily) = false := by
      simpa using h l (by simp)
    have hrest : ∀ x ∈ rest, strip x ≠ exitAddressFamily := fun x hx => h x (by simp [hx])
    simp only [closedAtSameIndentGo, hl, Bool.and_false, Bool.false_eq_true, if_false, ih hrest]
    split <;> rfl

theorem ciscoLoop_id (ls : List Str) : ∀ (indent : Int) (exits : List Str), indent ≤ 0 →
    (∀ l ∈ ls, strip l ≠ exitAddressFamily) →
    ciscoLoop ls indent exits = ls := by
  induction ls with
  | nil => intro indent exits _ _; simp [ciscoLoop]
  | cons l rest ih =>
    intro indent exits hi h
    have hrest : ∀ x ∈ rest, strip x ≠ exitAddressFamily :=
      fun x hx => h x (by simp [hx])
    simp only [ciscoLoop, ciscoSplitIndent, closedAtSameIndent,
      closedAtSameIndentGo_false _ rest hrest, Bool.false_eq_true, if_false]
    rw [Int.toNat_of_nonpos hi]
    split
    · rw [ih _ _ (by omega) hrest]; simp
    · split
      · rw [ih _ _ hi hrest]; simp
      · rw [ih _ _ hi hrest]; simp

theorem rowOk_base (k : Kind) (r : String) (h : rowOk k r = true) : rowBase r.toList = true := by
  simp only [rowOk, Bool.and_eq_true] at h
  exact h.1

theorem commonSplit_render (k : Kind) (w : Nat) (t : Cfg) (h : wf (rowOk k) t = true) :
    commonSplit (joinNl (render w 0 t)) = render w 0 t := by
  apply commonSplit_joinNl
  intro l hl
  obtain ⟨n, r, rfl, hr⟩ := mem_render (rowOk k) w 0 t h l hl
  exact line_plain n _ (rowOk_base k r hr)

theorem splitRemoveSpaces_render (k : Kind) (w : Nat) (t : Cfg) (h : wf (rowOk k) t = true)
    (hd : ∀ r, rowOk k r = true → noDbl r.toList = true) :
    splitRemoveSpaces (joinNl (render w 0 t)) = render w 0 t := by
  simp only [splitRemoveSpaces]
  rw [removeSpaces_joinNl, commonSplit_render k w t h]
  intro l hl
  obtain ⟨n, r, rfl, hr⟩ := mem_render (rowOk k) w 0 t h l hl
  exact ⟨n, r.toList, rfl, rowOk_base k r hr, hd r hr⟩

theorem rowOk_noDbl (k : Kind) (hk : k = .huawei ∨ k = .nexusLike ∨ k = .asr ∨ k = .cisco)
    (r : String) (h : rowOk k r = true) : noDbl r.toList = true := by
  rcases hk with rfl | rfl | rfl | rfl <;> simp only [rowOk, Bool.and_eq_true] at h
  · exact h.2.1
  · exact h.2
  · exact h.2.1
  · exact h.2.1

theorem split_join_indent (k : Kind)
    (hk : k = .common ∨ k = .huawei ∨ k = .nexusLike ∨ k = .asr ∨ k = .cisco)
    (w : Nat) (t : Cfg) (h : wf (rowOk k) t = true) :
    split ⟨k, blanks w⟩ (commonJoin (blanks w) t) = some (render w 0 t) := by
  rw [commonJoin_eq]
  rcases hk with rfl | hk
  · exact congrArg some (commonSplit_render _ w t h)
  have hs := splitRemoveSpaces_render k w t h (rowOk_noDbl k hk)
  -- what is left of each `split` after `split_remove_spaces` keeps every line of the rendering
  rcases hk with rfl | rfl | rfl | rfl
  · simp only [split, huaweiSplit, hs]
    congr 1
    rw [List.filter_eq_self]
    intro l hl
    obtain ⟨n, r, rfl, hr⟩ := mem_render _ w 0 t h l hl
    rw [strip_line n _ (rowOk_base _ r hr)]
    simp only [rowOk, Bool.and_eq_true] at hr
    exact hr.2.2
  · simp only [split, hs]
  · simp only [split, asrSplit, hs]
    congr 1
    rw [List.filter_eq_self]
    intro l hl
    obtain ⟨n, r, rfl, hr⟩ := mem_render _ w 0 t h l hl
    simp only [rowOk, Bool.and_eq_true, Bool.not_eq_true'] at hr
    rw [asr_keep n _ hr.2.2]
    rfl
  · simp only [split, ciscoSplit, hs]
    congr 1
    apply ciscoLoop_id _ 0 _ (Int.le_refl 0)
    intro l hl
    obtain ⟨n, r, rfl, hr⟩ := mem_render _ w 0 t h l hl
    rw [strip_line n _ (rowOk_base _ r hr)]
    simp only [rowOk, Bool.and_eq_true, bne_iff_ne] at hr
    exact hr.2.2

end Annet.FormatSplit.Lemmas
