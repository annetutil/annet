/-
C14, Huawei: one theorem per condition and action generator (`gen_*`: what its rows are, and that it raises after a row only
if a list it names is not there), and every named list a policy row refers to is defined by the matching list generator.
-/
import AnnetModel.Lemmas.RplRow

namespace Annet.Rpl.Lemmas
open Annet.Rpl.Spec

/-- the first items after which `refsOfRowH` reads the name of a list, and the kind of the list -/
def headKindsH : List (String × RefKind) :=
  [("if-match community-filter", .communityFilter), ("if-match large-community-filter", .largeCommunityFilter),
   ("if-match extcommunity-filter", .extcommunityFilter), ("if-match extcommunity-list soo", .extcommunityListSoo),
   ("if-match rd-filter", .rdFilter), ("apply comm-filter", .communityFilter),
   ("apply extcommunity-filter rt", .extcommunityFilter)]

theorem refsH_head {kw : String} {k : RefKind} (h : (kw, k) ∈ headKindsH) (n : Str) (rest : List Str) :
    refsOfRowH (s kw :: n :: rest) = [(k, n)] := by
  simp only [headKindsH, List.mem_cons, Prod.mk.injEq, List.not_mem_nil, or_false] at h
  rcases h with ⟨rfl, rfl⟩ | ⟨rfl, rfl⟩ | ⟨rfl, rfl⟩ | ⟨rfl, rfl⟩ | ⟨rfl, rfl⟩ | ⟨rfl, rfl⟩ | ⟨rfl, rfl⟩ <;>
    simp only [refsOfRowH, named, s_beq, String.reduceBEq, Bool.false_eq_true, ↓reduceIte, List.head?_cons]

theorem refsH_pfx {kw : String} (h : kw = "ip-prefix" ∨ kw = "ipv6 address prefix-list") (n : Str) :
    refsOfRowH [s "if-match", s kw, n] = [(.prefixList, n)] := by
  rcases h with rfl | rfl <;>
    simp only [refsOfRowH, named, s_beq, String.reduceBEq, Bool.false_eq_true, ↓reduceIte, Bool.or_false, Bool.or_true,
      List.head?_cons]

/-- … plus `if-match`, whose second item decides -/
def refHeadsH : List String := headKindsH.map (·.1) ++ ["if-match"]

theorem refsH_other {h : Str} (hh : ∀ kw ∈ refHeadsH, h ≠ s kw) (rest : List Str) : refsOfRowH (h :: rest) = [] := by
  simp only [refHeadsH, headKindsH, List.map_cons, List.map_nil, List.cons_append, List.nil_append, List.forall_mem_cons,
    List.not_mem_nil, false_imp_iff, implies_true, and_true] at hh
  obtain ⟨h1, h2, h3, h4, h5, h6, h7, h8⟩ := hh
  simp only [refsOfRowH, beq_iff_eq, h1, h2, h3, h4, h5, h6, h7, h8, ↓reduceIte]

/-- the first items of the rows of a Huawei policy body after which no name of a list is read -/
def plainHeadsH : List String := ["apply", "apply large-community", "apply as-path", "goto next-node"]

theorem plainH {kw : String} (h : kw ∈ plainHeadsH) {Q : RefKind × Str → Prop} (rest : List Str) :
    Row refsOfRowH Q (s kw :: rest) := by
  have key : ∀ kw ∈ plainHeadsH, kw ≠ "" ∧ kw ∉ refHeadsH := by decide +kernel
  exact plain_of_nil (rowNE_of_head (s_ne_nil (key kw h).1) rest) (refsH_other (s_ne_of_not_mem (key kw h).2) rest)

theorem plain_apply {Q : RefKind × Str → Prop} (rest : List Str) : Row refsOfRowH Q (s "apply" :: rest) :=
  plainH (by decide +kernel) rest
theorem plain_apply_aspath {Q : RefKind × Str → Prop} (rest : List Str) :
    Row refsOfRowH Q (s "apply as-path" :: rest) := plainH (by decide +kernel) rest

theorem refs_apply_large (rest : List Str) : refsOfRowH (s "apply large-community" :: rest) = [] :=
  refsH_other (s_ne_of_not_mem (by decide +kernel)) rest
theorem refs_apply_aspath (rest : List Str) : refsOfRowH (s "apply as-path" :: rest) = [] :=
  refsH_other (s_ne_of_not_mem (by decide +kernel)) rest

theorem rowH_head {kw : String} {k : RefKind} (h : (kw, k) ∈ headKindsH) {Q : RefKind × Str → Prop} {n : Str}
    (hq : Q (k, n)) (rest : List Str) : Row refsOfRowH Q (s kw :: n :: rest) :=
  row_single (refsH_head h n rest) hq

/-- an `if-match` row whose second item is not a prefix-list keyword is read as `if-match as-path-filter N` -/
theorem refsH_ifmatch (n : Str) (rest : List Str) (h1 : n ≠ s "ip-prefix") (h2 : n ≠ s "ipv6 address prefix-list") :
    refsOfRowH (s "if-match" :: n :: rest) = named .asPathFilter (dropPrefix (s "as-path-filter ") n) := by
  simp only [refsOfRowH, s_beq, String.reduceBEq, Bool.false_eq_true, ↓reduceIte, Bool.or_eq_true, beq_iff_eq, h1, h2,
    or_self]

theorem refsH_ifmatch_lit {tok : String} (rest : List Str)
    (h : tok ≠ "ip-prefix" ∧ tok ≠ "ipv6 address prefix-list" ∧ tok.startsWith "as-path-filter " = false) :
    refsOfRowH (s "if-match" :: s tok :: rest) = [] := by
  rw [refsH_ifmatch _ _ (s_ne h.1) (s_ne h.2.1),
    dropPrefix_none (mt s_prefix.mp (Bool.not_eq_true _ ▸ h.2.2))]
  rfl

/-- the row of a `HUAWEI_MATCH_COMMAND_MAP` field refers to a list only for `as_path_filter` -/
theorem refsH_matchCmd {f : MField} {cmd : Str} (h : huaweiMatchCmd f = some cmd) (v : Str) :
    refsOfRowH [s "if-match", cmd ++ v] = if f = .asPathFilter then [(.asPathFilter, v)] else [] := by
  cases f <;> simp only [huaweiMatchCmd, reduceCtorEq, Option.some.injEq] at h <;> subst h <;>
    exact (refsH_ifmatch _ _ (s_append_ne (by decide +kernel) _) (s_append_ne (by decide +kernel) _)).trans
      (by rw [dropPrefix_cmd v (by decide +kernel)]; rfl)

/-- a theorem `GenH Q L g` for all `Q` says that no row of `g` refers to a list -/
abbrev GenH (Q : RefKind × Str → Prop) (L : Prop) : Out (List Str) → Prop := Gen (Row refsOfRowH Q) L

theorem gen_asPathLenH (c : Cond) {Q : RefKind × Str → Prop} : GenH Q False (asPathLenH c) := by
  unfold asPathLenH
  split
  · exact .emit_one (plain2 (refsH_ifmatch_lit _ (by decide +kernel)))
  · exact .emit_one (plain2 (refsH_ifmatch_lit _ (by decide +kernel)))
  · exact .emit_one (plain2 (refsH_ifmatch_lit _ (by decide +kernel)))
  · exact .emit_one (plain2 (refsH_ifmatch_lit _ (by decide +kernel)))
  all_goals exact .fail

def kindH : CType → Option RefKind
  | .basic => some .communityFilter
  | .rt => some .extcommunityFilter
  | .soo => some .extcommunityListSoo
  | .large => some .largeCommunityFilter
  | .cost => none

/-- where a reference in a Huawei policy row comes from: a condition of the program -/
inductive CondRefH (inp : Input) (c : Cond) : RefKind × Str → Prop
  | comm {t : CType} {k : RefKind} {l : List Str} {n : Str} (hf : fieldCType c.field = some t)
      (hk : kindH t = some k) (hv : c.val = .names l) (hn : n ∈ l) : CondRefH inp c (k, n)
  | rd {l : List Str} {nm : Str} {f : RdFilter} (hf : c.field = .rd) (hv : c.val = .names l) (hn : nm ∈ l)
      (hg : getRd inp.rds nm = some f) : CondRefH inp c (.rdFilter, f.number)
  | pfx {names : List Str} {a b : Option Str} {nm : Str} {pl : PrefixList}
      (hf : c.field = .ipPrefix ∨ c.field = .ipv6Prefix) (hv : c.val = .pfx names a b) (hn : nm ∈ names)
      (hg : getPrefix inp.plists nm a b = .ok pl) : CondRefH inp c (.prefixList, pl.name)
  | asPath {v : Str} (hf : c.field = .asPathFilter) (hv : c.val = .scalar v) : CondRefH inp c (.asPathFilter, v)

theorem gen_matchH (inp : Input) (c : Cond) : GenH (CondRefH inp c) (¬ condNamesKnown inp c = true) (matchH inp c) := by
  have rows : ∀ {kw : String} {t : CType} {k : RefKind} {l : List Str}, fieldCType c.field = some t →
      kindH t = some k → c.val = .names l → (kw, k) ∈ headKindsH →
      GenH (CondRefH inp c) (¬ condNamesKnown inp c = true) (emit (rowsFor (s kw) l)) :=
    fun hf hk hv hkw => .emit (refsIn_rowsFor (refsH_head hkw · []) fun n hn => .comm hf hk hv hn)
  unfold matchH
  split
  next hf =>
    split
    next l hv =>
      suffices h : GenH (CondRefH inp c) _ (emit (rowsFor _ l)) from .ite (.ite .fail h) (.ite .fail h)
      exact rows (by rw [hf]; rfl) rfl hv (by decide +kernel)
    · exact .fail
  next hf =>
    split
    next l hv =>
      suffices h : GenH (CondRefH inp c) _ (emit (rowsFor _ l)) from .ite (.ite .fail h) (.ite .fail h)
      exact rows (by rw [hf]; rfl) rfl hv (by decide +kernel)
    · exact .fail
  next hf =>
    -- `extcommunity_rt`: one lookup per name, after the rows of the names before it
    split
    next l hv =>
      refine .ite .fail (.ite .fail (.ofPart (.seqAll_map fun n hn => ?_)))
      have hq : CondRefH inp c (.extcommunityFilter, n) := .comm (by rw [hf]; rfl) rfl hv hn
      unfold extRtRowH
      split
      next hg =>
        refine .fail (fun hk => ?_)
        unfold condNamesKnown at hk
        rw [hf, hv] at hk
        simpa [known, hg] using List.all_eq_true.mp hk n hn
      · exact .ite (.emit_one (rowH_head (by decide +kernel) hq _)) (.emit_one (rowH_head (by decide +kernel) hq _))
    · exact .fail
  next hf =>
    split
    next l hv =>
      suffices h : GenH (CondRefH inp c) _ (emit (rowsFor _ l)) from .ite (.ite .fail h) (.ite .fail h)
      exact rows (by rw [hf]; rfl) rfl hv (by decide +kernel)
    · exact .fail
  next hf =>
    split
    next l hv =>
      refine .ite .fail ?_
      split
      · exact .fail
      next n _ =>
        split
        · exact .fail
        next f hg => exact .emit_one (rowH_head (by decide +kernel) (.rd hf hv List.mem_cons_self hg) _)
    · exact .fail
  next hf =>
    split
    next names a b hv =>
      exact .ofPart (part_pfxRows (refsH_pfx (.inl rfl)) _ a b names (fun nm hnm pl hpl => .pfx (.inl hf) hv hnm hpl)
        fun nm hnm e he => pfx_unknown (.inl hf) hv hnm he)
    · exact .fail
  next hf =>
    split
    next names a b hv =>
      exact .ofPart (part_pfxRows (refsH_pfx (.inr rfl)) _ a b names (fun nm hnm pl hpl => .pfx (.inr hf) hv hnm hpl)
        fun nm hnm e he => pfx_unknown (.inr hf) hv hnm he)
    · exact .fail
  · exact (gen_asPathLenH c).weaken
  · refine .ite .fail ?_
    split
    · exact .fail
    next cmd hcmd =>
      split
      next v hv =>
        refine .emit_one ⟨rowNE_cons2 _ _ _, fun r hr => ?_⟩
        rw [refsH_matchCmd hcmd] at hr
        split at hr
        next hf => exact List.mem_singleton.mp hr ▸ .asPath hf hv
        · cases hr
      · exact .fail

/-! The community generators are `part1.seq (part2.seq part3)`: the first part raises or yields, the later ones look up
lists and raise only if a name is unknown (`Unknown`); so the first part is in `Gen` (a failed lookup of `replaced` is an
error before any line: `.fail`) and the later ones in `Part` (`.fail (unknown_added he)`). -/

theorem gen_thenLargeH (cl : List CommList) (c : CommAct) {Q : RefKind × Str → Prop} :
    GenH Q (Unknown cl c) (thenLargeH cl c) := by
  unfold thenLargeH
  refine .seq ?_ (.seq (.ite ?_ .emit_nil) (.ite ?_ .emit_nil))
  · split
    · refine .ite .fail ?_
      split
      · exact .fail
      · exact .ite (.emit_one (plain_apply _)) (.emit_one (plain_apply _))
    · exact .emit_nil
  · split
    next he => exact .fail (unknown_added he)
    · exact .emit_one (plain_apply _)
  · split
    next he => exact .fail (unknown_removed he)
    · exact .emit_one (plainH (kw := "apply large-community") (by decide +kernel) _)

theorem gen_thenExtSooH (cl : List CommList) (c : CommAct) {Q : RefKind × Str → Prop} :
    GenH Q False (thenExtSooH cl c) := by
  unfold thenExtSooH
  refine .ite .fail (.after_check (.ite ?_ .emit_nil))
  split
  · exact .fail
  · exact .emit_one (plain_apply _)

theorem refs_extReplacedGroupH (g : CType × List Str) {Q : RefKind × Str → Prop} :
    RefsIn refsOfRowH Q (extReplacedGroupH g) := by
  unfold extReplacedGroupH
  refine .ite .fail ?_
  split
  · exact .fail
  · exact .emit_one (plain_apply _)

theorem refs_extAddedGroupH (g : CType × List Str) {Q : RefKind × Str → Prop} :
    RefsIn refsOfRowH Q (extAddedGroupH g) := by
  unfold extAddedGroupH
  split
  · exact .fail
  · exact .emit_one (plain_apply _)

/-- `_huawei_then_extcommunity` collects its rows before it yields the first of them -/
theorem gen_thenExtH (cl : List CommList) (c : CommAct) {Q : RefKind × Str → Prop} : GenH Q False (thenExtH cl c) := by
  unfold thenExtH
  refine .ite .fail (.allOrNothing (.seq ?_ (.ite ?_ .emit_nil)))
  · split
    · refine .ite .fail (.ite .fail ?_)
      split
      · exact .fail
      · exact .seqAll_map fun g _ => refs_extReplacedGroupH g
    · exact .emit_nil
  · split
    · exact .fail
    · exact .seqAll_map fun g _ => refs_extAddedGroupH g

theorem gen_thenAsPathH (p : AsPathAct) {Q : RefKind × Str → Prop} : GenH Q False (thenAsPathH p) := by
  unfold thenAsPathH
  refine .after_check (.after_check (.seq ?_
    (.seq (.ite (.emit_one (plain_apply_aspath _)) .emit_nil) (.emit_map fun _ _ => plain_apply_aspath _))))
  split
  · exact .ite .fail (.ite (.emit_one (plain_apply _)) (.emit_one (plain_apply _)))
  · exact .emit_nil

theorem gen_thenGenericH (a : Action) {Q : RefKind × Str → Prop} : GenH Q False (thenGenericH a) := by
  unfold thenGenericH
  refine .ite .fail ?_
  split
  · exact .fail
  · refine .ite ?_ (.emit_one (plain_apply _))
    split
    · exact .emit_one (plain_apply _)
    · exact .fail

theorem gen_thenNextHopRowsH (n : NextHop) {Q : RefKind × Str → Prop} : GenH Q False (thenNextHopRowsH n) := by
  unfold thenNextHopRowsH
  exact .ite (.emit_one (plain_apply _)) (.ite .emit_nil (.ite .emit_nil (.ite (.emit_one (plain_apply _))
    (.ite (.emit_one (plain_apply _)) (.ite (.emit_one (plain_apply _)) .fail)))))

/-- `apply comm-filter N delete` for the removed lists is the only reference `_huawei_then_community` makes -/
theorem gen_thenCommunityH (cl : List CommList) (c : CommAct) {Q : RefKind × Str → Prop}
    (hq : ∀ n ∈ c.removed, Q (.communityFilter, n)) : GenH Q (Unknown cl c) (thenCommunityH cl c) := by
  unfold thenCommunityH
  refine .seq ?_ (.seq (.ite ?_ .emit_nil) (.emit_map fun n hn => rowH_head (by decide +kernel) (hq n hn) _))
  · split
    · refine .ite .fail ?_
      split
      · exact .fail
      · exact .ite (.emit_one (plain_apply _)) (.emit_one (plain_apply _))
    · exact .emit_nil
  · split
    next he => exact .fail (unknown_added he)
    · exact .emit_one (plain_apply _)

/-- … and `apply extcommunity-filter rt N delete` the only one of `_huawei_then_extcommunity_rt` -/
theorem gen_thenExtRtH (cl : List CommList) (c : CommAct) {Q : RefKind × Str → Prop}
    (hq : ∀ n ∈ c.removed, Q (.extcommunityFilter, n)) : GenH Q (Unknown cl c) (thenExtRtH cl c) := by
  unfold thenExtRtH
  refine .ite .fail (.ofPart (.seq (.ite ?_ .emit_nil)
    (.emit_map fun n hn => rowH_head (by decide +kernel) (hq n hn) _)))
  split
  next he => exact .fail (unknown_added he)
  · exact .emit_one (plain_apply _)

theorem gen_thenH (cl : List CommList) (a : Action) :
    GenH (ActRef kindH a) (¬ actNamesKnown cl a = true) (thenH cl a) := by
  have hu : ∀ {c}, a.val = .comm c → Unknown cl c → ¬ actNamesKnown cl a = true :=
    fun hv hu hk => hu (actNamesKnown_comm hv hk)
  unfold thenH
  split
  next hf =>
    split
    next c hv =>
      exact (gen_thenCommunityH cl c fun n hn => .intro (by rw [hf]; rfl) rfl hv (mem_names_removed hn)).imp
        (hu hv)
    · exact .fail
  · split
    next c hv => exact (gen_thenLargeH cl c).imp (hu hv)
    · exact .fail
  · split
    · exact (gen_thenExtH cl _).weaken
    · exact .fail
  next hf =>
    split
    next c hv =>
      exact (gen_thenExtRtH cl c fun n hn => .intro (by rw [hf]; rfl) rfl hv (mem_names_removed hn)).imp
        (hu hv)
    · exact .fail
  · split
    · exact (gen_thenExtSooH cl _).weaken
    · exact .fail
  · split
    · exact .fail
    · exact .ite (.emit_one (plain_apply _)) (.ite (.emit_one (plain_apply _)) .fail)
  · split
    · exact (gen_thenAsPathH _).weaken
    · exact .fail
  · split
    · exact (gen_thenNextHopRowsH _).weaken
    · exact .fail
  · exact (gen_thenGenericH a).weaken

theorem refs_bodyH (inp : Input) (st : Stmt) :
    RefsIn refsOfRowH (fun r => (∃ c ∈ st.conds, CondRefH inp c r) ∨ (∃ a ∈ st.acts, ActRef kindH a r))
      ((seqAll (st.conds.map (matchH inp))).seq ((seqAll (st.acts.map (thenH inp.clists))).seq
        (if st.result == .next then emit [[s "goto next-node"]] else emit []))) :=
  refsIn_stmtBody (fun c => (gen_matchH inp c).rows) (fun a => (gen_thenH _ a).rows)
    (fun _ => .ite (.emit_one (plainH (by decide +kernel) [])) .emit_nil) st

theorem origin_refsH (inp : Input) (r : RefKind × Str) (h : r ∈ refsH (runPolicyH inp).1) :
    Origin inp (CondRefH inp) (ActRef kindH) r := by
  refine origin_of_blocks (fun p st => ?_) r h
  unfold statementH
  split
  · exact .fail
  · split
    · exact .fail
    · exact refsIn_inBlock (refs_bodyH inp st)

/-- the statement names the community list `n` (in a community-like condition or action) -/
def StmtUsesComm (st : Stmt) (n : Str) : Prop :=
  (∃ c ∈ st.conds, c.field ∈ commMatchFields ∧ ∃ l, c.val = .names l ∧ n ∈ l) ∨
  (∃ a ∈ st.acts, a.field ∈ commThenFields ∧ ∃ ca, a.val = .comm ca ∧ n ∈ CommAct.names ca)

theorem stmtCommNames_mem (st : Stmt) (ns : List Str) (h : stmtCommNames st = some ns) (n : Str)
    (hu : StmtUsesComm st n) : n ∈ ns := by
  unfold stmtCommNames at h
  split at h
  next m t hm ht =>
    cases h
    rcases hu with ⟨c, hc, hf, l, hv, hn⟩ | ⟨a, ha, hf, ca, hv, hn⟩
    · obtain ⟨y, hy, hfy⟩ := (List.mem_mapM_some hm).2 c
        (List.mem_flatMap.mpr ⟨c.field, hf, List.mem_filter.mpr ⟨hc, beq_self_eq_true _⟩⟩)
      rw [condNameRefs, hv] at hfy
      cases hfy
      exact List.mem_append_left _ (List.mem_flatten.mpr ⟨l, hy, hn⟩)
    · obtain ⟨y, hy, hfy⟩ := (List.mem_mapM_some ht).2 a
        (List.mem_flatMap.mpr ⟨a.field, hf, List.mem_filter.mpr ⟨ha, beq_self_eq_true _⟩⟩)
      rw [actNameRefs, hv] at hfy
      cases hfy
      exact List.mem_append_right _ (List.mem_flatten.mpr ⟨_, hy, hn⟩)
  · cases h

theorem usedCommunityLists_mem (inp : Input) (ls : List CommList) (h : usedCommunityLists inp = .ok ls)
    (p : Policy) (hp : p ∈ inp.policies) (st : Stmt) (hst : st ∈ p.stmts) (n : Str) (hu : StmtUsesComm st n) :
    ∃ c ∈ ls, getComm inp.clists n = some c := by
  unfold usedCommunityLists at h
  split at h
  · cases h
  next nss hnss =>
    obtain ⟨ns, hns, hf⟩ := (List.mem_mapM_some hnss).2 st (List.mem_flatMap.mpr ⟨p, hp, hst⟩)
    exact lookupNames_ok _ _ _ h n
      ((mem_sortedSet _ _).2 (List.mem_flatten.mpr ⟨ns, hns, stmtCommNames_mem st ns hf n hu⟩))

theorem commFilterRowH_def (i : Nat) (c : CommList) (m : Str) (l : Line) (h : commFilterRowH i c m = .ok l)
    (k : RefKind) (hk : kindH c.type = some k) : (k, c.name) ∈ defsOfRowH l.toks := by
  unfold commFilterRowH at h
  cases ht : c.type <;> rw [ht] at h hk <;> cases h <;> cases hk <;>
    simp only [defsOfRowH, named, s_beq, String.reduceBEq, Bool.false_eq_true, ↓reduceIte, List.tail_cons,
      List.head?_cons, List.mem_singleton]

theorem commListH_defs (c : CommList) (hok : (commListH c).2 = none) (hne : c.members ≠ []) (k : RefKind)
    (hk : kindH c.type = some k) : (k, c.name) ∈ defsH (commListH c).1 := by
  -- one row of the list: the only one (AND), or that of the first member (OR)
  suffices h : ∃ i m l, commFilterRowH i c m = .ok l ∧ l ∈ (commListH c).1 from
    let ⟨i, m, l, hl, hmem⟩ := h
    List.mem_flatMap.mpr ⟨l, hmem, commFilterRowH_def i c m l hl k hk⟩
  unfold commListH at hok ⊢
  split at hok
  · cases hok
  next hrx =>
    rw [if_neg hrx]
    cases hl : c.logic <;> simp only [hl] at hok ⊢
    · obtain ⟨l, hl1, hl2⟩ := ofExcept_single_ok _ hok
      exact ⟨_, _, l, hl1, hl2⟩
    · obtain ⟨m0, hz⟩ := enum_head (l := if c.type == .rt then c.members.map (s "rt " ++ ·) else c.members)
        (by split <;> simpa using hne)
      obtain ⟨h0, hsub⟩ := seqAll_map_ok hok hz
      obtain ⟨l, hl1, hl2⟩ := ofExcept_single_ok _ h0
      exact ⟨_, _, l, hl1, hsub l hl2⟩

theorem community_defined_H (inp : Input) (hok : (runCommunityH inp).2 = none) (hne : ∀ c ∈ inp.clists, c.members ≠ [])
    (p : Policy) (hp : p ∈ inp.policies) (st : Stmt) (hst : st ∈ p.stmts) (n : Str) (hu : StmtUsesComm st n)
    (t : CType) (k : RefKind) (hk : kindH t = some k) (c : CommList) (hc : getComm inp.clists n = some c)
    (hct : c.type = t) : (k, n) ∈ defsH (runCommunityH inp).1 := by
  unfold runCommunityH at hok ⊢
  split at hok
  · cases hok
  next ls hls =>
    obtain ⟨c', hc', hg⟩ := usedCommunityLists_mem inp ls hls p hp st hst n hu
    cases hc.symm.trans hg
    obtain ⟨hcok, hsub⟩ := seqAll_map_ok hok hc'
    exact mem_flatMap_mono (getComm_name _ _ _ hc ▸ commListH_defs c hcok (hne c (getComm_mem _ _ _ hc)) k (hct ▸ hk)) hsub

theorem aspath_defined_H (inp : Input) (hok : (runAsPathH inp).2 = none) (p : Policy) (hp : p ∈ inp.policies)
    (st : Stmt) (hst : st ∈ p.stmts) (c : Cond) (hc : c ∈ st.conds) (hf : c.field = .asPathFilter) (v : Str)
    (hv : c.val = .scalar v) : (RefKind.asPathFilter, v) ∈ defsH (runAsPathH inp).1 := by
  unfold runAsPathH at hok ⊢
  split at hok
  · cases hok
  next fs hfs =>
    obtain ⟨f, hfm, rfl⟩ := usedAsPath_mem hfs hp hst hc hf hv
    refine List.mem_flatMap.mpr ⟨_, List.mem_map.mpr ⟨f, hfm, rfl⟩, ?_⟩
    simp only [defsOfRowH, named, s_beq, String.reduceBEq, Bool.false_eq_true, ↓reduceIte, List.head?_cons,
      List.mem_singleton]

theorem rd_defined_H (inp : Input) (hok : (runRdH inp).2 = none) (hne : ∀ f ∈ inp.rds, f.members ≠ [])
    (p : Policy) (hp : p ∈ inp.policies) (st : Stmt) (hst : st ∈ p.stmts) (c : Cond) (hc : c ∈ st.conds)
    (hf : c.field = .rd) (l : List Str) (hv : c.val = .names l) (nm : Str) (hnm : nm ∈ l) (f : RdFilter)
    (hg : getRd inp.rds nm = some f) : (RefKind.rdFilter, f.number) ∈ defsH (runRdH inp).1 := by
  unfold runRdH at hok ⊢
  split at hok
  · cases hok
  next fs hfs =>
    unfold usedRd at hfs
    split at hfs
    · cases hfs
    next nss hnss =>
      obtain ⟨y, hy, hfy⟩ := (List.mem_mapM_some hnss).2 c (List.mem_flatMap.mpr
        ⟨st, List.mem_flatMap.mpr ⟨p, hp, hst⟩, List.mem_filter.mpr ⟨hc, by rw [hf]; rfl⟩⟩)
      rw [condNameRefs, hv] at hfy
      cases hfy
      obtain ⟨f', hfm, hg'⟩ := lookupNames_ok _ _ _ hfs nm
        ((mem_sortedSet _ _).2 (List.mem_flatten.mpr ⟨l, hy, hnm⟩))
      cases hg.symm.trans hg'
      -- the row of the first member
      obtain ⟨m0, hz⟩ := enum_head (hne f (findLast_some _ _ _ hg).1)
      refine List.mem_flatMap.mpr ⟨_, List.mem_flatMap.mpr ⟨f, hfm, List.mem_map.mpr ⟨(0, m0), hz, rfl⟩⟩, ?_⟩
      simp only [defsOfRowH, named, s_beq, String.reduceBEq, Bool.false_eq_true, ↓reduceIte, List.head?_cons,
        List.mem_singleton]

theorem prefixRowsH_defines (ptype : Str) (hp : ptype = s "ip-prefix" ∨ ptype = s "ipv6-prefix") (pl : PrefixList)
    (hne : pl.members ≠ []) : (RefKind.prefixList, pl.name) ∈ defsH (prefixRowsH ptype pl) := by
  obtain ⟨m0, hz⟩ := enum_head hne
  refine List.mem_flatMap.mpr ⟨_, List.mem_map.mpr ⟨(0, m0), hz, rfl⟩, ?_⟩
  rcases hp with rfl | rfl <;>
    simp only [defsOfRowH, named, s_beq, String.reduceBEq, Bool.false_eq_true, ↓reduceIte, Bool.or_true, Bool.or_false,
      List.cons_append, List.nil_append, List.head?_cons, List.mem_singleton]

end Annet.Rpl.Lemmas
