/-
The text view `formatter.diff` of a diff (C03, last clause).  The lenient line reader is the strict one with the block-end
lines dropped, so the lines are read once, by the strict reader; `flatList` lists an entry forest in preorder and the
recursive-descent `build` inverts it.  The strict reader reads the text back too: the block-end lines `_diff_lines` prints
are exactly where the bracket discipline expects them, with the sign of the block's entry.
-/
import AnnetModel.Spec.DiffText
import AnnetModel.Spec.DiffTextStrict
import AnnetModel.Spec.DiffTextFormats

namespace Annet.DiffText
open Annet.Diff

theorem ofChar_char (s : Sign) : Sign.ofChar s.char = some s := by cases s <;> rfl

theorem le_rep_length (ind : Txt) (hi : ind ≠ []) : ∀ lvl, lvl ≤ (rep lvl ind).length
  | 0 => Nat.zero_le _
  | n + 1 => by
    have := le_rep_length ind hi n
    have h1 : 0 < ind.length := List.length_pos_iff.mpr hi
    simp only [rep, List.length_append]
    omega

theorem stripIndentAux_rep (ind body : Txt) (hi : ind ≠ []) (hb : ¬ ind <+: body) :
    ∀ lvl fuel, lvl ≤ fuel → stripIndentAux ind fuel (rep lvl ind ++ body) = (lvl, body)
  | 0, 0, _ => by simp [rep, stripIndentAux]
  | 0, fuel + 1, _ => by
    have : ind.isPrefixOf body = false := by
      rw [Bool.eq_false_iff]; intro h; exact hb (List.isPrefixOf_iff_prefix.mp h)
    simp [rep, stripIndentAux, this]
  | lvl + 1, 0, h => by omega
  | lvl + 1, fuel + 1, h => by
    have ih := stripIndentAux_rep ind body hi hb lvl fuel (by omega)
    have hp : ind.isPrefixOf (ind ++ (rep lvl ind ++ body)) = true := by
      simp [List.isPrefixOf_iff_prefix]
    have he : ind.isEmpty = false := by simpa using hi
    simp only [rep, List.append_assoc, stripIndentAux, hp, he, Bool.not_false, Bool.and_self, if_true,
      List.drop_left, ih]

theorem stripIndent_rep (ind body : Txt) (hi : ind ≠ []) (hb : ¬ ind <+: body) (lvl : Nat) :
    stripIndent ind (rep lvl ind ++ body) = (lvl, body) := by
  unfold stripIndent
  apply stripIndentAux_rep ind body hi hb
  have := le_rep_length ind hi lvl
  simp only [List.length_append]
  omega

theorem readLineS_row (f : Fmt) (hf : FmtOK f) (s : Sign) (lvl : Nat) (row : Txt) (b : Bool)
    (h : RowOK f b row) :
    readLineS f (fline f s lvl (row ++ suffixOf f b)) = some (.entry ⟨s, lvl, row⟩) := by
  obtain ⟨h1, h2, h3⟩ := h
  simp only [fline, readLineS, ofChar_char, stripIndent_rep f.indent _ hf.1 h1 lvl, h3]
  by_cases he : f.blockEnd = []
  · simp [he]
  · have := h2 he
    simp [this]

theorem readLineS_closing (f : Fmt) (hf : FmtOK f) (s : Sign) (lvl : Nat) (hne : f.blockEnd ≠ []) :
    readLineS f (fline f s lvl f.blockEnd) = some (.close s lvl) := by
  simp only [fline, readLineS, ofChar_char, stripIndent_rep f.indent _ hf.1 hf.2 lvl]
  simp [hne]

theorem read_append {β : Type} {one : Txt → Option β} {R : List Txt → Option (List β)} (hnil : R [] = some [])
    (hcons : ∀ l rest, R (l :: rest) = (one l).bind fun p => (R rest).map (p :: ·)) :
    ∀ {a b : List Txt} {x y : List β}, R a = some x → R b = some y → R (a ++ b) = some (x ++ y)
  | [], b, x, y, ha, hb => by
    rw [hnil] at ha
    cases ha
    exact hb
  | l :: a, b, x, y, ha, hb => by
    rw [hcons] at ha
    rw [List.cons_append, hcons]
    cases hp : one l with
    | none => rw [hp] at ha; cases ha
    | some p =>
      cases hps : R a with
      | none => rw [hp, hps] at ha; cases ha
      | some ps =>
        rw [hp, hps] at ha
        cases ha
        rw [read_append hnil hcons hps hb]
        rfl

theorem readLinesS_append {f : Fmt} {a b : List Txt} {x y : List RLine} :
    readLinesS f a = some x → readLinesS f b = some y → readLinesS f (a ++ b) = some (x ++ y) :=
  read_append (one := readLineS f) (by rw [readLinesS])
    (fun l rest => by rw [readLinesS]; cases readLineS f l <;> cases readLinesS f rest <;> rfl)

def RLine.entry? : RLine → Option PLine
  | .entry p => some p
  | .close _ _ => none

theorem readLine_eq (f : Fmt) : ∀ t : Txt, readLine f t = (readLineS f t).map RLine.entry?
  | [] => rfl
  | [_] => rfl
  | c :: _ :: rest => by
    simp only [readLine, readLineS]
    cases Sign.ofChar c with
    | none => rfl
    | some s => dsimp only; split <;> rfl

theorem readLines_eq (f : Fmt) : ∀ ls : List Txt,
    readLines f ls = (readLinesS f ls).map (List.filterMap RLine.entry?)
  | [] => rfl
  | l :: rest => by
    rw [readLines, readLinesS, readLine_eq, readLines_eq f rest]
    cases readLineS f l with
    | none => rfl
    | some r => cases readLinesS f rest <;> cases r <;> rfl

mutual
  def flatItem (lvl : Nat) : SItem → List PLine
    | .mk s row ch => ⟨s, lvl, row⟩ :: flatList (lvl + 1) ch
  def flatList (lvl : Nat) : List SItem → List PLine
    | [] => []
    | i :: rest => flatItem lvl i ++ flatList lvl rest
end

theorem flatList_append (lvl : Nat) : ∀ (a b : List SItem), flatList lvl (a ++ b) = flatList lvl a ++ flatList lvl b
  | [], b => by simp [flatList]
  | i :: a, b => by simp [flatList, flatList_append lvl a b]

def closeS (he : Bool) (s : Sign) (lvl : Nat) (ch : List SItem) : List RLine :=
  if he && !ch.isEmpty then [.close s lvl] else []

mutual
  def flatSItem (he : Bool) (lvl : Nat) : SItem → List RLine
    | .mk s row ch => .entry ⟨s, lvl, row⟩ :: (flatSList he (lvl + 1) ch ++ closeS he s lvl ch)
  def flatSList (he : Bool) (lvl : Nat) : List SItem → List RLine
    | [] => []
    | i :: rest => flatSItem he lvl i ++ flatSList he lvl rest
end

mutual
  theorem flatSItem_entries (he : Bool) : ∀ (lvl : Nat) (i : SItem),
      (flatSItem he lvl i).filterMap RLine.entry? = flatItem lvl i
    | lvl, .mk s row ch => by
      have hc : (closeS he s lvl ch).filterMap RLine.entry? = [] := by unfold closeS; split <;> rfl
      rw [flatSItem, flatItem]
      show (⟨s, lvl, row⟩ : PLine) :: List.filterMap RLine.entry? (flatSList he (lvl + 1) ch ++ closeS he s lvl ch) = _
      rw [List.filterMap_append, flatSList_entries he (lvl + 1) ch, hc, List.append_nil]
  theorem flatSList_entries (he : Bool) : ∀ (lvl : Nat) (l : List SItem),
      (flatSList he lvl l).filterMap RLine.entry? = flatList lvl l
    | lvl, [] => by rw [flatSList, flatList]; rfl
    | lvl, i :: rest => by
      rw [flatSList, flatList, List.filterMap_append, flatSItem_entries he lvl i, flatSList_entries he lvl rest]
end

mutual
  theorem readLinesS_linesItem (f : Fmt) (hf : FmtOK f) :
      ∀ (lvl : Nat) (i : SItem), RowsOKItem f i →
        readLinesS f (linesItem f lvl i) = some (flatSItem (!f.blockEnd.isEmpty) lvl i)
    | lvl, .mk s row [], h => by
      simp only [RowsOKItem] at h
      have := readLineS_row f hf s lvl row false (by simpa using h.1)
      simp only [suffixOf, Bool.false_eq_true, if_false] at this
      simp [linesItem, flatSItem, flatSList, closeS, readLinesS, this]
    | lvl, .mk s row (c :: cs), h => by
      simp only [RowsOKItem] at h
      have ih := readLinesS_linesList f hf (lvl + 1) (c :: cs) h.2
      have h1 := readLineS_row f hf s lvl row true (by simpa using h.1)
      simp only [suffixOf, if_true] at h1
      have hc : readLinesS f (closing f s lvl) = some (closeS (!f.blockEnd.isEmpty) s lvl (c :: cs)) := by
        unfold closing closeS
        by_cases he : f.blockEnd = []
        · simp [he, readLinesS]
        · have := readLineS_closing f hf s lvl he
          simp [he, readLinesS, this]
      have := readLinesS_append ih hc
      simp only [linesItem, flatSItem, readLinesS, h1, this]
  theorem readLinesS_linesList (f : Fmt) (hf : FmtOK f) :
      ∀ (lvl : Nat) (l : List SItem), RowsOK f l →
        readLinesS f (linesList f lvl l) = some (flatSList (!f.blockEnd.isEmpty) lvl l)
    | lvl, [], _ => by simp [linesList, flatSList, readLinesS]
    | lvl, i :: rest, h => by
      simp only [RowsOK] at h
      have h1 := readLinesS_linesItem f hf lvl i h.1
      have h2 := readLinesS_linesList f hf lvl rest h.2
      simp only [linesList, flatSList]
      exact readLinesS_append h1 h2
end

theorem readLines_linesItem (f : Fmt) (hf : FmtOK f) :
    ∀ (lvl : Nat) (i : SItem), RowsOKItem f i → readLines f (linesItem f lvl i) = some (flatItem lvl i) :=
  fun lvl i h => by rw [readLines_eq, readLinesS_linesItem f hf lvl i h, Option.map_some, flatSItem_entries]

theorem readLines_linesList (f : Fmt) (hf : FmtOK f) :
    ∀ (lvl : Nat) (l : List SItem), RowsOK f l → readLines f (linesList f lvl l) = some (flatList lvl l) :=
  fun lvl l h => by rw [readLines_eq, readLinesS_linesList f hf lvl l h, Option.map_some, flatSList_entries]

/-- the lines after a forest at level `lvl`: nothing, or a line that is less deep -/
def Stop (lvl : Nat) (rest : List PLine) : Prop := ∀ l, rest.head? = some l → l.lvl < lvl

theorem build_stop {lvl : Nat} {rest : List PLine} (h : Stop lvl rest) (fuel : Nat) :
    build fuel lvl rest = ([], rest) := by
  cases fuel with
  | zero => simp [build]
  | succ n =>
    cases rest with
    | nil => simp [build]
    | cons l ls =>
      have := h l (by simp)
      simp [build, this]

theorem stop_nil (lvl : Nat) : Stop lvl [] := by intro l h; simp at h

theorem stop_flat {lvl : Nat} {rest : List PLine} (h : Stop lvl rest) :
    ∀ (l : List SItem), Stop (lvl + 1) (flatList lvl l ++ rest)
  | [] => by
    intro x hx
    have := h x (by simpa [flatList] using hx)
    omega
  | .mk s row ch :: l' => by
    intro x hx
    simp [flatList, flatItem] at hx
    subst hx
    simp

theorem flatItem_length_pos (lvl : Nat) (i : SItem) : 0 < (flatItem lvl i).length := by
  cases i; simp [flatItem]

mutual
  theorem build_flatItem : ∀ (i : SItem) (lvl fuel : Nat) (tail : List PLine),
      (flatItem lvl i ++ tail).length ≤ fuel → Stop (lvl + 1) tail →
      build (fuel + 1) lvl (flatItem lvl i ++ tail) = (i :: (build fuel lvl tail).1, (build fuel lvl tail).2)
    | .mk s row ch, lvl, fuel, tail, hl, hs => by
      simp only [flatItem, List.cons_append, List.length_cons] at hl
      have ih := build_flatList ch (lvl + 1) fuel tail (by omega) hs
      simp [flatItem, build, ih]
  theorem build_flatList : ∀ (l : List SItem) (lvl fuel : Nat) (rest : List PLine),
      (flatList lvl l ++ rest).length < fuel → Stop lvl rest →
      build fuel lvl (flatList lvl l ++ rest) = (l, rest)
    | [], lvl, fuel, rest, _, hs => by simpa [flatList] using build_stop hs fuel
    | i :: l', lvl, 0, rest, hl, hs => by omega
    | i :: l', lvl, fuel + 1, rest, hl, hs => by
      simp only [flatList, List.append_assoc] at hl ⊢
      have hp := flatItem_length_pos lvl i
      have h1 := build_flatItem i lvl fuel (flatList lvl l' ++ rest) (by omega) (stop_flat hs l')
      have h2 := build_flatList l' lvl fuel rest (by
        simp only [List.length_append] at hl ⊢; omega) hs
      rw [h1, h2]
end

theorem build_flat (l : List SItem) : (build ((flatList 0 l).length + 1) 0 (flatList 0 l)).1 = l := by
  have := build_flatList l 0 ((flatList 0 l).length + 1) [] (by simp) (stop_nil 0)
  simp only [List.append_nil] at this
  rw [this]

theorem diff_text_roundtrip (f : Fmt) (d : List SItem) (hf : FmtOK f) (hd : RowsOK f d) :
    parseSigned f (diffText f d) = some d := by
  simp only [parseSigned, diffText, readLines_linesList f hf 0 d hd, build_flat]

theorem diff_text_injective (f : Fmt) (d1 d2 : List SItem) (hf : FmtOK f)
    (h1 : RowsOK f d1) (h2 : RowsOK f d2) (h : diffText f d1 = diffText f d2) : d1 = d2 := by
  have e1 := diff_text_roundtrip f d1 hf h1
  have e2 := diff_text_roundtrip f d2 hf h2
  rw [h, e2] at e1
  exact (Option.some.inj e1).symm

mutual
  theorem signedItem_stripItem : ∀ i : DItem, i.op ≠ .unchanged → ∃ x, signedItem (stripItem i) = some x
    | .mk op row ch m, h => by
      obtain ⟨cs, hcs⟩ := signedList_stripUnchanged ch
      simp only [DItem.op] at h
      cases op <;> simp [stripItem, signedItem, signOfOp, hcs] at h ⊢
  theorem signedList_stripUnchanged : ∀ d : List DItem, ∃ s, signedList (stripUnchanged d) = some s
    | [] => ⟨[], by simp [stripUnchanged, signedList]⟩
    | i :: rest => by
      obtain ⟨xs, hxs⟩ := signedList_stripUnchanged rest
      by_cases h : i.op = .unchanged
      · exact ⟨xs, by simp [stripUnchanged, h, hxs]⟩
      · obtain ⟨x, hx⟩ := signedItem_stripItem i h
        exact ⟨x :: xs, by simp [stripUnchanged, h, signedList, hx, hxs]⟩
end

/-- formatters without marks (Huawei, Cisco, Arista, Nexus, B4com, ...): a row only has to not begin with the indent unit -/
theorem rowOK_plain (ind row : Txt) (b : Bool) (h : ¬ ind <+: row) :
    RowOK ⟨ind, [], [], []⟩ b row := by
  refine ⟨?_, ?_, ?_⟩
  · simpa [suffixOf] using h
  · intro hne; exact absurd rfl hne
  · simp [suffixOf, stripBody, stripSuffix]

theorem fmtOK_junos : FmtOK junosFmt := by unfold FmtOK; decide +kernel

theorem fmtOK_plain : FmtOK plainFmt := by unfold FmtOK; decide +kernel

/-- under the Junos-like formatter the only thing that can go wrong is a printed body that begins with the
indent unit: the block-end test and the suffix stripping never fail (rows ending in `;` or ` {` included,
since the reader strips at most one mark, the one the printer appended) -/
theorem rowOK_junos_iff (b : Bool) (row : Txt) :
    RowOK junosFmt b row ↔ ¬ junosFmt.indent <+: row ++ suffixOf junosFmt b := by
  constructor
  · exact fun h => h.1
  · intro h
    refine ⟨h, ?_, ?_⟩
    · intro _ he
      have := congrArg List.getLast? he
      cases b <;> simp [junosFmt, suffixOf] at this
    · cases b
      · have h1 : stripSuffix junosFmt.blockBegin (row ++ junosFmt.stmtEnd) = none := by
          simp [stripSuffix, junosFmt, List.isSuffixOf, List.isPrefixOf]
        have h2 : stripSuffix junosFmt.stmtEnd (row ++ junosFmt.stmtEnd) = some row := by
          simp [stripSuffix, junosFmt]
        simp [stripBody, suffixOf, h1, h2]
      · have h1 : stripSuffix junosFmt.blockBegin (row ++ junosFmt.blockBegin) = some row := by
          simp [stripSuffix, junosFmt]
        simp [stripBody, suffixOf, h1]

theorem rowOK_junos (b : Bool) (row : Txt) (h : row.head? ≠ some ' ') : RowOK junosFmt b row := by
  rw [rowOK_junos_iff]
  cases row with
  | nil => cases b <;> simp [junosFmt, suffixOf]
  | cons c t =>
    have hc : c ≠ ' ' := by simpa using h
    simp [junosFmt, List.cons_prefix_cons, Ne.symm hc]

mutual
  theorem rowsOKItem_of_noLeadBlank {f : Fmt} (hf : ∀ b row, row.head? ≠ some ' ' → RowOK f b row) :
      ∀ i : SItem, NoLeadBlankItem i → RowsOKItem f i
    | .mk _ row ch, h => by
      rw [NoLeadBlankItem] at h
      rw [RowsOKItem]
      exact ⟨hf _ row h.1, rowsOK_of_noLeadBlank hf ch h.2⟩
  theorem rowsOK_of_noLeadBlank {f : Fmt} (hf : ∀ b row, row.head? ≠ some ' ' → RowOK f b row) :
      ∀ d : List SItem, NoLeadBlank d → RowsOK f d
    | [], _ => by rw [RowsOK]; trivial
    | i :: rest, h => by
      rw [NoLeadBlank] at h
      rw [RowsOK]
      exact ⟨rowsOKItem_of_noLeadBlank hf i h.1, rowsOK_of_noLeadBlank hf rest h.2⟩
end

theorem rowOK_plain_of_head (b : Bool) (row : Txt) (h : row.head? ≠ some ' ') : RowOK plainFmt b row := by
  refine rowOK_plain _ row _ ?_
  cases row with
  | nil => simp
  | cons c t =>
    have hc : c ≠ ' ' := by simpa using h
    simp [List.cons_prefix_cons, Ne.symm hc]

theorem rowsOKItem_junos : ∀ i : SItem, NoLeadBlankItem i → RowsOKItem junosFmt i :=
  rowsOKItem_of_noLeadBlank rowOK_junos

theorem rowsOK_junos : ∀ d : List SItem, NoLeadBlank d → RowsOK junosFmt d :=
  rowsOK_of_noLeadBlank rowOK_junos

theorem rowsOKItem_plain : ∀ i : SItem, NoLeadBlankItem i → RowsOKItem plainFmt i :=
  rowsOKItem_of_noLeadBlank rowOK_plain_of_head

theorem rowsOK_plain : ∀ d : List SItem, NoLeadBlank d → RowsOK plainFmt d :=
  rowsOK_of_noLeadBlank rowOK_plain_of_head

/-- depth 3, seven entries, all four signs; rows containing blanks, `/`, a trailing `;` and a trailing ` {` -/
def exForest : List SItem :=
  [ .mk .space "interfaces".toList
      [ .mk .space "ge-0/0/0".toList [ .mk .minus "mtu 1500".toList [], .mk .plus "mtu 9000".toList [] ],
        .mk .gt "lo0".toList [ .mk .plus "unit 0 {".toList [] ] ],
    .mk .minus "system;".toList [] ]

theorem exForest_noLeadBlank : NoLeadBlank exForest := by
  simp [exForest, NoLeadBlank, NoLeadBlankItem]

example : FmtOK junosFmt ∧ RowsOK junosFmt exForest :=
  ⟨fmtOK_junos, rowsOK_junos _ exForest_noLeadBlank⟩

/-- the same without the corollary: `RowOK` is decidable row by row -/
example : RowsOK junosFmt exForest := by
  simp only [exForest, RowsOK, RowsOKItem, RowOK, and_true]
  decide +kernel

example : FmtOK plainFmt ∧ RowsOK plainFmt exForest :=
  ⟨fmtOK_plain, rowsOK_plain _ exForest_noLeadBlank⟩

example : NoLeadBlank exForest := exForest_noLeadBlank

example : diffText junosFmt exForest =
    [ "  interfaces {".toList,
      "      ge-0/0/0 {".toList,
      "-         mtu 1500;".toList,
      "+         mtu 9000;".toList,
      "      }".toList,
      ">     lo0 {".toList,
      "+         unit 0 {;".toList,
      ">     }".toList,
      "  }".toList,
      "- system;;".toList ] := by decide +kernel

example : parseSigned junosFmt (diffText junosFmt exForest) = some exForest :=
  diff_text_roundtrip junosFmt exForest fmtOK_junos (rowsOK_junos _ exForest_noLeadBlank)

example : parseSigned plainFmt (diffText plainFmt exForest) = some exForest :=
  diff_text_roundtrip plainFmt exForest fmtOK_plain (rowsOK_plain _ exForest_noLeadBlank)

/-- the hypothesis `RowOK` is not void: a row that begins with the indent unit is read one level too deep -/
example : ¬ RowOK plainFmt false "  x".toList := by
  simp only [RowOK]; decide +kernel

example : parseSigned plainFmt (diffText plainFmt [.mk .plus "a".toList [], .mk .plus "  x".toList []]) =
    some [.mk .plus "a".toList [.mk .plus "x".toList []]] := by rfl

def StopS (lvl : Nat) (rest : List RLine) : Prop := ∀ l, rest.head? = some l → l.level < lvl

theorem buildS_stop (he : Bool) {lvl : Nat} {rest : List RLine} (h : StopS lvl rest) (fuel : Nat) :
    buildS he (fuel + 1) lvl rest = some ([], rest) := by
  cases rest with
  | nil => simp [buildS]
  | cons l ls =>
    have := h l (by simp)
    cases l with
    | entry p => simp only [RLine.level] at this; simp [buildS, this]
    | close s l => simp only [RLine.level] at this; simp [buildS, this]

theorem stopS_nil (lvl : Nat) : StopS lvl [] := by intro l h; simp at h

theorem stopS_flat (he : Bool) {lvl : Nat} {rest : List RLine} (h : StopS lvl rest) :
    ∀ (l : List SItem), StopS (lvl + 1) (flatSList he lvl l ++ rest)
  | [] => by
    intro x hx
    have := h x (by simpa [flatSList] using hx)
    omega
  | .mk s row ch :: l' => by
    intro x hx
    simp [flatSList, flatSItem] at hx
    subst hx
    simp [RLine.level]

theorem stopS_close (he : Bool) (s : Sign) {lvl : Nat} (ch : List SItem) {tail : List RLine}
    (h : StopS (lvl + 1) tail) : StopS (lvl + 1) (closeS he s lvl ch ++ tail) := by
  unfold closeS
  split
  · intro x hx
    simp at hx
    subst hx
    simp [RLine.level]
  · simpa using h

theorem takeClose_closeS (he : Bool) (s : Sign) (lvl : Nat) (ch : List SItem) (tail : List RLine) :
    takeClose he s lvl ch (closeS he s lvl ch ++ tail) = some tail := by
  unfold takeClose closeS
  split <;> simp

theorem flatSItem_length_pos (he : Bool) (lvl : Nat) (i : SItem) : 0 < (flatSItem he lvl i).length := by
  cases i; simp [flatSItem]

mutual
  theorem buildS_flatItem (he : Bool) : ∀ (i : SItem) (lvl fuel : Nat) (tail : List RLine)
      (sibs : List SItem) (r : List RLine),
      (flatSItem he lvl i ++ tail).length ≤ fuel → StopS (lvl + 1) tail →
      buildS he fuel lvl tail = some (sibs, r) →
      buildS he (fuel + 1) lvl (flatSItem he lvl i ++ tail) = some (i :: sibs, r)
    | .mk s row ch, lvl, fuel, tail, sibs, r, hl, hs, hb => by
      simp only [flatSItem, List.cons_append, List.length_cons, List.append_assoc] at hl
      have ih := buildS_flatList he ch (lvl + 1) fuel (closeS he s lvl ch ++ tail) (by omega)
        (stopS_close he s ch hs)
      simp [flatSItem, buildS, ih, takeClose_closeS, hb]
  theorem buildS_flatList (he : Bool) : ∀ (l : List SItem) (lvl fuel : Nat) (rest : List RLine),
      (flatSList he lvl l ++ rest).length < fuel → StopS lvl rest →
      buildS he fuel lvl (flatSList he lvl l ++ rest) = some (l, rest)
    | [], lvl, 0, rest, hl, hs => by omega
    | [], lvl, fuel + 1, rest, _, hs => by simpa [flatSList] using buildS_stop he hs fuel
    | i :: l', lvl, 0, rest, hl, hs => by omega
    | i :: l', lvl, fuel + 1, rest, hl, hs => by
      simp only [flatSList, List.append_assoc] at hl ⊢
      have hp := flatSItem_length_pos he lvl i
      have h2 := buildS_flatList he l' lvl fuel rest (by
        simp only [List.length_append] at hl ⊢; omega) hs
      exact buildS_flatItem he i lvl fuel (flatSList he lvl l' ++ rest) l' rest (by
        simp only [List.length_append] at hl ⊢; omega) (stopS_flat he hs l') h2
end

theorem buildS_flat (he : Bool) (l : List SItem) :
    buildS he ((flatSList he 0 l).length + 1) 0 (flatSList he 0 l) = some (l, []) := by
  have := buildS_flatList he l 0 ((flatSList he 0 l).length + 1) [] (by simp) (stopS_nil 0)
  simpa only [List.append_nil] using this

theorem diff_text_roundtrip_strict (f : Fmt) (d : List SItem) (hf : FmtOK f) (hd : RowsOK f d) :
    parseSignedStrict f (diffText f d) = some d := by
  simp only [parseSignedStrict, diffText, readLinesS_linesList f hf 0 d hd, buildS_flat]

def exSmall : List SItem := [ .mk .space "system".toList [ .mk .plus "host-name r1".toList [] ] ]

def exGood : List Txt := [ "  system {".toList, "+     host-name r1;".toList, "  }".toList ]

/-- the same text, the block-end line printed with the sign of the child -/
def exBad : List Txt := [ "  system {".toList, "+     host-name r1;".toList, "+ }".toList ]

private theorem exSmall_text : diffText junosFmt exSmall = exGood := by decide +kernel

private theorem exSmall_rowsOK : RowsOK junosFmt exSmall :=
  rowsOK_junos _ (by simp [exSmall, NoLeadBlank, NoLeadBlankItem])

example : diffText junosFmt exSmall = exGood := exSmall_text

example : parseSignedStrict junosFmt exGood = some exSmall :=
  exSmall_text ▸ diff_text_roundtrip_strict junosFmt exSmall fmtOK_junos exSmall_rowsOK

/-- the lenient reader drops the block-end line and so accepts the text, with the same reading -/
example : (parseSigned junosFmt exBad).isSome = true := by decide +kernel

example : parseSigned junosFmt exBad = some exSmall := by
  have good := exSmall_text ▸ diff_text_roundtrip junosFmt exSmall fmtOK_junos exSmall_rowsOK
  unfold parseSigned at good ⊢
  rwa [show readLines junosFmt exBad = readLines junosFmt exGood by decide +kernel]

example : parseSignedStrict junosFmt exBad = none := by decide +kernel

/-- likewise a block-end line after a leaf, or a missing block-end line -/
example : parseSignedStrict junosFmt [ "+ host-name r1;".toList, "+ }".toList ] = none := by decide +kernel

example : parseSignedStrict junosFmt [ "  system {".toList, "+     host-name r1;".toList ] = none := by
  decide +kernel

example : parseSignedStrict junosFmt (diffText junosFmt exForest) = some exForest :=
  diff_text_roundtrip_strict junosFmt exForest fmtOK_junos (rowsOK_junos _ exForest_noLeadBlank)

end Annet.DiffText
