/-
C14, Arista: one theorem per condition and action generator (`gen_*`), and every named list a policy row refers to is
defined by the matching list generator.
-/
import AnnetModel.Lemmas.RplUnited
import AnnetModel.Spec.RplKeys

namespace Annet.Rpl.Lemmas
open Annet.Rpl.Spec

theorem s_append_ne_of_all {cmd : String} {kws : List String} (h : ∀ kw ∈ kws, kw.startsWith cmd = false) (v : Str) :
    ∀ kw ∈ kws, s cmd ++ v ≠ s kw :=
  fun kw hkw => s_append_ne (h kw hkw) v

/-- the second items of a `match` row after which `refsOfRowA` reads names -/
def matchKwA : List String :=
  ["community", "extcommunity", "large-community", "ip address prefix-list", "ipv6 address prefix-list"]

/-- the second items of a `set` row after which `refsOfRowA` reads names -/
def setKwA : List String := ["community community-list", "large-community large-community-list"]

theorem refsA_match_community (rest : List Str) :
    refsOfRowA (s "match" :: s "community" :: rest) = rest.map (RefKindA.communityList, ·) := by
  simp only [refsOfRowA, s_beq, String.reduceBEq, ↓reduceIte]
theorem refsA_match_ext (rest : List Str) :
    refsOfRowA (s "match" :: s "extcommunity" :: rest) = rest.map (RefKindA.extcommunityList, ·) := by
  simp only [refsOfRowA, s_beq, String.reduceBEq, Bool.false_eq_true, ↓reduceIte]
theorem refsA_match_large (rest : List Str) :
    refsOfRowA (s "match" :: s "large-community" :: rest) = rest.map (RefKindA.largeCommunityList, ·) := by
  simp only [refsOfRowA, s_beq, String.reduceBEq, Bool.false_eq_true, ↓reduceIte]
theorem refsA_match_pfx {kw : String} (h : kw = "ip address prefix-list" ∨ kw = "ipv6 address prefix-list") (n : Str) :
    refsOfRowA [s "match", s kw, n] = [(.prefixList, n)] := by
  rcases h with rfl | rfl <;>
    simp only [refsOfRowA, namedA, s_beq, String.reduceBEq, Bool.false_eq_true, ↓reduceIte, Bool.or_false, Bool.or_true,
      List.head?_cons]

/-- a `match` row whose second item is no list keyword is read as `match as-path N` if it has two items, and refers
to nothing otherwise -/
theorem refsA_match_other (n : Str) (rest : List Str) (h : ∀ kw ∈ matchKwA, n ≠ s kw) :
    refsOfRowA (s "match" :: n :: rest) =
      if rest.isEmpty then namedA .asPathList (dropPrefix (s "as-path ") n) else [] := by
  simp only [matchKwA, List.forall_mem_cons, List.not_mem_nil, false_imp_iff, implies_true, and_true] at h
  obtain ⟨h1, h2, h3, h4, h5⟩ := h
  simp only [refsOfRowA, s_beq, String.reduceBEq, ↓reduceIte, Bool.or_eq_true, beq_iff_eq, h1, h2, h3, h4, h5, or_self]

theorem refsA_match_long (n x : Str) (rest : List Str) (h : ∀ kw ∈ matchKwA, n ≠ s kw) :
    refsOfRowA (s "match" :: n :: x :: rest) = [] :=
  (refsA_match_other n _ h).trans (if_neg Bool.false_ne_true)

/-- the row of an `ARISTA_MATCH_COMMAND_MAP` field refers to a list only for `as_path_filter` -/
theorem refsA_matchCmd {f : MField} {cmd : Str} (h : aristaMatchCmd f = some cmd) (v : Str) :
    refsOfRowA [s "match", cmd ++ v] = if f = .asPathFilter then [(.asPathList, v)] else [] := by
  cases f <;> simp only [aristaMatchCmd, reduceCtorEq, Option.some.injEq] at h <;> subst h <;>
    exact (refsA_match_other _ _ (s_append_ne_of_all (by decide +kernel) _)).trans
      ((if_pos rfl).trans (by rw [dropPrefix_cmd v (by decide +kernel)]; rfl))

theorem stripTrail_concat (kw : Str) (l : List Str) : stripTrail kw (l ++ [kw]) = l := by
  simp [stripTrail]

theorem stripTrail_sub (kw : Str) (l : List Str) : ∀ x ∈ stripTrail kw l, x ∈ l := by
  intro x hx
  unfold stripTrail at hx
  split at hx
  · exact List.dropLast_subset _ hx
  · exact hx

theorem refsA_set_comm (rest : List Str) :
    refsOfRowA (s "set" :: s "community community-list" :: rest) =
      (stripTrail (s "additive") rest).map (RefKindA.communityList, ·) := by
  simp only [refsOfRowA, s_beq, String.reduceBEq, Bool.false_eq_true, ↓reduceIte]
theorem refsA_set_large (rest : List Str) :
    refsOfRowA (s "set" :: s "large-community large-community-list" :: rest) =
      (stripTrail (s "additive") rest).map (RefKindA.largeCommunityList, ·) := by
  simp only [refsOfRowA, s_beq, String.reduceBEq, Bool.false_eq_true, ↓reduceIte]
theorem refsA_setlarge_del (rest : List Str) :
    refsOfRowA (s "set large-community large-community-list" :: rest) =
      (stripTrail (s "delete") rest).map (RefKindA.largeCommunityList, ·) := by
  simp only [refsOfRowA, s_beq, String.reduceBEq, Bool.false_eq_true, ↓reduceIte]

theorem refsA_set_other (n : Str) (rest : List Str) (h : ∀ kw ∈ setKwA, n ≠ s kw) :
    refsOfRowA (s "set" :: n :: rest) = [] := by
  simp only [setKwA, List.forall_mem_cons, List.not_mem_nil, false_imp_iff, implies_true, and_true] at h
  obtain ⟨h1, h2⟩ := h
  simp only [refsOfRowA, s_beq, String.reduceBEq, Bool.false_eq_true, ↓reduceIte, beq_iff_eq, h1, h2]

theorem refsA_other {h : Str} (hh : ∀ kw ∈ ["match", "set", "set large-community large-community-list"], h ≠ s kw)
    (rest : List Str) : refsOfRowA (h :: rest) = [] := by
  simp only [List.forall_mem_cons, List.not_mem_nil, false_imp_iff, implies_true, and_true] at hh
  obtain ⟨h1, h2, h3⟩ := hh
  simp only [refsOfRowA, beq_iff_eq, h1, h2, h3, ↓reduceIte]

/-- the first items of the rows of an Arista route-map entry whose first item is not `match`/`set` -/
def plainHeadsA : List String := ["set community", "set extcommunity", "continue"]

theorem plainA {kw : String} (h : kw ∈ plainHeadsA) {Q : RefKindA × Str → Prop} (rest : List Str) :
    Row refsOfRowA Q (s kw :: rest) := by
  have key : ∀ kw ∈ plainHeadsA, kw ≠ "" ∧ kw ∉ ["match", "set", "set large-community large-community-list"] := by
    decide +kernel
  exact plain_of_nil (rowNE_of_head (s_ne_nil (key kw h).1) rest) (refsA_other (s_ne_of_not_mem (key kw h).2) rest)

theorem plainA_set {n : Str} (h : ∀ kw ∈ setKwA, n ≠ s kw) {Q : RefKindA × Str → Prop} (rest : List Str) :
    Row refsOfRowA Q (s "set" :: n :: rest) := plain2 (refsA_set_other n rest h)

theorem plainA_set_lit {tok : String} (h : tok ∉ setKwA) {Q : RefKindA × Str → Prop} (rest : List Str) :
    Row refsOfRowA Q (s "set" :: s tok :: rest) := plainA_set (s_ne_of_not_mem h) rest

theorem plainA_set_cmd {cmd : String} (h : ∀ kw ∈ setKwA, kw.startsWith cmd = false) {Q : RefKindA × Str → Prop} (v : Str)
    (rest : List Str) : Row refsOfRowA Q (s "set" :: (s cmd ++ v) :: rest) := plainA_set (s_append_ne_of_all h v) rest

theorem refsA_set_extcommunity (rest : List Str) : refsOfRowA (s "set extcommunity" :: rest) = [] :=
  refsA_other (s_ne_of_not_mem (by decide +kernel)) rest

theorem refsA_thenCmd {f : TField} {cmd : Str} (h : aristaThenCmd f = some cmd) (v : Str) :
    refsOfRowA [s "set", cmd ++ v] = [] := by
  cases f <;> simp only [aristaThenCmd, reduceCtorEq, Option.some.injEq] at h <;> subst h <;>
    exact refsA_set_other _ _ (s_append_ne_of_all (by decide +kernel) _)

abbrev GenA (Q : RefKindA × Str → Prop) (L : Prop) : Out (List Str) → Prop := Gen (Row refsOfRowA Q) L

theorem gen_asPathLenA (c : Cond) {Q : RefKindA × Str → Prop} : GenA Q False (asPathLenA c) := by
  have h1 := fun x => plain2 (Q := Q) (refsA_match_long (s "as-path length =") x [] (s_ne_of_not_mem (by decide +kernel)))
  have h2 := fun x => plain2 (Q := Q) (refsA_match_long (s "as-path length <=") x [] (s_ne_of_not_mem (by decide +kernel)))
  have h3 := fun x => plain2 (Q := Q) (refsA_match_long (s "as-path length >=") x [] (s_ne_of_not_mem (by decide +kernel)))
  unfold asPathLenA
  split
  · exact .emit_one (h1 _)
  · exact .emit_one (h2 _)
  · exact .emit_one (h3 _)
  · exact .emit (List.forall_mem_cons.mpr ⟨h3 _, List.forall_mem_singleton.mpr (h2 _)⟩)
  all_goals exact .fail

/-- the four community-like branches of `_arista_match` -/
theorem gen_matchCommA {kind : Str} {K : RefKindA} (hK : ∀ rest, refsOfRowA (s "match" :: kind :: rest) = rest.map (K, ·))
    (c : Cond) {Q : RefKindA × Str → Prop}
    (hq : ∀ l, c.val = .names l → ∀ x ∈ (if c.op == .hasAny then [mangle l] else l), Q (K, x)) :
    GenA Q False (matchCommA kind c) := by
  unfold matchCommA
  split
  next l hv =>
    split
    next hop =>
      exact .emit_one (row_single (hK _) (hq l hv _ (by rw [if_pos hop]; exact List.mem_singleton_self _)))
    next hop =>
      refine .ite (.emit_one ⟨rowNE_cons2 _ _ _, fun r hr => ?_⟩) .fail
      rw [List.cons_append, List.cons_append, List.nil_append, hK] at hr
      obtain ⟨x, hx, rfl⟩ := List.mem_map.mp hr
      exact hq l hv x (by rw [if_neg hop]; exact hx)
  · exact .fail

theorem gen_matchA (inp : Input) (c : Cond) : GenA (CondRefA inp c) (¬ condNamesKnown inp c = true) (matchA inp c) := by
  unfold matchA
  split
  next hf => exact (gen_matchCommA refsA_match_community c fun l hv x hx => .comm (by rw [hf]; rfl) rfl hv hx).weaken
  next hf => exact (gen_matchCommA refsA_match_large c fun l hv x hx => .comm (by rw [hf]; rfl) rfl hv hx).weaken
  next hf => exact (gen_matchCommA refsA_match_ext c fun l hv x hx => .comm (by rw [hf]; rfl) rfl hv hx).weaken
  next hf => exact (gen_matchCommA refsA_match_ext c fun l hv x hx => .comm (by rw [hf]; rfl) rfl hv hx).weaken
  next hf =>
    split
    next names a b hv =>
      exact .ofPart (part_pfxRows (refsA_match_pfx (.inl rfl)) _ a b names (fun nm hnm pl hpl => .pfx (.inl hf) hv hnm hpl)
        fun nm hnm e he => pfx_unknown (.inl hf) hv hnm he)
    · exact .fail
  next hf =>
    split
    next names a b hv =>
      exact .ofPart (part_pfxRows (refsA_match_pfx (.inr rfl)) _ a b names (fun nm hnm pl hpl => .pfx (.inr hf) hv hnm hpl)
        fun nm hnm e he => pfx_unknown (.inr hf) hv hnm he)
    · exact .fail
  · exact (gen_asPathLenA c).weaken
  · refine .ite .fail ?_
    split
    · exact .fail
    next cmd hcmd =>
      split
      next v hv =>
        refine .emit_one ⟨rowNE_cons2 _ _ _, fun r hr => ?_⟩
        rw [refsA_matchCmd hcmd] at hr
        split at hr
        next hf => exact List.mem_singleton.mp hr ▸ .asPath hf hv
        · cases hr
      · exact .fail

/-- `_arista_then_extcommunity_rt` / `_soo`; `delHead` is `set extcommunity` as one item or as two.  Both rows are built
from `removed`, so the second lookup cannot fail after the first -/
theorem gen_thenExtRtSooA (cl : List CommList) (pre : Str) (delHead : List Str) {Q : RefKindA × Str → Prop}
    (hdel : ∀ rest, Row refsOfRowA Q (delHead ++ rest)) (c : CommAct) : GenA Q False (thenExtRtSooA cl pre delHead c) := by
  unfold thenExtRtSooA
  refine .ite .fail ?_
  cases membersOf cl c.removed with
  | error e => exact .after (by split <;> rfl) (.ite .fail .emit_nil)
  | ok ms =>
    exact .ofPart (.seq (.ite (.emit_one (plainA_set_lit (by decide +kernel) _)) .emit_nil)
      (.ite (.emit_one ((List.append_assoc ..).symm ▸ hdel _)) .emit_nil))

theorem renderExtA_types (cl : List CommList) (ns : List Str) (h : typesIn cl [.rt, .soo] ns = true) :
    ∃ ms, renderExtA cl ns = .ok ms := by
  induction ns with
  | nil => exact ⟨[], rfl⟩
  | cons n ns ih =>
    obtain ⟨⟨c, hg, hc⟩, h2⟩ := typesIn_cons h
    obtain ⟨ms, hms⟩ := ih h2
    have hc : c.type = .rt ∨ c.type = .soo := by simpa using hc
    rcases hc with hc | hc <;> simp [renderExtA, hg, hc, extTypeStr, hms]

/-- add + remove yields the added row before it looks up the removed lists: it raises after that row only if the
removed lists are not all RT/SOO lists -/
theorem gen_thenExtA (cl : List CommList) (c : CommAct) {Q : RefKindA × Str → Prop} :
    GenA Q (¬ (c.replaced.isSome || c.added.isEmpty || c.removed.isEmpty || typesIn cl [.rt, .soo] c.removed) = true)
      (thenExtA cl c) := by
  unfold thenExtA
  split
  · refine .ite .fail (.ite (.emit_one (plainA_set_lit (by decide +kernel) _)) ?_)
    split
    · exact .fail
    · exact .emit_one (plainA (by decide +kernel) _)
  next hr =>
    have part : ∀ {L : Prop} (x : Except Err (List Str)) (f : List Str → List Str), (∀ ms, Row refsOfRowA Q (f ms)) →
        GenA Q L (match x with | .error e => fail e | .ok ms => emit [f ms]) := fun x f hf => by
      split
      · exact .fail
      · exact .emit_one (hf _)
    -- nothing added: the first part yields nothing, so the lookup of `removed` is still in first position (`Gen.after`);
    -- otherwise it comes behind the added row (`Part`)
    by_cases ha : c.added.isEmpty = true
    · rw [ha]
      exact .after rfl (.ite (part _ _ fun _ => plainA (by decide +kernel) _) .emit_nil)
    · refine .seq (.ite (part _ _ fun _ => plainA (by decide +kernel) _) .emit_nil) ?_
      split
      next hrm =>
        split
        next e he =>
          refine .fail (fun hs => ?_)
          simp only [hr, Option.isSome_none, Bool.false_or, Bool.or_eq_true, ha] at hs
          rcases hs with hs | hs
          · simp [hs] at hrm
          · obtain ⟨ms, hms⟩ := renderExtA_types cl _ hs
            rw [hms] at he; cases he
        · exact .emit_one (plainA (by decide +kernel) _)
      · exact .emit_nil

theorem gen_thenAsPathA (p : AsPathAct) {Q : RefKindA × Str → Prop} : GenA Q False (thenAsPathA p) := by
  have h1 := fun rest => plainA_set_lit (tok := "as-path match all replacement") (by decide +kernel) (Q := Q) rest
  have h2 := fun rest => plainA_set_lit (tok := "as-path prepend") (by decide +kernel) (Q := Q) rest
  unfold thenAsPathA
  refine .after_check (.after_check (.seq ?_ (.ite (.emit_map fun _ _ => h2 _) (.emit_one (h2 _)))))
  split
  · exact .ite .fail (.ite (.emit_one (h1 _)) (.emit_one (h1 _)))
  · exact .emit_nil

theorem gen_thenNextHopRowsA (n : NextHop) {Q : RefKindA × Str → Prop} : GenA Q False (thenNextHopRowsA n) := by
  unfold thenNextHopRowsA
  exact .ite (.emit_one (plainA_set_lit (by decide +kernel) _)) (.ite .emit_nil (.ite .emit_nil
    (.ite (.emit_one (plainA_set_cmd (by decide +kernel) _ _))
      (.ite (.emit_one (plainA_set_cmd (by decide +kernel) _ _))
        (.ite (.emit_one (plainA_set_cmd (by decide +kernel) _ _)) .fail)))))

/-- `set community community-list …` for the replaced and the added lists are the only references
`_arista_then_community` makes; it looks up the removed lists after these rows -/
theorem gen_thenCommunityA (cl : List CommList) (c : CommAct) {Q : RefKindA × Str → Prop}
    (hq : ∀ n ∈ CommAct.names c, Q (.communityList, n)) : GenA Q (Unknown cl c) (thenCommunityA cl c) := by
  unfold thenCommunityA
  refine .seq ?_ (.seq (.ite (.emit_one ⟨rowNE_cons2 _ _ _, fun r hr => ?_⟩) .emit_nil) (.ite ?_ .emit_nil))
  · split
    next rp hrp =>
      refine .ite .fail (.ite (.emit_one ⟨rowNE_cons2 _ _ _, fun r hr => ?_⟩)
        (.emit_one (plainA_set_lit (by decide +kernel) _)))
      rw [List.cons_append, List.cons_append, List.nil_append, refsA_set_comm] at hr
      obtain ⟨n, hn, rfl⟩ := List.mem_map.mp hr
      exact hq n (mem_names_replaced hrp (stripTrail_sub _ _ n hn))
    · exact .emit_nil
  · rw [List.append_assoc, List.cons_append, List.cons_append, List.nil_append, refsA_set_comm, stripTrail_concat] at hr
    obtain ⟨n, hn, rfl⟩ := List.mem_map.mp hr
    exact hq n (mem_names_added hn)
  · split
    next he => exact .fail (unknown_removed he)
    · exact .emit_one (plainA (by decide +kernel) _)

theorem refs_largeReplacedRowsA (ns : List Str) {Q : RefKindA × Str → Prop} (hq : ∀ n ∈ ns, Q (.largeCommunityList, n))
    (b : Bool) : ∀ row ∈ largeReplacedRowsA ns b, Row refsOfRowA Q row := by
  induction ns generalizing b with
  | nil => intro row hrow; cases hrow
  | cons n ns ih =>
    refine List.forall_mem_cons.mpr ⟨?_, ih (fun m hm => hq m (List.mem_cons_of_mem _ hm)) _⟩
    split
    · refine ⟨rowNE_cons2 _ _ _, fun r hr => ?_⟩
      rw [refsA_set_large] at hr
      obtain ⟨x, hx, rfl⟩ := List.mem_map.mp hr
      exact List.mem_singleton.mp (stripTrail_sub _ _ x hx) ▸ hq n List.mem_cons_self
    · refine ⟨rowNE_cons2 _ _ _, fun r hr => ?_⟩
      rw [refsA_set_large, show [n, s "additive"] = [n] ++ [s "additive"] from rfl, stripTrail_concat,
        List.map_singleton, List.mem_singleton] at hr
      exact hr ▸ hq n List.mem_cons_self

/-- `_arista_then_large_community` refers to the replaced, the added and the removed lists, and looks nothing up -/
theorem gen_thenLargeA (c : CommAct) {Q : RefKindA × Str → Prop}
    (hq : ∀ n ∈ CommAct.names c, Q (.largeCommunityList, n)) : GenA Q False (thenLargeA c) := by
  unfold thenLargeA
  refine .seq ?_ (.seq (.ite (.emit_one ⟨rowNE_cons2 _ _ _, fun r hr => ?_⟩) .emit_nil)
    (.ite (.emit_one ⟨rowNE_cons_snoc _ _ _, fun r hr => ?_⟩) .emit_nil))
  · split
    next rp hrp =>
      refine .ite .fail (.emit fun row hrow => ?_)
      rcases List.mem_append.mp hrow with hrow | hrow
      · split at hrow
        · exact List.mem_singleton.mp hrow ▸ plainA_set_lit (by decide +kernel) _
        · cases hrow
      · exact refs_largeReplacedRowsA rp
          (fun n hn => hq n (mem_names_replaced hrp hn)) true row hrow
    · exact .emit_nil
  · rw [List.append_assoc, List.cons_append, List.cons_append, List.nil_append, refsA_set_large, stripTrail_concat] at hr
    obtain ⟨n, hn, rfl⟩ := List.mem_map.mp hr
    exact hq n (mem_names_added hn)
  · rw [List.append_assoc, List.cons_append, List.nil_append, refsA_setlarge_del, stripTrail_concat] at hr
    obtain ⟨n, hn, rfl⟩ := List.mem_map.mp hr
    exact hq n (mem_names_removed hn)

theorem gen_thenA (cl : List CommList) (a : Action) :
    GenA (ActRef kindA a) (¬ (actNamesKnown cl a = true ∧ safeActA cl a = true)) (thenA cl a) := by
  unfold thenA
  split
  next hf =>
    split
    next c hv =>
      exact (gen_thenCommunityA cl c fun n hn => .intro (by rw [hf]; rfl) rfl hv hn).imp
        fun hu h => hu (actNamesKnown_comm hv h.1)
    · exact .fail
  next hf =>
    split
    next c hv => exact (gen_thenLargeA c fun n hn => .intro (by rw [hf]; rfl) rfl hv hn).weaken
    · exact .fail
  next hf =>
    split
    next c hv =>
      refine (gen_thenExtA cl c).imp fun hl h => hl ?_
      have hs := h.2
      unfold safeActA at hs
      rw [hf, hv] at hs
      exact hs
    · exact .fail
  · split
    · exact (gen_thenExtRtSooA cl _ [s "set extcommunity"] (plainA (by decide +kernel)) _).weaken
    · exact .fail
  · split
    · exact (gen_thenExtRtSooA cl _ [s "set", s "extcommunity"] (plainA_set_lit (by decide +kernel)) _).weaken
    · exact .fail
  · split
    · exact .fail
    · exact .ite (.emit_one (plainA_set_cmd (by decide +kernel) _ _))
        (.ite (.emit_one (plainA_set_cmd (by decide +kernel) _ _))
          (.ite (.emit_one (plainA_set_cmd (by decide +kernel) _ _)) .fail))
  · split
    · exact (gen_thenAsPathA _).weaken
    · exact .fail
  · split
    · exact (gen_thenNextHopRowsA _).weaken
    · exact .fail
  · refine .ite .fail ?_
    split
    · exact .fail
    next cmd hcmd =>
      split
      · exact .emit_one (plain2 (refsA_thenCmd hcmd _))
      · exact .fail

theorem refs_bodyA (inp : Input) (st : Stmt) :
    RefsIn refsOfRowA (fun r => (∃ c ∈ st.conds, CondRefA inp c r) ∨ (∃ a ∈ st.acts, ActRef kindA a r))
      ((seqAll (st.conds.map (matchA inp))).seq ((seqAll (st.acts.map (thenA inp.clists))).seq
        (if st.result == .next then emit [[s "continue"]] else emit []))) :=
  refsIn_stmtBody (fun c => (gen_matchA inp c).rows) (fun a => (gen_thenA _ a).rows)
    (fun _ => .ite (.emit_one (plainA (by decide +kernel) _)) .emit_nil) st

theorem origin_refsA (inp : Input) (r : RefKindA × Str) (h : r ∈ refsA (runPolicyA inp).1) :
    Origin inp (CondRefA inp) (ActRef kindA) r := by
  refine origin_of_blocks (fun p st => ?_) r h
  unfold statementA
  split
  · exact .fail
  · split
    · exact .fail
    · exact refsIn_inBlock (refs_bodyA inp st)

theorem commListRowA_def (name : Str) (rx : Bool) (t : CType) (m : Str) (l : Line) (h : commListRowA name rx t m = .ok l)
    (K : RefKindA) (hk : kindA t = some K) : (K, name) ∈ defsOfRowA l.toks := by
  unfold commListRowA at h
  cases t <;> cases h <;> cases hk <;>
    simp only [defsOfRowA, namedA, s_beq, String.reduceBEq, Bool.false_eq_true, ↓reduceIte, List.tail_cons,
      List.head?_cons, List.mem_singleton]

theorem commListA_defs (name : Str) (c : CommList) (hok : (commListA name c).2 = none) (hne : c.members ≠ [])
    (K : RefKindA) (hk : kindA c.type = some K) : (K, name) ∈ defsA (commListA name c).1 := by
  -- one row of the list: the only one (AND), or that of the first member (OR)
  suffices h : ∃ m l, commListRowA name c.useRegex c.type m = .ok l ∧ l ∈ (commListA name c).1 from
    let ⟨m, l, hl, hmem⟩ := h
    List.mem_flatMap.mpr ⟨l, hmem, commListRowA_def name _ _ m l hl K hk⟩
  unfold commListA at hok ⊢
  split at hok
  · cases hok
  next hrx =>
    rw [if_neg hrx]
    cases hp : commPrefixA c with
    | error e => simp [hp] at hok
    | ok pre =>
      simp only [hp] at hok ⊢
      cases hl : c.logic <;> simp only [hl] at hok ⊢
      · obtain ⟨l, hl1, hl2⟩ := ofExcept_single_ok _ hok
        exact ⟨_, l, hl1, hl2⟩
      · obtain ⟨m0, ms, hm⟩ := List.exists_cons_of_ne_nil hne
        obtain ⟨h0, hsub⟩ := seqAll_map_ok hok (x := m0) (hm ▸ List.mem_cons_self)
        obtain ⟨l, hl1, hl2⟩ := ofExcept_single_ok _ h0
        exact ⟨_, l, hl1, hsub l hl2⟩

theorem community_defined_A (inp : Input) (hok : (runCommunityA inp).2 = none)
    (hne : ∀ c ∈ inp.clists, c.members ≠ []) (hinj : MangleInj inp) (ns : List Str) (hns : ns ∈ keyLists inp)
    (hnn : ns ≠ []) (t : CType) (K : RefKindA) (hk : kindA t = some K) (hty : typesIn inp.clists [t] ns = true) :
    (K, mangle ns) ∈ defsA (runCommunityA inp).1 := by
  unfold runCommunityA at hok ⊢
  split at hok
  · cases hok
  next ud hud =>
    obtain ⟨e, he, hnames, u0, us, hus, hu0, hct⟩ := usedUnited_head hud hinj hns hnn hty
    subst hnames
    obtain ⟨heok, hsub⟩ := seqAll_map_ok hok he
    obtain ⟨hc0ok, hsub0⟩ := seqAll_map_ok heok (x := u0) (hus ▸ List.mem_cons_self)
    exact mem_flatMap_mono (commListA_defs _ u0 hc0ok (hne u0 hu0) K (hct ▸ hk)) fun l hl => hsub l (hsub0 l hl)

theorem prefixRowsA_defines (ptype : Str) (hp : ptype = s "ip" ∨ ptype = s "ipv6") (pl : PrefixList) :
    (RefKindA.prefixList, pl.name) ∈ defsA (prefixRowsA ptype pl) := by
  unfold defsA prefixRowsA
  simp only [List.flatMap_cons, List.mem_append]
  left
  rcases hp with rfl | rfl <;>
    simp only [defsOfRowA, namedA, s_beq, String.reduceBEq, Bool.false_eq_true, ↓reduceIte, Bool.or_true, Bool.or_false,
      List.head?_cons, List.mem_singleton]

theorem aspath_defined_A (inp : Input) (hok : (runAsPathA inp).2 = none) (p : Policy) (hp : p ∈ inp.policies)
    (st : Stmt) (hst : st ∈ p.stmts) (c : Cond) (hc : c ∈ st.conds) (hf : c.field = .asPathFilter) (v : Str)
    (hv : c.val = .scalar v) : (RefKindA.asPathList, v) ∈ defsA (runAsPathA inp).1 := by
  unfold runAsPathA at hok ⊢
  split at hok
  · cases hok
  next fs hfs =>
    obtain ⟨f, hfm, rfl⟩ := usedAsPath_mem hfs hp hst hc hf hv
    refine List.mem_flatMap.mpr ⟨_, List.mem_map.mpr ⟨f, hfm, rfl⟩, ?_⟩
    simp only [defsOfRowA, namedA, s_beq, String.reduceBEq, Bool.false_eq_true, ↓reduceIte, List.head?_cons,
      List.mem_singleton]

end Annet.Rpl.Lemmas
