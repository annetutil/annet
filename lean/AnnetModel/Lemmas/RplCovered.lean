/-
C14: every row of every generator's stream is covered by that generator's own ACL; a policy statement is a block whose
body rows have a text (`refs_bodyH`, `refs_bodyA`).
-/
import AnnetModel.Lemmas.RplAcl
import AnnetModel.Spec.RplCover
import AnnetModel.Lemmas.RplRefsH
import AnnetModel.Lemmas.RplRefsA

namespace Annet.Rpl.Lemmas
open Annet.Pattern

theorem policyH_covered (inp : Input) (hnames : ∀ p ∈ inp.policies, cleanWord p.name) :
    AllRows (Covered .huawei .policy) (runPolicyH inp) := by
  unfold runPolicyH
  refine .seqAll fun o ho => ?_
  obtain ⟨p, hp, st, _, rfl⟩ : ∃ p ∈ inp.policies, ∃ st ∈ p.stmts, statementH inp p st = o := by
    simpa only [List.mem_flatMap, List.mem_map] using ho
  unfold statementH
  split
  · exact .fail
  · split
    · exact .fail
    · exact (block_lines_walk vH (row := "route-policy *") (hj := rfl) (hw := (aclVendor_plain .huawei).2)
        (hok := by decide +kernel) (hm := headerH_match p.name _ _ (hnames p hp)) (hneg := rfl)
        (hne := (refs_bodyH inp st).rowsNE)).mono
        fun _ => covered_of_walks (v := .huawei) (k := .policy) rfl rfl

theorem covered_huawei (inp : Input) (hnames : ∀ p ∈ inp.policies, cleanWord p.name) (k : GenKind) (l : Line)
    (h : l ∈ (runGen inp .huawei k).1) : Covered .huawei k l := by
  cases k with
  | policy => exact policyH_covered inp hnames l h
  | «prefix» => exact covered_of_flat rfl compile_prefixH (by decide +kernel) (runPrefixH_flat inp l h)
  | community => exact covered_of_flat rfl compile_communityH (by decide +kernel) (runCommunityH_flat inp l h)
  | aspath => exact covered_of_flat rfl (compile_flat1 _) (by decide +kernel) (runAsPathH_flat inp l h)
  | rd => exact covered_of_flat rfl (compile_flat1 _) (by decide +kernel) (runRdH_flat inp l h)

theorem policyA_covered (inp : Input) : AllRows (Covered .arista .policy) (runPolicyA inp) := by
  unfold runPolicyA
  refine .seqAll fun o ho => ?_
  obtain ⟨p, _, st, _, rfl⟩ : ∃ p ∈ inp.policies, ∃ st ∈ p.stmts, statementA inp p st = o := by
    simpa only [List.mem_flatMap, List.mem_map] using ho
  unfold statementA
  split
  · exact .fail
  · split
    · exact .fail
    · obtain ⟨pt, hd, hm⟩ := headOk_match "route-map" (by decide +kernel) _ (startsWith_of_toks _ _ rfl _ _)
      exact (block_lines_walk vA (row := "route-map") (hj := rfl) (hw := (aclVendor_plain .arista).2)
        (hok := by rw [blockOk, show Acl.directPat (blockRule "route-map") = some pt from hd, beq_self_eq_true]; decide +kernel) (hm := hm) (hneg := rfl)
        (hne := (refs_bodyA inp st).rowsNE)).mono
        fun _ => covered_of_walks (v := .arista) (k := .policy) rfl rfl

/-- any top-level row that begins with a row of the community ACL (`C14_arista_large_covered` rests on it too) -/
theorem communityA_covered {l : Line} (h : FlatCovered rulesCommunityA l) : Covered .arista .community l :=
  covered_of_flat rfl compile_communityA (by decide +kernel) h

theorem covered_arista (inp : Input) (k : GenKind) (l : Line)
    (h : l ∈ (runGen inp .arista k).1) : Covered .arista k l := by
  cases k with
  | policy => exact policyA_covered inp l h
  | «prefix» => exact covered_of_walks rfl compile_prefixA (runPrefixA_walks inp l h)
  | community => exact communityA_covered (runCommunityA_flat inp l h)
  | aspath => exact covered_of_flat rfl (compile_flat1 _) (by decide +kernel) (runAsPathA_flat inp l h)
  | rd => cases h

end Annet.Rpl.Lemmas
