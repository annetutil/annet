/-
The logic functions of the patching rulebook on one bucket of `make_pre`: what they yield.  Exactly, for `common.default`
and `common.undo_redo` on the buckets of a well-formed level (`logic_table`, C01); and what any of the six common logics
can yield at all (`YieldOK`, `runLogic_ok`: the row of a changed entry, or the removal command while the REMOVED or MOVED
bucket is not empty; C02 (a) and (c)).
-/
import AnnetModel.Model.Patch

namespace Annet.Converge.Lemmas
open Annet Annet.Rules Annet.Patch

/-- the `default` and `undo_redo` logics on the five buckets a slot of a well-formed level can have -/
theorem logic_table (v : Vendor) (attrs : PAttrs)
    (hl : attrs.logic = "common.default" ∨ attrs.logic = "common.undo_redo") (k : List String) :
    (∀ U, Patch.runLogic v attrs (.mk k [] [] [] [] U) = .ok []) ∧
    (∀ e, Patch.runLogic v attrs (.mk k [] [e] [] [] []) =
      match reverseCmd v attrs k with
      | some c => .ok [⟨false, c, none⟩]
      | none => .error .grammar) ∧
    (∀ e, Patch.runLogic v attrs (.mk k [e] [] [] [] []) = .ok [⟨true, e.row, some e.children⟩]) ∧
    (∀ e, Patch.runLogic v attrs (.mk k [] [] [] [e] []) = .ok [⟨true, e.row, some e.children⟩]) ∧
    (∀ e e', Patch.runLogic v attrs (.mk k [e] [e'] [] [] []) =
      if attrs.logic = "common.default" then .ok [⟨true, e.row, some e.children⟩]
      else match reverseCmd v attrs k with
        | some c => .ok [⟨false, c, none⟩, ⟨true, e.row, some e.children⟩]
        | none => .error .grammar) := by
  rcases hl with hl | hl <;> simp [Patch.runLogic, hl, logicDefault, logicUndoRedo] <;>
    cases reverseCmd v attrs k <;> simp

end Annet.Converge.Lemmas

namespace Annet.Patch.Prov
open Annet.Rules Annet.Diff Annet.Patch

/-- the entries of the ADDED, REMOVED, MOVED and AFFECTED buckets -/
def changed : PreItem → List PreEntry
  | .mk _ a r m f _ => a ++ r ++ m ++ f

/-- the entries of the REMOVED and MOVED buckets -/
def remOrMoved : PreItem → List PreEntry
  | .mk _ _ r m _ _ => r ++ m

/-- a yield is the row of a changed entry with its sub-pre (direct), or the reverse command of the (rule, key) while the
REMOVED or MOVED bucket is not empty -/
def YieldOK (v : Vendor) (attrs : PAttrs) (it : PreItem) (y : Yield) : Prop :=
  (y.direct = true ∧ ∃ x ∈ changed it, y.row = x.row ∧ y.sub = some x.children) ∨
  (y.direct = false ∧ y.sub = none ∧ reverseCmd v attrs it.key = some y.row ∧ ∃ x, x ∈ remOrMoved it)

def YieldsOK (v : Vendor) (attrs : PAttrs) (it : PreItem) (r : Except Err (List Yield)) : Prop :=
  ∀ ys, r = .ok ys → ∀ y ∈ ys, YieldOK v attrs it y

section
variable {v : Vendor} {attrs : PAttrs} {it : PreItem}

theorem yieldsOK_error (e : Err) : YieldsOK v attrs it (.error e) := fun _ h => nomatch h

theorem yieldsOK_append {x y : List Yield} (hx : ∀ z ∈ x, YieldOK v attrs it z) (hy : ∀ z ∈ y, YieldOK v attrs it z) :
    YieldsOK v attrs it (.ok (x ++ y)) := by
  intro ys h z hz
  cases h
  exact (List.mem_append.1 hz).elim (hx z) (hy z)

theorem yieldsOK_nil : YieldsOK v attrs it (.ok []) := yieldsOK_append (x := []) nofun nofun

theorem yieldsOK_single {y : Yield} (h : YieldOK v attrs it y) : YieldsOK v attrs it (.ok [y]) :=
  yieldsOK_append (x := [y]) (List.forall_mem_singleton.2 h) nofun

theorem yieldsOK_ite {c : Prop} [Decidable c] {a b : Except Err (List Yield)} (ha : YieldsOK v attrs it a)
    (hb : YieldsOK v attrs it b) : YieldsOK v attrs it (if c then a else b) := by
  split <;> assumption

theorem YieldsOK.mono {it' : PreItem} {r : Except Err (List Yield)} (h : YieldsOK v attrs it' r)
    (hk : it'.key = it.key) (hc : ∀ x ∈ changed it', x ∈ changed it) (hr : ∀ x ∈ remOrMoved it', x ∈ remOrMoved it) :
    YieldsOK v attrs it r := by
  intro ys hys y hy
  rcases h ys hys y hy with ⟨hd, x, hx, h1, h2⟩ | ⟨hd, hs, hrev, x, hx⟩
  · exact .inl ⟨hd, x, hc x hx, h1, h2⟩
  · exact .inr ⟨hd, hs, hk ▸ hrev, x, hr x hx⟩

end

theorem logicDefault_ok (v : Vendor) (attrs : PAttrs) (it : PreItem) : YieldsOK v attrs it (logicDefault v attrs it) := by
  obtain ⟨k, a, r, m, f, u⟩ := it
  unfold logicDefault
  simp only
  split
  · exact yieldsOK_error _
  · split
    · exact yieldsOK_single (.inl ⟨rfl, _, by simp [changed], rfl, rfl⟩)
    · exact yieldsOK_single (.inl ⟨rfl, _, by simp [changed], rfl, rfl⟩)
    · exact yieldsOK_single (.inl ⟨rfl, _, by simp [changed], rfl, rfl⟩)
    · split
      · next c hc => exact yieldsOK_single (.inr ⟨rfl, rfl, hc, _, List.mem_append_left _ List.mem_cons_self⟩)
      · exact yieldsOK_error _
    · exact yieldsOK_nil

theorem logicOrdered_ok (v : Vendor) (attrs : PAttrs) (it : PreItem) : YieldsOK v attrs it (logicOrdered v attrs it) := by
  obtain ⟨k, a, r, m, f, u⟩ := it
  unfold logicOrdered
  simp only
  split
  · exact yieldsOK_error _
  · exact yieldsOK_error _
  · next x y hx hy =>
    refine yieldsOK_append ?_ (logicDefault_ok v attrs _ y hy)
    -- `x`: nothing, or the removal command if the MOVED bucket is not empty
    split at hx
    · cases hx
      exact fun _ h => nomatch h
    · next hne =>
      split at hx
      · next c hc =>
        cases hx
        cases m with
        | nil => simp at hne
        | cons e _ => exact List.forall_mem_singleton.2 (.inr ⟨rfl, rfl, hc, e, by simp [remOrMoved]⟩)
      · cases hx

theorem logicRewrite_ok (v : Vendor) (attrs : PAttrs) (it : PreItem) : YieldsOK v attrs it (logicRewrite v attrs it) := by
  obtain ⟨k, a, r, m, f, u⟩ := it
  exact yieldsOK_ite (logicDefault_ok v attrs _) yieldsOK_nil

theorem logicPermanent_ok (v : Vendor) (attrs : PAttrs) (it : PreItem) :
    YieldsOK v attrs it (logicPermanent v attrs it) := by
  obtain ⟨k, a, r, m, f, u⟩ := it
  unfold logicPermanent
  simp only
  split
  · exact logicDefault_ok v attrs _
  · split
    · exact yieldsOK_nil
    · exact (logicDefault_ok v attrs _).mono rfl (by grind [changed]) (by grind [remOrMoved])

theorem logicIgnoreChanges_ok (v : Vendor) (attrs : PAttrs) (it : PreItem) :
    YieldsOK v attrs it (logicIgnoreChanges v attrs it) := by
  obtain ⟨k, a, r, m, f, u⟩ := it
  exact yieldsOK_ite yieldsOK_nil (logicDefault_ok v attrs _)

theorem logicUndoRedo_ok (v : Vendor) (attrs : PAttrs) (it : PreItem) :
    YieldsOK v attrs it (logicUndoRedo v attrs it) := by
  obtain ⟨k, a, r, m, f, u⟩ := it
  unfold logicUndoRedo
  simp only
  split
  · exact logicDefault_ok v attrs _
  · split
    · exact yieldsOK_error _
    · exact yieldsOK_error _
    · next x y hx hy =>
      have h1 : YieldsOK v attrs (.mk k a r m f u) (logicDefault v attrs (.mk k [] r [] [] [])) :=
        (logicDefault_ok v attrs _).mono rfl (by grind [changed]) (by grind [remOrMoved])
      have h2 : YieldsOK v attrs (.mk k a r m f u) (logicDefault v attrs (.mk k a [] [] [] [])) :=
        (logicDefault_ok v attrs _).mono rfl (by grind [changed]) (by grind [remOrMoved])
      exact yieldsOK_append (h1 x hx) (h2 y hy)

theorem runLogic_ok (v : Vendor) (attrs : PAttrs) (it : PreItem) : YieldsOK v attrs it (runLogic v attrs it) :=
  yieldsOK_ite (logicDefault_ok v attrs it) <| yieldsOK_ite (logicOrdered_ok v attrs it) <|
    yieldsOK_ite (logicRewrite_ok v attrs it) <| yieldsOK_ite (logicPermanent_ok v attrs it) <|
    yieldsOK_ite (logicIgnoreChanges_ok v attrs it) <| yieldsOK_ite (logicUndoRedo_ok v attrs it) (yieldsOK_error _)

end Annet.Patch.Prov
