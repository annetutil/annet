import AnnetModel.Model.Acl
import AnnetModel.Model.AclDiff
import AnnetModel.Model.Api
import AnnetModel.Model.Collapse
import AnnetModel.Model.Deploy
import AnnetModel.Model.Diff
import AnnetModel.Model.DiffText
import AnnetModel.Model.Effects
import AnnetModel.Model.Files
import AnnetModel.Model.Format
import AnnetModel.Model.FormatSplit
import AnnetModel.Model.Gen
import AnnetModel.Model.Hw
import AnnetModel.Model.Implicit
import AnnetModel.Model.Json
import AnnetModel.Model.Mesh
import AnnetModel.Model.MeshExec
import AnnetModel.Model.Multiline
import AnnetModel.Model.Offside
import AnnetModel.Model.Patch
import AnnetModel.Model.Pattern
import AnnetModel.Model.Pool
import AnnetModel.Model.Rpl
import AnnetModel.Model.RplCumulus
import AnnetModel.Model.RplRun
import AnnetModel.Model.Rules
import AnnetModel.Model.Tree
import AnnetModel.Model.Vlan
import AnnetModel.Spec.Acl
import AnnetModel.Spec.AclCovered
import AnnetModel.Spec.Converge
import AnnetModel.Spec.ConvergeNested
import AnnetModel.Spec.DeployChain
import AnnetModel.Spec.DeployWords
import AnnetModel.Spec.Device
import AnnetModel.Spec.DeviceAbs
import AnnetModel.Spec.DeviceDenotes
import AnnetModel.Spec.Diff
import AnnetModel.Spec.DiffText
import AnnetModel.Spec.DiffTextFormats
import AnnetModel.Spec.DiffTextStrict
import AnnetModel.Spec.DiffWhole
import AnnetModel.Spec.EffectsSeq
import AnnetModel.Spec.Files
import AnnetModel.Spec.Forall2
import AnnetModel.Spec.Format
import AnnetModel.Spec.FormatSplit
import AnnetModel.Spec.Gen
import AnnetModel.Spec.Hw
import AnnetModel.Spec.HwChecks
import AnnetModel.Spec.Implicit
import AnnetModel.Spec.ImplicitRuleTree
import AnnetModel.Spec.Json
import AnnetModel.Spec.Mesh
import AnnetModel.Spec.MeshExec
import AnnetModel.Spec.MultilineSub
import AnnetModel.Spec.Offside
import AnnetModel.Spec.Order
import AnnetModel.Spec.Outside
import AnnetModel.Spec.Pattern
import AnnetModel.Spec.Pool
import AnnetModel.Spec.PoolObservables
import AnnetModel.Spec.ProcessState
import AnnetModel.Spec.Provenance
import AnnetModel.Spec.Rpl
import AnnetModel.Spec.RplCover
import AnnetModel.Spec.RplCumulus
import AnnetModel.Spec.RplKeys
import AnnetModel.Spec.Sort
import AnnetModel.Spec.TestLogics
import AnnetModel.Spec.VlanCovers
import AnnetModel.Spec.VlanDev
import AnnetModel.Gen.ApplyTab
import AnnetModel.Gen.DevDb
import AnnetModel.Gen.Effects
import AnnetModel.Gen.IfaceLists
import AnnetModel.Lemmas.Acl
import AnnetModel.Lemmas.AclDiff
import AnnetModel.Lemmas.AclMatch
import AnnetModel.Lemmas.AclMerge
import AnnetModel.Lemmas.AclMergeCompile
import AnnetModel.Lemmas.AclMergeDefs
import AnnetModel.Lemmas.AclMergeDict
import AnnetModel.Lemmas.AclMergeMatch
import AnnetModel.Lemmas.AclMergeRev
import AnnetModel.Lemmas.Annotate
import AnnetModel.Lemmas.Assoc
import AnnetModel.Lemmas.Basic
import AnnetModel.Lemmas.CfgTree
import AnnetModel.Lemmas.Collapse
import AnnetModel.Lemmas.ConvergeExample
import AnnetModel.Lemmas.ConvergeFlat
import AnnetModel.Lemmas.ConvergeNested
import AnnetModel.Lemmas.ConvergeNestedBase
import AnnetModel.Lemmas.ConvergeNestedDiff
import AnnetModel.Lemmas.ConvergeNestedExample
import AnnetModel.Lemmas.ConvergeNestedPaths
import AnnetModel.Lemmas.ConvergeNestedRulebook
import AnnetModel.Lemmas.ConvergeNestedSecond
import AnnetModel.Lemmas.ConvergeSimple
import AnnetModel.Lemmas.Deploy
import AnnetModel.Lemmas.Device
import AnnetModel.Lemmas.DeviceNested
import AnnetModel.Lemmas.Diff
import AnnetModel.Lemmas.DiffText
import AnnetModel.Lemmas.DiffTextPre
import AnnetModel.Lemmas.DiffWhole
import AnnetModel.Lemmas.Effects
import AnnetModel.Lemmas.ExampleVendor
import AnnetModel.Lemmas.Files
import AnnetModel.Lemmas.Format
import AnnetModel.Lemmas.FormatSplit
import AnnetModel.Lemmas.FormatSplitJuniper
import AnnetModel.Lemmas.FormatSplitOffside
import AnnetModel.Lemmas.FormatSplitRos
import AnnetModel.Lemmas.FormatSplitText
import AnnetModel.Lemmas.GenAcl
import AnnetModel.Lemmas.GenFull
import AnnetModel.Lemmas.GenLayout
import AnnetModel.Lemmas.GenRun
import AnnetModel.Lemmas.GenSpec
import AnnetModel.Lemmas.GenText
import AnnetModel.Lemmas.GetOrder
import AnnetModel.Lemmas.GroupRuns
import AnnetModel.Lemmas.HwMako
import AnnetModel.Lemmas.HwProvider
import AnnetModel.Lemmas.HwRegistry
import AnnetModel.Lemmas.HwSeq
import AnnetModel.Lemmas.HwTables
import AnnetModel.Lemmas.HwTree
import AnnetModel.Lemmas.HwView
import AnnetModel.Lemmas.Implicit
import AnnetModel.Lemmas.JsonFilter
import AnnetModel.Lemmas.JsonFragment
import AnnetModel.Lemmas.JsonPointer
import AnnetModel.Lemmas.JsonTree
import AnnetModel.Lemmas.Mesh
import AnnetModel.Lemmas.MeshDict
import AnnetModel.Lemmas.MeshExec
import AnnetModel.Lemmas.MeshExecExample
import AnnetModel.Lemmas.MeshFold
import AnnetModel.Lemmas.MeshLaws
import AnnetModel.Lemmas.MeshLoop
import AnnetModel.Lemmas.MeshPeer
import AnnetModel.Lemmas.MeshRel
import AnnetModel.Lemmas.Multiline
import AnnetModel.Lemmas.Offside
import AnnetModel.Lemmas.OffsideRule
import AnnetModel.Lemmas.Order
import AnnetModel.Lemmas.OrderConfig
import AnnetModel.Lemmas.OrderNoPin
import AnnetModel.Lemmas.OutsideFlat
import AnnetModel.Lemmas.OutsideFlatBase
import AnnetModel.Lemmas.OutsideFlatExample
import AnnetModel.Lemmas.OutsideNested
import AnnetModel.Lemmas.OutsideNestedBase
import AnnetModel.Lemmas.OutsideNestedExample
import AnnetModel.Lemmas.PatchLogic
import AnnetModel.Lemmas.Pattern
import AnnetModel.Lemmas.PoolInv
import AnnetModel.Lemmas.PoolLive
import AnnetModel.Lemmas.PoolSafe
import AnnetModel.Lemmas.PoolSeq
import AnnetModel.Lemmas.PoolStep
import AnnetModel.Lemmas.Pre
import AnnetModel.Lemmas.Provenance
import AnnetModel.Lemmas.ProvenanceBase
import AnnetModel.Lemmas.ProvenanceExample
import AnnetModel.Lemmas.Rpl
import AnnetModel.Lemmas.RplAcl
import AnnetModel.Lemmas.RplCovered
import AnnetModel.Lemmas.RplNesting
import AnnetModel.Lemmas.RplOut
import AnnetModel.Lemmas.RplRefsA
import AnnetModel.Lemmas.RplRefsC
import AnnetModel.Lemmas.RplRefsH
import AnnetModel.Lemmas.RplRow
import AnnetModel.Lemmas.RplUnited
import AnnetModel.Lemmas.Rules
import AnnetModel.Lemmas.Sort
import AnnetModel.Lemmas.SortTree
import AnnetModel.Lemmas.Text
import AnnetModel.Lemmas.Vlan
import AnnetModel.Lemmas.VlanDevice
import AnnetModel.Lemmas.VlanDiff
import AnnetModel.Lemmas.VlanRanges
import AnnetModel.Props.C01
import AnnetModel.Props.C02
import AnnetModel.Props.C03
import AnnetModel.Props.C04
import AnnetModel.Props.C05
import AnnetModel.Props.C06
import AnnetModel.Props.C07
import AnnetModel.Props.C08
import AnnetModel.Props.C09
import AnnetModel.Props.C10
import AnnetModel.Props.C11
import AnnetModel.Props.C12
import AnnetModel.Props.C13
import AnnetModel.Props.C14
import AnnetModel.Props.C15
import AnnetModel.Props.C16
import AnnetModel.Props.C17
import AnnetModel.Props.C18
import AnnetModel.Props.C19
import AnnetModel.Props.C20
import AnnetModel.Glue.All
import AnnetModel.Glue.C01
import AnnetModel.Glue.C02
import AnnetModel.Glue.C04
import AnnetModel.Glue.C05
import AnnetModel.Glue.C06
import AnnetModel.Glue.C07
import AnnetModel.Glue.C09
import AnnetModel.Glue.C10
import AnnetModel.Glue.C11
import AnnetModel.Glue.C12
import AnnetModel.Glue.C13
import AnnetModel.Glue.C14
import AnnetModel.Glue.C15
import AnnetModel.Glue.C17
import AnnetModel.Glue.C18
import AnnetModel.Glue.C19
import AnnetModel.Glue.C20
import AnnetModel.Glue.Collapse
import AnnetModel.Glue.Common
import AnnetModel.Glue.Multiline
import AnnetModel.Glue.Rb
